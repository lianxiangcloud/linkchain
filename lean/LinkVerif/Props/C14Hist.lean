import LinkVerif.Props.C14Search

/-!
# C14 — histories of writes / syncs / rotations on the current tree (RotateFile flushes before renaming)
-/
namespace Props.C14
open Model.Wal

/-- `bufio.Writer.Write` touches no rotated file and never loses or reorders bytes -/
theorem write_spec (B : Nat) (g : Group) (x : Bytes) :
    (g.write B x).files = g.files ∧
    (g.write B x).head.getD [] ++ (g.write B x).buf = g.head.getD [] ++ g.buf ++ x := by
  unfold Group.write Group.appendHead
  by_cases h1 : x.length ≤ B - g.buf.length
  · rw [if_pos h1]; exact ⟨rfl, (List.append_assoc ..).symm⟩
  rw [if_neg h1]
  by_cases h2 : g.buf.isEmpty = true
  · rw [if_pos h2, List.isEmpty_iff.mp h2]; exact ⟨rfl, by rw [List.append_nil, List.append_nil]; rfl⟩
  rw [if_neg h2]
  -- the buffer is filled up and flushed; what is left of `x` is buffered, or written through when it is too long
  dsimp only
  split <;> exact ⟨rfl, by simp only [Option.getD_some, List.append_assoc, List.take_append_drop, List.append_nil]⟩

/-- the records written so far, grouped by file: rotated files are whole records, head file + buffer are whole records -/
def HistInv (c : Codec) (g : Group) (ps : List Bytes) : Prop :=
  ∃ (pss : List (List Bytes)) (psh : List Bytes),
    ps = pss.flatten ++ psh ∧ g.files = pss.map (frames c) ∧ g.head.getD [] ++ g.buf = frames c psh

theorem histInv_write (B : Nat) (c : Codec) (g : Group) (ps : List Bytes) (p : Bytes) (h : HistInv c g ps) :
    HistInv c (g.write B (frame c p)) (ps ++ [p]) := by
  obtain ⟨pss, psh, h1, h2, h3⟩ := h
  refine ⟨pss, psh ++ [p], by rw [h1]; simp, by rw [(write_spec B g _).1, h2], ?_⟩
  rw [(write_spec B g _).2, h3, frames_append]
  simp [frames]

theorem histInv_flush (c : Codec) (g : Group) (ps : List Bytes) (h : HistInv c g ps) : HistInv c g.flush ps := by
  obtain ⟨pss, psh, h1, h2, h3⟩ := h
  exact ⟨pss, psh, h1, h2, by simpa [Group.flush, Group.appendHead] using h3⟩

/-- RotateFile with the flush (fix ed188e7): unless nothing is on disk or buffered (the rename fails, the group stays as it
is), the rotated file is everything written since the last rotation -/
theorem rotate_flush (g : Group) :
    (g.rotate true).getD g = if g.buf = [] ∧ g.head = none then g
      else { files := g.files ++ [g.head.getD [] ++ g.buf], head := none, buf := [] } := by
  obtain ⟨files, head, buf⟩ := g
  cases buf <;> cases head <;> simp [Group.rotate, Group.appendHead]

theorem histInv_rotate (c : Codec) (g : Group) (ps : List Bytes) (h : HistInv c g ps) :
    HistInv c ((g.rotate true).getD g) ps := by
  rw [rotate_flush]
  by_cases hn : g.buf = [] ∧ g.head = none
  · rwa [if_pos hn]
  · obtain ⟨pss, psh, h1, h2, h3⟩ := h
    rw [if_neg hn]
    exact ⟨pss ++ [psh], [], by rw [h1, List.flatten_append, List.flatten_singleton, List.append_nil],
      by rw [List.map_append, h2, h3]; rfl, rfl⟩

theorem histInv_run (B : Nat) (c : Codec) : ∀ (ops : List Op) (g : Group) (ps : List Bytes),
    HistInv c g ps → ops.all (fun o => !o.isCut) = true →
    HistInv c (run B true c g ops) (ps ++ payloads ops) := by
  intro ops
  induction ops with
  | nil => intro g ps h _; rwa [payloads, List.append_nil]
  | cons o ops ih =>
    intro g ps h hc
    rw [List.all_cons, Bool.and_eq_true] at hc
    cases o with
    | write p =>
      rw [payloads, List.append_cons]
      exact ih _ _ (histInv_write B c g ps p h) hc.2
    | sync => exact ih _ ps (histInv_flush c g ps h) hc.2
    | rotate => exact ih _ ps (histInv_rotate c g ps h) hc.2
    | cutHead n => cases hc.1

/-- **The marker clause for flushed histories (current tree).**  For every buffer size, every history of writes,
syncs and rotations with valid payloads and monotone markers: when nothing is left in the buffered writer (after a
`sync`, a clean stop, or a restart) and the head exists, `SearchForEndHeight h` finds the marker iff it was written,
the returned reader continues exactly after a marker for `h`, and replaying from it (`catchupReplay`) yields exactly
the records written after it, then io.EOF. -/
def C14_marker_flushed_statement : Prop :=
  ∀ (B : Nat) (c : Codec) (ops : List Op) (h : Nat) (ign : Bool), Bounded c →
    (∀ p ∈ payloads ops, Valid c p) → ((payloads ops).filterMap c.eh).Pairwise (· ≤ ·) →
    ops.all (fun o => !o.isCut) = true →
    (run B true c {} ops).buf = [] → (run B true c {} ops).head.isSome = true →
    (((search c (run B true c {} ops) h ign).isFound = true ↔ ∃ p ∈ payloads ops, c.eh p = some h) ∧
     (∀ i rest, search c (run B true c {} ops) h ign = Search.found i rest →
        ∃ pre m post, payloads ops = pre ++ m :: post ∧ c.eh m = some h ∧ rest = frames c post ∧
          decodeAll c Tail.eof rest = (post, Res.eof)))

theorem C14_marker_flushed : C14_marker_flushed_statement := by
  intro B c ops h ign hb hv hmono hc hbuf hhead
  obtain ⟨pss, psh, h1, h2, h3⟩ := histInv_run B c ops {} [] ⟨[], [], rfl, rfl, rfl⟩ hc
  obtain ⟨x, hx⟩ := Option.isSome_iff_exists.mp hhead
  rw [List.nil_append] at h1
  rw [hbuf, List.append_nil, hx] at h3
  have hD : OnDisk c (run B true c {} ops) pss psh [] := ⟨h2, by rw [hx, List.append_nil, ← h3]; rfl⟩
  rw [h1] at hv hmono ⊢
  refine ⟨marker_iff_written_clean_cut c hb _ h ign pss psh [] 0 (by decide) hD rfl hv hmono, fun i rest hs => ?_⟩
  rcases search_aligned_clean c hb _ h ign pss psh [] [] hD rfl hv hmono with ⟨_, pre, m, post, e, hme, hf⟩ | ⟨_, hf⟩
  · rw [hf] at hs
    cases hs
    rw [List.append_nil]
    exact ⟨pre, m, post, e, hme, rfl, intact_replay c hb post
      (fun p hp => hv p (by rw [e]; exact List.mem_append_right _ (List.mem_cons_of_mem _ hp)))⟩
  · rw [hf] at hs; cases hs

/-- non-vacuity of `C14_marker_flushed`: a history with an un-synced run that overflows the (16-byte) buffer, a rotation
and a final sync satisfies every hypothesis; both markers are found, an unwritten one is not -/
example :
    (∀ p ∈ payloads straddleOps, Valid toyCodec p) ∧
    ((payloads straddleOps).filterMap toyCodec.eh).Pairwise (· ≤ ·) ∧
    straddleOps.all (fun o => !o.isCut) = true ∧
    (run 16 true toyCodec {} straddleOps).buf = [] ∧ (run 16 true toyCodec {} straddleOps).head.isSome = true := by
  refine ⟨?_, by decide, by decide, by decide, by decide⟩
  intro p hp
  apply valid_of_validB
  revert p
  decide +kernel

/-- un-synced history on the CURRENT tree: marker 1 synced, rotation, then two un-synced records of which the second
overflows the buffer, so that bufio flushes the head up to the middle of its length field -/
def unflushedOps : List Op :=
  [.write [0xEE, 1], .sync, .rotate, .write [7], .write (List.replicate 12 0xFF)]

/-- what the model (= the code) does on it: the head on disk ends 7 bytes into a record, the search answers
"failed to read length" although marker 1 is completely on disk in the rotated file -/
theorem unflushed_behaviour :
    let g := run 16 true toyCodec {} unflushedOps
    g.files.map List.length = [10] ∧ g.head.map List.length = some 16 ∧ g.buf.length = 13 ∧
    search toyCodec g 1 true = Search.err Res.errLen ∧
    markerOnDisk toyCodec (payloads unflushedOps) (g.stream 0).length 1 = true := by
  decide +kernel

/-- **C14_marker_unflushed_counterexample**: the marker clause quantified over ALL histories (search at any moment,
also while the buffered writer holds the rest of a record) is false on the current tree even without a crash: it is the
torn-tail defect (`wal-search-torn-tail`) seen through bufio's own mid-record flush.  The node only searches at start-up,
when the buffer is empty — that is `C14_marker_flushed`; a crash at this moment leaves exactly this disk state. -/
theorem C14_marker_unflushed_counterexample : ¬ C14_marker_statement true false := by
  intro h
  have := h 16 toyCodec unflushedOps 1 true (by decide) toyCodec_bounded (by decide) (by decide) (by decide) (by decide)
  obtain ⟨_, _, _, hs, hm⟩ := unflushed_behaviour
  rw [hs, hm] at this
  cases this

end Props.C14
