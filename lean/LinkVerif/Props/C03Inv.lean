/-
C03: the full vote-set invariant, proved for EVERY sequence of `addVote` / `setPeerMaj23` from `newVS`
(under the property's quantifier: non-negative powers, total below 2^62), and its corollaries
`maj23_needs_two_thirds` and `makeCommit_verifies`.
-/
import LinkVerif.Props.C03
import LinkVerif.Props.C03VoteSet

namespace Props.C03
open Go Gen.CommitArith Model.Vote Model.VoteSet Model.Commit

/-- power of the validators that have a vote recorded in a slice of vote slots (each validator at most once) -/
def powerOfSome : List Val → List (Option Vote) → Int
  | v :: vs, o :: os => (if o.isSome then v.power else 0) + powerOfSome vs os
  | _, _ => 0

/-- every tally is `powerWhere` of a mask: here the mask of the filled slots -/
theorem powerOfSome_eq (vals : List Val) (os : List (Option Vote)) :
    powerOfSome vals os = powerWhere vals (os.map Option.isSome) := by
  induction vals generalizing os with
  | nil => cases os <;> rfl
  | cons v vs ih =>
    cases os with
    | nil => rfl
    | cons o os => simp only [powerOfSome, List.map_cons, powerWhere, ih]

theorem countedPower_eq (bid : BlockID) (vals : List Val) (ps : List (Option Vote)) :
    countedPower bid vals ps = powerWhere vals (ps.map (Option.any fun v => decide (bid = v.bid))) := by
  induction vals generalizing ps with
  | nil => cases ps <;> simp [countedPower, powerWhere]
  | cons v vs ih =>
    cases ps with
    | nil => rfl
    | cons o ps => cases o <;> simp [countedPower, powerWhere, ih]

theorem powerOfSome_bounds (vals : List Val) (os : List (Option Vote)) (hp : ∀ v ∈ vals, 0 ≤ v.power) :
    0 ≤ powerOfSome vals os ∧ powerOfSome vals os ≤ sumPowers vals := by
  rw [powerOfSome_eq]; exact powerWhere_bounds vals _ hp

theorem powerOfSome_replicate (vals : List Val) (n : Nat) : powerOfSome vals (List.replicate n none) = 0 := by
  rw [powerOfSome_eq, List.map_replicate]
  exact powerWhere_none fun b hb => (List.mem_replicate.1 hb).2

theorem powerOfSome_congr {vals : List Val} {os os' : List (Option Vote)}
    (h : os.map Option.isSome = os'.map Option.isSome) : powerOfSome vals os = powerOfSome vals os' := by
  rw [powerOfSome_eq, powerOfSome_eq, h]

theorem powerOfSome_set_none {vals : List Val} {os : List (Option Vote)} {i : Nat} (x : Vote) {val : Val}
    (hv : vals[i]? = some val) (ho : os[i]? = some none) :
    powerOfSome vals (os.set i (some x)) = powerOfSome vals os + val.power := by
  rw [powerOfSome_eq, powerOfSome_eq, List.map_set]
  exact powerWhere_set vals _ i val hv (by simp [ho])

/-- overwriting a filled slot changes no tally -/
theorem map_isSome_set_some {os : List (Option Vote)} {i : Nat} (x : Vote) {y : Vote} (ho : os[i]? = some (some y)) :
    (os.set i (some x)).map Option.isSome = os.map Option.isSome := by
  induction os generalizing i with
  | nil => simp
  | cons o os ih =>
    cases i with
    | zero => cases ho; rfl
    | succ i => simp [ih ho]

theorem overlay_length (a b : List (Option Vote)) (h : a.length = b.length) : (overlay a b).length = a.length := by
  induction a generalizing b with
  | nil => cases b <;> rfl
  | cons x xs ih =>
    cases b with
    | nil => cases h
    | cons y ys => exact congrArg Nat.succ (ih ys (Nat.succ.inj h))

theorem overlay_get (a b : List (Option Vote)) (h : a.length = b.length) (i : Nat) :
    (overlay a b)[i]? = match b[i]? with | some (some x) => some (some x) | _ => a[i]? := by
  induction a generalizing b i with
  | nil => cases b with
    | nil => rfl
    | cons _ _ => cases h
  | cons x xs ih =>
    cases b with
    | nil => cases h
    | cons y ys =>
      cases i with
      | zero => cases y <;> rfl
      | succ i => exact ih ys (Nat.succ.inj h) i

theorem overlay_isSome (a b : List (Option Vote)) (h : a.length = b.length)
    (hsub : ∀ (i : Nat) (x : Vote), b[i]? = some (some x) → ∃ w, a[i]? = some (some w)) :
    (overlay a b).map Option.isSome = a.map Option.isSome := by
  apply List.ext_getElem?
  intro i
  rw [List.getElem?_map, List.getElem?_map, overlay_get a b h i]
  split
  · rename_i x hx
    obtain ⟨w, hw⟩ := hsub i x hx
    rw [hw]; rfl
  · rfl

/-- `v` is a fully checked vote of validator `i` for this vote set: filed under its own index, right address, the set's
height, round and type, and a signature that verifies under the key of validator `i` over exactly this vote -/
def ValidAt (verify : Verify) (s : VS) (i : Nat) (v : Vote) : Prop :=
  v.idx = (i : Int) ∧ v.height = s.height ∧ v.round = s.round ∧ v.type = s.type ∧
  ∃ val, s.vals[i]? = some val ∧ v.addr = val.addr ∧ verify val.key (msgOf s.chain v) v.sig = true

/-- invariant of one `votesByBlock` entry (key `k`) -/
structure BVInv (verify : Verify) (s : VS) (k : BlockID) (bv : BlockVotes) : Prop where
  len : bv.votes.length = s.vals.length
  bits : bv.bits = bv.votes.map Option.isSome
  sum : bv.sum = powerOfSome s.vals bv.votes
  recorded : ∀ (i : Nat) (v : Vote), bv.votes[i]? = some (some v) →
    v.bid = k ∧ ValidAt verify s i v ∧ ∃ w, s.votes[i]? = some (some w)

/-- THE VOTE-SET INVARIANT: every tally is the power of the distinct validators with a recorded vote; every recorded
vote is fully checked and filed under its own index (and block id); the bit arrays mirror the vote slices; a reported
majority block has reached the quorum and its voters' canonical votes are for that block -/
structure VoteSetInv (verify : Verify) (s : VS) : Prop where
  lenV : s.votes.length = s.vals.length
  bitsV : s.bits = s.votes.map Option.isSome
  sumV : s.sum = powerOfSome s.vals s.votes
  validV : ∀ (i : Nat) (v : Vote), s.votes[i]? = some (some v) → ValidAt verify s i v
  blocks : ∀ (k : BlockID) (bv : BlockVotes), (k, bv) ∈ s.byBlock → BVInv verify s k bv
  maj : ∀ b, s.maj23 = some b → ∃ bv, lookup s.byBlock b = some bv ∧ quorum (totalPower s.vals) ≤ bv.sum ∧
    ∀ (i : Nat) (x : Vote), bv.votes[i]? = some (some x) → ∃ w, s.votes[i]? = some (some w) ∧ w.bid = b

def SameCfg (s s' : VS) : Prop :=
  s'.vals = s.vals ∧ s'.height = s.height ∧ s'.round = s.round ∧ s'.type = s.type ∧ s'.chain = s.chain

/-- what the second half of `addVerifiedVote` needs from the first -/
structure Stage1Post (verify : Verify) (s s1 : VS) (v : Vote) (i : Nat) : Prop where
  inv : VoteSetInv verify s1
  cfg : SameCfg s s1
  maj : s1.maj23 = s.maj23
  bb : s1.byBlock = s.byBlock
  filled : ∃ w, s1.votes[i]? = some (some w)
  decided : s1.maj23 = some v.bid → s1.votes[i]? = some (some v)

section
variable {verify : Verify} {s s' : VS} {v : Vote} {i : Nat} {val : Val} {k : BlockID} {bv : BlockVotes}

theorem sameCfg_of_cfg (h : cfg s' = cfg s) : SameCfg s s' := Cfg.mk.inj h

theorem ValidAt_frame (h : SameCfg s s')
    (hv : ValidAt verify s i v) : ValidAt verify s' i v := by
  obtain ⟨h1, h2, h3, h4, h5⟩ := h
  unfold ValidAt at hv ⊢
  rw [h1, h2, h3, h4, h5]; exact hv

theorem BVInv_frame (h : SameCfg s s')
    (hvotes : ∀ (i : Nat) (w : Vote), s.votes[i]? = some (some w) → ∃ w', s'.votes[i]? = some (some w'))
    (hb : BVInv verify s k bv) : BVInv verify s' k bv := by
  refine ⟨by rw [h.1]; exact hb.len, hb.bits, by rw [h.1]; exact hb.sum, ?_⟩
  intro i v hv
  obtain ⟨e, hval, w, hw⟩ := hb.recorded i v hv
  exact ⟨e, ValidAt_frame h hval, hvotes i w hw⟩

theorem lookup_mem {bb : List (BlockID × BlockVotes)} (h : lookup bb k = some bv) :
    (k, bv) ∈ bb := by
  induction bb with
  | nil => cases h
  | cons e rest ih =>
    obtain ⟨k', bv'⟩ := e
    simp only [lookup] at h
    split at h
    · rename_i hk; cases h; subst hk; exact List.mem_cons_self
    · exact List.mem_cons_of_mem _ (ih h)

theorem mem_upsert {bb : List (BlockID × BlockVotes)} {k : BlockID} {x : BlockVotes} {e : BlockID × BlockVotes}
    (h : e ∈ upsert bb k x) : e = (k, x) ∨ e ∈ bb := by
  induction bb with
  | nil => simp [upsert] at h; exact Or.inl h
  | cons f rest ih =>
    obtain ⟨k', bv'⟩ := f
    simp only [upsert] at h
    simp only [List.mem_cons]
    split at h
    · exact (List.mem_cons.1 h).imp_right Or.inr
    · rcases List.mem_cons.1 h with h | h
      · exact Or.inr (Or.inl h)
      · exact (ih h).imp_right Or.inr

theorem set_some_spec (os : List (Option Vote)) (i : Nat) (v : Vote) (hi : i < os.length) :
    (os.set i (some v))[i]? = some (some v) ∧
    (∀ (j : Nat) (w : Vote), (os.set i (some v))[j]? = some (some w) → (j = i ∧ w = v) ∨ os[j]? = some (some w)) ∧
    (∀ (j : Nat) (w : Vote), os[j]? = some (some w) → ∃ w', (os.set i (some v))[j]? = some (some w') ∧ (j ≠ i → w' = w)) := by
  have hget : ∀ j, (os.set i (some v))[j]? = if i = j then some (some v) else os[j]? := fun j => by
    simp [List.getElem?_set, hi]
  refine ⟨by rw [hget, if_pos rfl], fun j w hw => ?_, fun j w hw => ?_⟩
  · rw [hget] at hw
    split at hw
    · rename_i hij; cases hw; exact Or.inl ⟨hij.symm, rfl⟩
    · exact Or.inr hw
  · rw [hget]
    split
    · rename_i hij; exact ⟨v, rfl, fun h => absurd hij.symm h⟩
    · exact ⟨w, hw, fun _ => rfl⟩

theorem powerOfSome_fill {vals : List Val} (hno : NoOverflow vals) {os : List (Option Vote)} (v : Vote)
    (hval : vals[i]? = some val) (hslot : os[i]? = some none) :
    wrapI64 (powerOfSome vals os + val.power) = powerOfSome vals (os.set i (some v)) := by
  have hb := powerOfSome_bounds vals (os.set i (some v)) hno.1
  rw [powerOfSome_set_none v hval hslot] at hb ⊢
  exact wrapI64_small hb.1 (by have := hno.2; omega)

theorem slot_lt {os : List (Option Vote)} {vals : List Val} (hlen : os.length = vals.length) (hval : vals[i]? = some val) :
    i < os.length :=
  hlen ▸ (List.getElem?_eq_some_iff.1 hval).1

theorem getElem?_of_getD {os : List (Option Vote)} {o : Option Vote} (hi : i < os.length)
    (h : os.getD i none = o) : os[i]? = some o := by
  rw [← h, List.getD_eq_getElem?_getD, List.getElem?_eq_getElem hi]
  rfl

theorem setSlot_inv {sum' : Int}
    (hI : VoteSetInv verify s) (hval : s.vals[i]? = some val) (hv : ValidAt verify s i v)
    (hsum : sum' = powerOfSome s.vals (s.votes.set i (some v)))
    (hmaj : ∀ w, s.votes[i]? = some (some w) → ∀ b, s.maj23 = some b → v.bid = b) :
    Stage1Post verify s (setSlot s i v sum') v i := by
  have hcfg : SameCfg s (setSlot s i v sum') := sameCfg_of_cfg rfl
  obtain ⟨hself, hnew, hkeep⟩ := set_some_spec s.votes i v (slot_lt hI.lenV hval)
  refine {
    inv := {
      lenV := List.length_set.trans hI.lenV
      bitsV := ?_
      sumV := hsum
      validV := fun j w hw => ?_
      blocks := fun k bv hm => ?_
      maj := fun b hb' => ?_ }
    cfg := hcfg, maj := rfl, bb := rfl, filled := ⟨v, hself⟩, decided := fun _ => hself }
  · show s.bits.set i true = (s.votes.set i (some v)).map Option.isSome
    rw [List.map_set, hI.bitsV]; rfl
  · apply ValidAt_frame hcfg
    rcases hnew j w hw with ⟨rfl, rfl⟩ | hw'
    · exact hv
    · exact hI.validV j w hw'
  · exact BVInv_frame hcfg (fun j w hw => (hkeep j w hw).imp fun _ h => h.1) (hI.blocks k bv hm)
  · obtain ⟨bv, hl, hq, hvotes⟩ := hI.maj b hb'
    refine ⟨bv, hl, hq, fun j x hx => ?_⟩
    obtain ⟨w, hw, hwb⟩ := hvotes j x hx
    by_cases hij : j = i
    · subst hij; exact ⟨v, hself, hmaj w hw b hb'⟩
    · obtain ⟨w', hw', he⟩ := hkeep j w hw
      exact ⟨w', hw', he hij ▸ hwb⟩

theorem stage1_inv {s1 : VS} {conf : Option Vote}
    (hno : NoOverflow s.vals) (hI : VoteSetInv verify s) (hval : s.vals[i]? = some val) (hv : ValidAt verify s i v)
    (hS : Stage1 s v i val.power s1 conf) : Stage1Post verify s s1 v i := by
  have hi := slot_lt hI.lenV hval
  rcases hS with ⟨hnone, rfl, _⟩ | ⟨ex, hex, _, _, ⟨hm, rfl⟩ | ⟨hm, rfl⟩⟩
  · -- the first vote of this validator: the round total grows by its power, without wrapping
    have hslot := getElem?_of_getD hi hnone
    exact setSlot_inv hI hval hv (hI.sumV ▸ powerOfSome_fill hno v hval hslot)
      (fun w hw => by rw [hslot] at hw; cases hw)
  · -- a conflicting vote for the decided block takes the slot; which slots are filled does not change
    exact setSlot_inv hI hval hv
      (by rw [powerOfSome_congr (map_isSome_set_some v (getElem?_of_getD hi hex))]; exact hI.sumV)
      (fun _ _ b hb => by rw [hm] at hb; exact Option.some.inj hb)
  · exact { inv := hI, cfg := sameCfg_of_cfg rfl, maj := rfl, bb := rfl, filled := ⟨ex, getElem?_of_getD hi hex⟩,
              decided := fun h => absurd h hm }

theorem newBlockVotes_inv {pm : Bool} : BVInv verify s k (newBlockVotes pm s.vals.length) := by
  refine ⟨by simp [newBlockVotes], by simp [newBlockVotes], by simp [newBlockVotes, powerOfSome_replicate], ?_⟩
  intro i v hv
  simp [newBlockVotes, List.getElem?_replicate] at hv

/-- `blockVotes.addVerifiedVote` keeps the entry's invariant, never lowers its tally, and records at most the new vote -/
theorem bvAdd_inv (hno : NoOverflow s.vals) (hval : s.vals[i]? = some val) (hv : ValidAt verify s i v)
    (hfilled : ∃ w, s.votes[i]? = some (some w)) (hb : BVInv verify s v.bid bv) :
    BVInv verify s v.bid (bv.add v i val.power) ∧ bv.sum ≤ (bv.add v i val.power).sum ∧
    ∀ (j : Nat) (x : Vote), (bv.add v i val.power).votes[j]? = some (some x) → (j = i ∧ x = v) ∨ bv.votes[j]? = some (some x) := by
  unfold BlockVotes.add
  split
  · exact ⟨hb, Int.le_refl _, fun j x hx => Or.inr hx⟩
  · rename_i hnone
    have hi := slot_lt hb.len hval
    have hslot := getElem?_of_getD hi hnone
    obtain ⟨_, hrec, _⟩ := set_some_spec bv.votes i v hi
    have hsum : wrapI64 (bv.sum + val.power) = powerOfSome s.vals (bv.votes.set i (some v)) :=
      hb.sum ▸ powerOfSome_fill hno v hval hslot
    refine ⟨⟨List.length_set.trans hb.len, ?_, hsum, fun j x hx => ?_⟩, ?_, hrec⟩
    · show bv.bits.set i true = (bv.votes.set i (some v)).map Option.isSome
      rw [List.map_set, hb.bits]; rfl
    · rcases hrec j x hx with ⟨rfl, rfl⟩ | hx'
      · exact ⟨rfl, hv, hfilled⟩
      · exact hb.recorded j x hx'
    · show bv.sum ≤ wrapI64 (bv.sum + val.power)
      have hp := hno.1 val (List.mem_of_getElem? hval)
      rw [hsum, powerOfSome_set_none v hval hslot, hb.sum]; omega

theorem maj23_entry {b : BlockID} (hI : VoteSetInv verify s)
    (hm : s.maj23 = some b) (hl : lookup s.byBlock b = some bv) :
    quorum (totalPower s.vals) ≤ bv.sum ∧
      ∀ (j : Nat) (x : Vote), bv.votes[j]? = some (some x) → ∃ w, s.votes[j]? = some (some w) ∧ w.bid = b := by
  obtain ⟨bv0, hl0, h⟩ := hI.maj b hm
  rw [hl] at hl0; cases hl0
  exact h

theorem withBlock_inv {bv' : BlockVotes}
    (hI : VoteSetInv verify s) (hb' : BVInv verify s k bv')
    (hmaj : s.maj23 = some k → quorum (totalPower s.vals) ≤ bv'.sum ∧
      ∀ (j : Nat) (x : Vote), bv'.votes[j]? = some (some x) → ∃ w, s.votes[j]? = some (some w) ∧ w.bid = k) :
    VoteSetInv verify (withBlock s k bv') := by
  have hcfg : SameCfg s (withBlock s k bv') := sameCfg_of_cfg rfl
  refine ⟨hI.lenV, hI.bitsV, hI.sumV, fun j w hw => ValidAt_frame hcfg (hI.validV j w hw), ?_, ?_⟩
  · intro k' bv'' hm
    refine BVInv_frame hcfg (fun j w hw => ⟨w, hw⟩) ?_
    rcases mem_upsert hm with h | h
    · cases h; exact hb'
    · exact hI.blocks k' bv'' h
  · intro b hb
    by_cases hkb : k = b
    · subst hkb
      exact ⟨bv', lookup_upsert_self _ _ _, hmaj hb⟩
    · obtain ⟨bvx, hl, h⟩ := hI.maj b hb
      exact ⟨bvx, ((lookup_upsert ..).trans (if_neg hkb)).trans hl, h⟩

/-- the first quorum crossing keeps the invariant: the copied votes are checked votes for the decided block -/
theorem decideOn_inv {b : BlockID} {bv' : BlockVotes}
    (hI : VoteSetInv verify s) (hl : lookup s.byBlock b = some bv') (hq : quorum (totalPower s.vals) ≤ bv'.sum) :
    VoteSetInv verify (decideOn s b bv'.votes) := by
  have hcfg : SameCfg s (decideOn s b bv'.votes) := sameCfg_of_cfg rfl
  have hb := hI.blocks b bv' (lookup_mem hl)
  have hlen : s.votes.length = bv'.votes.length := by rw [hI.lenV, hb.len]
  have hiso := overlay_isSome s.votes bv'.votes hlen fun j x hx =>
    let ⟨_, _, hcanon⟩ := hb.recorded j x hx
    hcanon
  have hget := overlay_get s.votes bv'.votes hlen
  have hkeep : ∀ (j : Nat) (w : Vote), s.votes[j]? = some (some w) → ∃ w', (overlay s.votes bv'.votes)[j]? = some (some w') := by
    intro j w hw
    rw [hget j]; split
    · exact ⟨_, rfl⟩
    · exact ⟨w, hw⟩
  refine ⟨(overlay_length _ _ hlen).trans hI.lenV, hI.bitsV.trans hiso.symm,
    hI.sumV.trans (powerOfSome_congr hiso.symm), fun j w hw => ?_,
    fun k bv hm => BVInv_frame hcfg hkeep (hI.blocks k bv hm), fun b' hb' => ?_⟩
  · have hw' := (hget j).symm.trans hw
    apply ValidAt_frame hcfg
    split at hw'
    · rename_i x hx
      cases hw'
      obtain ⟨_, hvalid, _⟩ := hb.recorded j _ hx
      exact hvalid
    · exact hI.validV j w hw'
  · cases hb'
    refine ⟨bv', hl, hq, fun j x hx => ?_⟩
    obtain ⟨hbid, _⟩ := hb.recorded j x hx
    exact ⟨x, (hget j).trans (by rw [hx]), hbid⟩

theorem tally_inv (hno : NoOverflow s.vals) (hI : VoteSetInv verify s) (hval : s.vals[i]? = some val) (hv : ValidAt verify s i v)
    (hfilled : ∃ w, s.votes[i]? = some (some w)) (hdec : s.maj23 = some v.bid → s.votes[i]? = some (some v))
    (hbv : lookup s.byBlock v.bid = some bv ∨ (lookup s.byBlock v.bid = none ∧ bv = newBlockVotes false s.vals.length)) :
    VoteSetInv verify (tally s v i val.power bv) := by
  have hb : BVInv verify s v.bid bv := by
    rcases hbv with h | ⟨_, h⟩
    · exact hI.blocks _ _ (lookup_mem h)
    · rw [h]; exact newBlockVotes_inv
  obtain ⟨hb', hmono, hrec⟩ := bvAdd_inv hno hval hv hfilled hb
  have hI2 := withBlock_inv hI hb' fun hm => by
    rcases hbv with h | ⟨h, _⟩
    · obtain ⟨hq, hvotes⟩ := maj23_entry hI hm h
      refine ⟨by omega, fun j x hx => ?_⟩
      rcases hrec j x hx with ⟨rfl, _⟩ | hx'
      · exact ⟨v, hdec hm, rfl⟩
      · exact hvotes j x hx'
    · obtain ⟨_, hl0, _⟩ := hI.maj _ hm
      cases hl0.symm.trans h
  rw [tally_eq]
  split
  · rename_i hc
    exact decideOn_inv hI2 (lookup_upsert_self _ _ _) (quorum_le_of_crossed hc)
  · exact hI2

theorem addVerifiedVote_inv {a : Bool} {c : Option Vote}
    (hno : NoOverflow s.vals) (hI : VoteSetInv verify s) (hval : s.vals[i]? = some val) (hv : ValidAt verify s i v)
    (h : addVerifiedVote s v i val.power = some (s', a, c)) : VoteSetInv verify s' := by
  obtain ⟨s1, hS, hrest⟩ := addVerifiedVote_decompose h
  have hP := stage1_inv hno hI hval hv hS
  rcases hrest with ⟨rfl, _, _⟩ | ⟨bv, hbv, rfl, _⟩
  · exact hP.inv
  · have hvals : s1.vals = s.vals := hP.cfg.1
    exact tally_inv (hvals ▸ hno) hP.inv (hvals ▸ hval) (ValidAt_frame hP.cfg hv) hP.filled hP.decided hbv

theorem addVote_inv {r : AddRes} (hno : NoOverflow s.vals)
    (hI : VoteSetInv verify s) (h : addVote verify s v = some r) : VoteSetInv verify r.st := by
  rcases addVote_cases h with h1 | ⟨i, val, c, hck, havv, _⟩
  · rw [h1.1]; exact hI
  · exact addVerifiedVote_inv hno hI hck.slot
      ⟨hck.idx.symm, hck.height, hck.round, hck.type, val, hck.slot, hck.addr, hck.sig⟩ havv

theorem inv_peers (p : List (List UInt8 × BlockID)) (hI : VoteSetInv verify s) :
    VoteSetInv verify { s with peers := p } :=
  ⟨hI.lenV, hI.bitsV, hI.sumV, hI.validV,
   fun k bv hm => BVInv_frame (s := s) (s' := { s with peers := p }) (sameCfg_of_cfg rfl) (fun _ w hw => ⟨w, hw⟩) (hI.blocks k bv hm),
   hI.maj⟩

theorem setPeerMaj23_inv (peer : List UInt8) (bid : BlockID)
    (hI : VoteSetInv verify s) : VoteSetInv verify (setPeerMaj23 s peer bid).1 := by
  unfold setPeerMaj23
  split
  · exact hI
  · simp only
    split
    · rename_i bv hl
      split
      · exact inv_peers _ hI
      · have hb := hI.blocks bid bv (lookup_mem hl)
        -- no clause of `BVInv` reads `peerMaj23`
        exact inv_peers _ (withBlock_inv (bv' := { bv with peerMaj23 := true }) hI ⟨hb.len, hb.bits, hb.sum, hb.recorded⟩
          fun hm => maj23_entry (bv := bv) hI hm hl)
    · rename_i hl
      exact inv_peers _ (withBlock_inv hI newBlockVotes_inv fun hm => by
        obtain ⟨_, hl0, _⟩ := hI.maj _ hm
        cases hl0.symm.trans hl)

theorem newVS_inv (verify : Verify) {chain : List UInt8} {h : Nat} {r : Int} {t : Nat} {vals : List Val} {s : VS}
    (hs : newVS chain h r t vals = some s) : VoteSetInv verify s ∧ cfg s = ⟨vals, h, r, t, chain⟩ := by
  unfold newVS at hs
  split at hs
  · cases hs
  · cases hs
    refine ⟨⟨by simp, by simp, by simp [powerOfSome_replicate], ?_, ?_, ?_⟩, rfl⟩
    · intro i v hv; simp [List.getElem?_replicate] at hv
    · intro k bv hm; simp at hm
    · intro b hb; simp at hb

theorem step_inv (hno : NoOverflow s.vals) (hI : VoteSetInv verify s)
    (h : Step verify s s') : VoteSetInv verify s' := by
  cases h with
  | vote v r hr => exact addVote_inv hno hI hr
  | peer p bid => exact setPeerMaj23_inv p bid hI

end

theorem run_inv (verify : Verify) (s s' : VS) (hno : NoOverflow s.vals) (hI : VoteSetInv verify s)
    (h : Run verify s s') : VoteSetInv verify s' ∧ s'.vals = s.vals := by
  induction h with
  | refl => exact ⟨hI, rfl⟩
  | tail t u _ hstep ih =>
    refine ⟨step_inv (by rw [ih.2]; exact hno) ih.1 hstep, ?_⟩
    exact (congrArg Cfg.vals (step_cfg hstep)).trans ih.2

/-- FULL STATEMENT (proved): the invariant holds in a fresh vote set and is preserved by every sequence of votes
(accepted or rejected, well-formed or not) and peer claims -/
def C03_voteset_invariant_statement : Prop :=
  (∀ (verify : Verify) (chain : List UInt8) (h : Nat) (r : Int) (t : Nat) (vals : List Val) (s : VS),
      newVS chain h r t vals = some s → VoteSetInv verify s) ∧
  (∀ (verify : Verify) (s s' : VS), NoOverflow s.vals → VoteSetInv verify s → Run verify s s' → VoteSetInv verify s')

theorem C03_voteset_invariant : C03_voteset_invariant_statement :=
  ⟨fun verify _ _ _ _ _ _ hs => (newVS_inv verify hs).1,
   fun verify s s' hno hI hrun => (run_inv verify s s' hno hI hrun).1⟩

theorem reachable_inv {verify : Verify} {chain : List UInt8} {h : Nat} {r : Int} {t : Nat} {vals : List Val} {s0 s : VS}
    (hno : NoOverflow vals) (h0 : newVS chain h r t vals = some s0) (hrun : Run verify s0 s) :
    VoteSetInv verify s ∧ cfg s = ⟨vals, h, r, t, chain⟩ := by
  obtain ⟨hI, hc⟩ := newVS_inv verify h0
  obtain ⟨rfl, _⟩ := Cfg.mk.inj hc
  exact ⟨(run_inv verify s0 s hno hI hrun).1, (run_cfg hrun).trans hc⟩

/-- the canonical votes for `b` weigh at least as much as the block's own tally, if every voter of the block has a
canonical vote for `b` -/
theorem powerOfSome_le_counted {b : BlockID} {vals : List Val} {bvv votes : List (Option Vote)}
    (hp : ∀ v ∈ vals, 0 ≤ v.power)
    (h : ∀ (j : Nat) (x : Vote), bvv[j]? = some (some x) → ∃ w, votes[j]? = some (some w) ∧ w.bid = b) :
    powerOfSome vals bvv ≤ countedPower b vals votes := by
  rw [powerOfSome_eq, countedPower_eq]
  apply powerWhere_mono vals _ _ hp
  intro j hj
  simp only [List.getElem?_map, Option.map_eq_some_iff] at hj ⊢
  obtain ⟨o, ho, hs⟩ := hj
  cases o with
  | none => cases hs
  | some x =>
    obtain ⟨w, hw, hwb⟩ := h j x ho
    exact ⟨some w, hw, by simp [hwb]⟩

/-- A REPORTED MAJORITY HAS MORE THAN TWO THIRDS, from distinct validators, each with a recorded, fully checked vote for
exactly that block id; and the canonical votes (what `MakeCommit` copies) for that block weigh at least as much -/
theorem maj23_needs_two_thirds (verify : Verify) (s : VS) (hno : NoOverflow s.vals) (hI : VoteSetInv verify s)
    (b : BlockID) (h : twoThirdsMajority s = some b) :
    ∃ bv, lookup s.byBlock b = some bv ∧
      (∀ (i : Nat) (x : Vote), bv.votes[i]? = some (some x) → x.bid = b ∧ ValidAt verify s i x) ∧
      3 * powerOfSome s.vals bv.votes > 2 * sumPowers s.vals ∧
      3 * countedPower b s.vals s.votes > 2 * sumPowers s.vals := by
  obtain ⟨bv, hl, hq, hvotes⟩ := hI.maj b h
  have hb := hI.blocks b bv (lookup_mem hl)
  have h23 := two_thirds_of_quorum_le hno hq
  have hle := powerOfSome_le_counted hno.1 hvotes
  rw [hb.sum] at h23
  refine ⟨bv, hl, fun i x hx => ?_, h23, by omega⟩
  obtain ⟨hbid, hvalid, _⟩ := hb.recorded i x hx
  exact ⟨hbid, hvalid⟩

/-- … for every state reachable from `NewVoteSet` by any sequence of votes and peer claims -/
theorem maj23_needs_two_thirds_reachable {verify : Verify} {chain : List UInt8} {h : Nat} {r : Int} {t : Nat}
    {vals : List Val} {s0 s : VS} (hno : NoOverflow vals) (h0 : newVS chain h r t vals = some s0) (hrun : Run verify s0 s)
    {b : BlockID} (hm : twoThirdsMajority s = some b) :
    3 * countedPower b vals s.votes > 2 * sumPowers vals := by
  obtain ⟨hI, hc⟩ := reachable_inv hno h0 hrun
  obtain ⟨rfl, _⟩ := Cfg.mk.inj hc
  obtain ⟨_, _, _, _, h4⟩ := maj23_needs_two_thirds verify s hno hI b hm
  exact h4

theorem firstSome_none_counted (b : BlockID) (vals : List Val) (ps : List (Option Vote)) (h : firstSome ps = none) :
    countedPower b vals ps = 0 := by
  induction ps generalizing vals with
  | nil => cases vals <;> rfl
  | cons o ps ih =>
    cases o with
    | some v => cases h
    | none =>
      cases vals with
      | nil => rfl
      | cons val vals => exact ih vals h

theorem firstSome_mem {ps : List (Option Vote)} {v : Vote} (h : firstSome ps = some v) : ∃ i : Nat, ps[i]? = some (some v) := by
  induction ps with
  | nil => cases h
  | cons o ps ih =>
    cases o with
    | some w => cases h; exact ⟨0, rfl⟩
    | none =>
      obtain ⟨i, hi⟩ := ih h
      exact ⟨i + 1, hi⟩

/-- `MakeCommit` OF A PRECOMMIT VOTE SET WITH A MAJORITY PASSES `VerifyCommit` for the same validator set, chain, height
and the majority block: live consensus and block validation / fast sync agree on what a commit is -/
theorem makeCommit_verifies (verify : Verify) (s : VS) (c : Commit) (hno : NoOverflow s.vals) (hI : VoteSetInv verify s)
    (h : makeCommit s = some c) : verifyCommit verify s.vals s.chain c.bid s.height c = .ok () := by
  unfold makeCommit at h
  split at h; · cases h
  rename_i htype
  split at h; · cases h
  rename_i b hm
  cases h
  have htype' : s.type = typePrecommit := Decidable.not_not.1 htype
  obtain ⟨_, _, _, _, hq⟩ := maj23_needs_two_thirds verify s hno hI b hm
  have hsum := sumPowers_nonneg hno.1
  -- there is a first precommit, and it is a checked vote of this set
  cases hf : firstSome s.votes with
  | none => rw [firstSome_none_counted b s.vals s.votes hf] at hq; omega
  | some v0 =>
      obtain ⟨i0, hi0⟩ := firstSome_mem hf
      obtain ⟨_, hh0, hr0, _⟩ := hI.validV i0 v0 hi0
      apply verifyCommit_complete verify s.vals s.chain b s.height _ hno
      · exact hI.lenV.symm
      · show s.height = Model.Commit.height ⟨b, s.votes⟩
        unfold Model.Commit.height; simp only [hf]; exact hh0.symm
      · have hr : Model.Commit.round ⟨b, s.votes⟩ = s.round := by
          unfold Model.Commit.round; simp only [hf]; exact hr0
        rw [hr]
        apply allSlotsGood_of_pointwise
        intro i val v hval hp
        obtain ⟨_, hh, hrr, ht, val', hval', _, hver⟩ := hI.validV i v hp
        rw [hval] at hval'; cases hval'
        exact ⟨hh, hrr, by rw [ht, htype'], hver⟩
      · exact hq

/-- … for every precommit vote set reachable from `NewVoteSet` -/
theorem makeCommit_verifies_reachable (verify : Verify) (chain : List UInt8) (h : Nat) (r : Int)
    (vals : List Val) (s0 s : VS) (c : Commit) (hno : NoOverflow vals) (h0 : newVS chain h r typePrecommit vals = some s0)
    (hrun : Run verify s0 s) (hc : makeCommit s = some c) :
    verifyCommit verify s.vals s.chain c.bid s.height c = .ok () := by
  obtain ⟨hI, hcfg⟩ := reachable_inv hno h0 hrun
  obtain ⟨rfl, _⟩ := Cfg.mk.inj hcfg
  exact makeCommit_verifies verify s c hno hI hc

/-! ### The two `PanicSanity` sites of `addVote` are unreachable (for every state and every vote) -/

theorem addVerifiedVote_ne_none {s : VS} {v : Vote} {i : Nat} (p : Int) (hg : getVote s i v.bid = none) :
    addVerifiedVote s v i p ≠ none := by
  intro h
  unfold addVerifiedVote at h
  unfold getVote at hg
  simp only at h hg
  split at h
  · rename_i hst
    split at hst
    · rename_i ex hex
      rw [hex] at hg
      simp only at hg
      split at hst
      · rename_i hb
        rw [if_pos hb] at hg; cases hg
      · split at hst <;> cases hst
    · cases hst
  · split at h
    · split at h <;> cases h
    · split at h <;> cases h

/-- `AddVote` NEVER PANICS on a non-nil vote: "addVerifiedVote does not expect duplicate votes" is excluded by the
duplicate test, "Expected to add non-conflicting vote" by the structure of `addVerifiedVote` -/
theorem addVote_no_panic (verify : Verify) (s : VS) (v : Vote) : addVote verify s v ≠ none := by
  rcases addVote_outcome verify s v with ⟨e, he, _⟩ | ⟨i, val, _, hget, he⟩
  · rw [he]; exact Option.some_ne_none _
  · rw [he]
    cases havv : addVerifiedVote s v i val.power with
    | none => exact absurd havv (addVerifiedVote_ne_none _ hget)
    | some x =>
      obtain ⟨s', a, c⟩ := x
      cases c with
      | some cv => exact Option.some_ne_none _
      | none =>
        -- without a conflicting vote `addVerifiedVote` reaches `tally`, which reports `added`
        obtain ⟨s1, _, hrest⟩ := addVerifiedVote_decompose havv
        rcases hrest with ⟨_, _, hs⟩ | ⟨_, _, _, ha⟩
        · cases hs
        · rw [ha]; exact Option.some_ne_none _

/-! ### Non-vacuity: the hypotheses are satisfiable and the conclusions are reached on a concrete run -/

/-- three of four equal validators precommit `nvB`, validator 0 also equivocates: a commit is made and it verifies -/
def nvFinal : Option VS := runVotes (newVS [99] 5 0 2 nvVals) [nvVote 0 nvB, nvVote 0 nvB2, nvVote 1 nvB, nvVote 2 nvB]

example : NoOverflow nvVals := ⟨by decide, by decide⟩
example : (nvFinal.map twoThirdsMajority) = some (some nvB) := by decide
example : ((nvFinal.bind makeCommit).map (fun c => verdict (verifyCommit symVerify nvVals [99] c.bid 5 c))) = some none := by decide
example : ((nvFinal.map (fun s => decide (3 * countedPower nvB nvVals s.votes > 2 * sumPowers nvVals)))) = some true := by decide
/-- a `Run` exists: one accepted vote from the fresh set -/
example : ∃ s0 s, newVS [99] 5 0 2 nvVals = some s0 ∧ Run symVerify s0 s ∧ s.sum = 1 := by
  refine ⟨_, _, rfl, Run.tail _ _ _ (Run.refl _) (Step.vote _ (nvVote 0 nvB) _ rfl), by decide⟩

end Props.C03
