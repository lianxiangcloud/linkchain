import LinkVerif.Props.C14

/-!
# C14 — pruning by total size (checkTotalSizeLimit)
-/
namespace Props.C14
open Model.Wal

theorem pruneLoop_le (limit : Nat) : ∀ (f total : Nat) (sizes : List Nat),
    pruneLoop limit f total sizes ≤ f ∧ pruneLoop limit f total sizes ≤ sizes.length := by
  intro f
  induction f with
  | zero => intro total sizes; simp [pruneLoop]
  | succ f ih =>
    intro total sizes
    cases sizes with
    | nil => simp [pruneLoop]
    | cons s rest =>
      simp only [pruneLoop]
      split
      · simp
      · have := ih (total - s) rest
        simp only [List.length_cons]
        omega

/-- **prune_at_most_four**: one tick of `checkTotalSizeLimit` deletes at most `maxFilesToRemove = 4` files and never
more than there are rotated files (so never the head).  That they are the OLDEST ones is how `pruneCount` is read (a count
from the oldest existing file), not part of the statement. -/
theorem prune_at_most_four (limit : Nat) (sizes : List Nat) (headSize : Nat) :
    pruneCount limit sizes headSize ≤ 4 ∧ pruneCount limit sizes headSize ≤ sizes.length := by
  unfold pruneCount
  split
  · simp
  · exact pruneLoop_le limit 4 _ sizes

/-- nothing is deleted while the group is below its limit, and nothing when there is no limit -/
theorem prune_below_limit (limit : Nat) (sizes : List Nat) (headSize : Nat)
    (h : limit = 0 ∨ sizes.sum + headSize < limit) : pruneCount limit sizes headSize = 0 := by
  unfold pruneCount
  rcases h with h | h
  · simp [h]
  · split
    · rfl
    · cases sizes with
      | nil => simp [pruneLoop]
      | cons s rest =>
        have h' : s + rest.sum + headSize < limit := by simpa using h
        simp [pruneLoop, h']

/-- at the boundary the oldest file goes: `totalSize < limit` is the only exit, so a total EQUAL to the limit deletes -/
theorem prune_at_limit (limit s : Nat) (rest : List Nat) (headSize : Nat) (hl : limit ≠ 0)
    (h : limit ≤ (s :: rest).sum + headSize) : 1 ≤ pruneCount limit (s :: rest) headSize := by
  unfold pruneCount
  simp only [hl, if_false]
  have : ¬ ((s :: rest).sum + headSize < limit) := by omega
  simp only [pruneLoop, this, if_false]
  omega

/-- with nothing deleted and `minIndex = 0` the pruning-aware search is the search of the other theorems -/
theorem searchFromP_zero (c : Codec) (g : Group) (h : Nat) (ign : Bool) :
    ∀ n last, searchFromP c g h ign 0 0 n last = searchFrom c g h ign n last := by
  intro n
  induction n with
  | zero => intro last; rw [searchFromP, searchFrom]
  | succ i ih =>
    intro last
    have hc : g.canOpenP 0 i = g.canOpen i := by rw [Group.canOpenP, decide_eq_true (Nat.zero_le i)]; rfl
    rw [searchFromP, searchFrom, if_neg (Nat.not_lt_zero i), hc]
    simp only [ih]

theorem searchP_zero (c : Codec) (g : Group) (h : Nat) (ign : Bool) : searchP c g h ign 0 0 = search c g h ign := by
  rw [searchP, search, searchFromP_zero]

/-- a deleted file is never opened: below `gone` the search answers the open error (stale `minIndex`) or stops (`lo`) -/
theorem searchFromP_gone (c : Codec) (g : Group) (h : Nat) (ign : Bool) (gone lo i last : Nat) (hi : i < gone) :
    searchFromP c g h ign gone lo (i + 1) last = Search.notFound ∨
    searchFromP c g h ign gone lo (i + 1) last = Search.openFailed := by
  rw [searchFromP]
  by_cases hlo : i < lo
  · left; simp [hlo]
  · right
    have : g.canOpenP gone i = false := by simp [Group.canOpenP]; intro hge; omega
    simp [hlo, this]

example : pruneCount 1017 [172, 144, 148, 108, 308, 256] 53 = 2 ∧ pruneCount 48 [195, 94, 144, 93, 89] 48 = 4 ∧
    pruneCount 1124 [254, 84, 273, 148, 84, 146] 134 = 0 ∧ pruneCount 1123 [254, 84, 273, 148, 84, 146] 134 = 1 := by decide

end Props.C14
