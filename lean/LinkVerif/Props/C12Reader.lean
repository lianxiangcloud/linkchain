/-
C12: the `PartSetReader` (the reader consensus decodes the proposal block from) never invents,
reorders or skips a byte, for ANY sequence of buffer sizes (zero-length buffers and empty parts included):
what it has delivered so far, followed by what it still holds, is always the concatenation of the parts.
-/
import LinkVerif.Model.BlockApi

namespace Props.C12
open Model.Merkle Model.BlockApi

/-- the bytes the reader still holds at a position -/
def remaining (parts : List Bytes) (s : RState) : Bytes :=
  (parts.getD s.i []).drop s.off ++ (parts.drop (s.i + 1)).flatten

theorem getD_append_flatten_drop (parts : List Bytes) (i : Nat) :
    parts.getD i [] ++ (parts.drop (i + 1)).flatten = (parts.drop i).flatten := by
  induction parts generalizing i with
  | nil => simp
  | cons p ps ih =>
    cases i with
    | zero => rfl
    | succ j => exact ih j

theorem remaining_start (parts : List Bytes) : remaining parts {} = parts.flatten :=
  getD_append_flatten_drop parts 0

theorem remaining_next (parts : List Bytes) (i : Nat) :
    remaining parts { i := i + 1, off := 0 } = (parts.drop (i + 1)).flatten :=
  getD_append_flatten_drop parts (i + 1)

theorem readCall_conserves {parts : List Bytes} {f n : Nat} {s s' : RState} {d : Bytes} {e : Bool}
    (h : readCall parts f s n = (s', d, e)) : remaining parts s = d ++ remaining parts s' := by
  induction f generalizing s n s' d e with
  | zero =>
    cases h
    rfl
  | succ f ih =>
    -- the branches of `Read` in the order of the model: the part has `n` unread bytes (exhausted, which forces `n = 0`:
    -- EOF; otherwise a plain read), it has fewer but some (its rest, then a second call for the remainder), it is
    -- exhausted (EOF after the last part, otherwise the same call on the next part)
    simp only [readCall] at h
    split at h
    · split at h
      · cases h
        rfl
      · cases h
        simp only [remaining]
        rw [← List.append_assoc, ← List.drop_drop (i := n), List.take_append_drop]
    · split at h
      · split at h
        · rename_i h1
          cases h
          exact ih h1
        · rename_i h1
          cases h
          -- the second call stands here through its projections: `ih rfl` is the statement for it
          rw [List.append_assoc, ← ih rfl]
          exact ih h1
      · rename_i hge hrl
        have hrem : remaining parts s = (parts.drop (s.i + 1)).flatten := by
          unfold remaining
          rw [List.drop_eq_nil_of_le (by omega)]
          rfl
        rw [hrem, ← remaining_next]
        split at h
        · cases h
          rfl
        · exact ih h

theorem readSeq_conserves (parts : List Bytes) (sizes : List Nat) (s : RState) {rs : List (Nat × Bool)} {ds : Bytes}
    (h : readSeq parts s sizes = (rs, ds)) : ∃ s', remaining parts s = ds ++ remaining parts s' := by
  induction sizes generalizing s rs ds with
  | nil =>
    cases h
    exact ⟨s, rfl⟩
  | cons n rest ih =>
    simp only [readSeq] at h
    cases h
    obtain ⟨s', h2⟩ := ih _ rfl
    exact ⟨s', by rw [List.append_assoc, ← h2, ← readCall_conserves rfl]⟩

/-- **reader_delivers_prefix**: from a fresh reader, whatever buffer sizes the caller uses, the bytes delivered
are a prefix of the concatenation of the parts (that the rest is still held, in order, is `readSeq_conserves`) -/
theorem reader_delivers_prefix (parts : List Bytes) (sizes : List Nat) :
    (readSeq parts {} sizes).2 <+: parts.flatten := by
  obtain ⟨s', h⟩ := readSeq_conserves parts sizes {} rfl
  rw [remaining_start] at h
  exact ⟨_, h.symm⟩

/-- non-vacuity, with an empty part, a zero-length buffer and reads after the end: everything is delivered -/
example : readSeq [[1, 2], [], [3]] {} [1, 0, 5, 2, 0] = ([(1, false), (0, false), (2, true), (0, true), (0, true)], [1, 2, 3]) := by
  decide

/-- the quirk the model mirrors: a ZERO-length buffer at an exhausted part answers EOF although parts follow
(`bytes.Reader.Read` checks for exhaustion before the length of the buffer); nothing is lost, the next read continues -/
example : readSeq [[1], [2]] {} [1, 0, 1] = ([(1, false), (0, true), (1, false)], [1, 2]) := by decide

end Props.C12
