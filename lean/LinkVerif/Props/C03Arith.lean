/-
C03: the threshold arithmetic regenerated from the Go source (`Gen.CommitArith`, `Gen.ValSetArith`)
means "strictly more than two thirds" and does not wrap, as long as the total voting power is below 2^62.
These theorems are about the T1 translations, i.e. about what the code says NOW.
-/
import LinkVerif.Model.Commit

namespace Props.C03
open Go Gen.ValSetArith Gen.CommitArith Model.Vote

def two62 : Int := 4611686018427387904

/-- the true (mathematical) sum of the voting powers -/
def sumPowers (vals : List Val) : Int := (vals.map (·.power)).sum

/-- the quantifier of the property: non-negative powers, total below 2^62 -/
def NoOverflow (vals : List Val) : Prop := (∀ v ∈ vals, 0 ≤ v.power) ∧ sumPowers vals < two62

theorem wrapI64_small {x : Int} (h0 : 0 ≤ x) (h : x < two62) : wrapI64 x = x :=
  wrapI64_id ⟨by unfold minI64; omega, by unfold two62 at h; unfold maxI64; omega⟩

theorem safeAddClip_small (a b : Int) (ha : 0 ≤ a) (hb : 0 ≤ b) (h : a + b < two62) : safeAddClip a b = a + b := by
  have hw : wrapI64 (maxI64 - b) = maxI64 - b :=
    wrapI64_id ⟨by unfold two62 at h; unfold minI64 maxI64; omega, by omega⟩
  have e : safeAdd a b = (a + b, false) := by
    unfold safeAdd
    rw [hw, wrapI64_small (by omega) h]
    have h1 : ¬ (a > maxI64 - b) := by unfold two62 at h; unfold maxI64; omega
    have h2 : ¬ (b < 0) := by omega
    simp [h1, h2]
  unfold safeAddClip
  rw [e]; rfl

theorem sumPowers_cons (v : Val) (vs : List Val) : sumPowers (v :: vs) = v.power + sumPowers vs := by
  simp [sumPowers]

theorem sumPowers_nonneg {vals : List Val} (h : ∀ v ∈ vals, 0 ≤ v.power) : 0 ≤ sumPowers vals := by
  induction vals with
  | nil => simp [sumPowers]
  | cons v vs ih =>
    rw [sumPowers_cons]
    obtain ⟨hv, h'⟩ := List.forall_mem_cons.1 h
    have := ih h'
    omega

theorem foldl_total (vals : List Val) (acc : Int) (hacc : 0 ≤ acc) (hp : ∀ v ∈ vals, 0 ≤ v.power)
    (hs : acc + sumPowers vals < two62) :
    vals.foldl (fun acc v => safeAddClip acc v.power) acc = acc + sumPowers vals := by
  induction vals generalizing acc with
  | nil => simp [sumPowers]
  | cons v vs ih =>
    obtain ⟨hv, hp'⟩ := List.forall_mem_cons.1 hp
    have hrest := sumPowers_nonneg hp'
    rw [sumPowers_cons] at hs ⊢
    simp only [List.foldl_cons]
    rw [safeAddClip_small acc v.power hacc hv (by omega)]
    rw [ih (acc + v.power) (by omega) hp' (by omega)]
    omega

/-- `TotalVotingPower` is the true sum (no clipping) under the property's quantifier -/
theorem totalPower_eq {vals : List Val} (h : NoOverflow vals) : totalPower vals = sumPowers vals := by
  unfold totalPower
  rw [foldl_total vals 0 (by omega) h.1 (by simpa using h.2)]
  omega

theorem two_thirds_floor (total : Int) (h0 : 0 ≤ total) (h : total < two62) :
    wrapI64 (Int.tdiv (wrapI64 (total * 2)) 3) = total * 2 / 3 := by
  unfold two62 at h
  have h1 : wrapI64 (total * 2) = total * 2 := wrapI64_id ⟨by unfold minI64; omega, by unfold maxI64; omega⟩
  rw [h1, Int.tdiv_eq_ediv_of_nonneg (by omega)]
  exact wrapI64_id ⟨by unfold minI64; omega, by unfold maxI64; omega⟩

/-- `VerifyCommit`'s accept test is "strictly more than two thirds of the total", without overflow -/
theorem verifyCommitAccepts_iff {tallied total : Int} (h0 : 0 ≤ total) (h : total < two62) :
    verifyCommitAccepts tallied total = true ↔ 3 * tallied > 2 * total := by
  unfold verifyCommitAccepts
  rw [two_thirds_floor total h0 h]
  simp only [decide_eq_true_eq]
  omega

/-- `HasTwoThirdsAny` uses the same threshold: the two translated expressions are the same term -/
theorem hasTwoThirdsAny_iff {sum total : Int} (h0 : 0 ≤ total) (h : total < two62) :
    hasTwoThirdsAny sum total = true ↔ 3 * sum > 2 * total :=
  verifyCommitAccepts_iff h0 h

/-- the quorum of `addVerifiedVote` is `floor(2*total/3) + 1`, without overflow -/
theorem quorum_eq (total : Int) (h0 : 0 ≤ total) (h : total < two62) : quorum total = total * 2 / 3 + 1 := by
  unfold quorum
  rw [two_thirds_floor total h0 h]
  unfold two62 at h
  exact wrapI64_small (by omega) (by unfold two62; omega)

theorem quorum_iff {sum total : Int} (h0 : 0 ≤ total) (h : total < two62) :
    quorum total ≤ sum ↔ 3 * sum > 2 * total := by
  rw [quorum_eq total h0 h]; omega

/-- the live quorum (`≥ quorum`) and the two `>` tests (`VerifyCommit`, `HasTwoThirdsAny`) agree for every total below 2^62 -/
theorem quorum_agrees (sum total : Int) (h0 : 0 ≤ total) (h : total < two62) :
    (quorum total ≤ sum ↔ verifyCommitAccepts sum total = true) ∧
    (quorum total ≤ sum ↔ hasTwoThirdsAny sum total = true) := by
  rw [quorum_iff h0 h, verifyCommitAccepts_iff h0 h, hasTwoThirdsAny_iff h0 h]
  exact ⟨Iff.rfl, Iff.rfl⟩

theorem crossedQuorum_iff (o q n : Int) : crossedQuorum o q n = true ↔ o < q ∧ q ≤ n := by
  unfold crossedQuorum; simp

theorem quorum_le_of_crossed {o q n : Int} {m : Bool} (h : (crossedQuorum o q n && m) = true) : q ≤ n := by
  simp only [Bool.and_eq_true, crossedQuorum_iff] at h
  exact h.1.2

/-- the two structural facts of `VerifyCommit` that the model relies on still hold in the source (T2) -/
theorem verifyCommit_loop_facts : sigCheckedAgainstIndex = true ∧ tallyGuardedByBlockID = true := by decide

/-- WITHOUT the bound the accept test is not a two-thirds test: with total = MaxInt64 (what `TotalVotingPower`
clips to) `total*2` wraps to -2 and one unit of power is "more than two thirds" (why the quantifier says < 2^62) -/
theorem verifyCommitAccepts_overflow_witness : verifyCommitAccepts 1 maxI64 = true ∧ ¬ (3 * (1 : Int) > 2 * maxI64) := by decide

example : verifyCommitAccepts 3 4 = true ∧ verifyCommitAccepts 2 3 = false ∧ quorum 4 = 3 ∧ quorum 3 = 3 := by decide

end Props.C03
