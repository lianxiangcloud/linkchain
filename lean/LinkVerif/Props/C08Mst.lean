/-
C08, MultiSignAccountTx (types/tx_type_mst.go VerifySign): an accepted multi-signature rests on DISTINCT validators, each
with its own valid signature over exactly the transaction's main info, holding more than the threshold
`TotalVotingPower()*2/3` — no validator is counted twice, a signature under another validator's address or over another
main info (any of nonce, supported type, minimum power, signer list changed) is not counted.
The chain parameter is NOT part of the sign bytes (`Props.C08.mst_signs_main_info_only`, T2): stated, not a theorem here.
-/
import LinkVerif.Model.MultiSign

namespace Props.C08
open Model.MultiSign

def sumP (powers : List Int) (s : List Nat) : Int := (s.map fun i => (powers[i]?).getD 0).sum

def Counted (es : List Entry) (ver : Nat → SigKind → Bool) (i : Nat) : Prop :=
  ∃ e ∈ es, e.who = .val i ∧ ver i e.sig = true

/-- the loop invariant: an accepting run from (`seen`, `total`) counts validators `new` beyond `seen`, each once, until the
    power of `new ++ seen` passes the threshold -/
theorem loop_ok (powers : List Int) (thr : Int) (ver : Nat → SigKind → Bool) (es : List Entry) (seen : List Nat)
    (total : Int) (h : loop powers thr ver es seen total = .ok) (hn : seen.Nodup) (ht : total = sumP powers seen) :
    ∃ new : List Nat, (new ++ seen).Nodup ∧ (∀ i ∈ new, Counted es ver i) ∧ sumP powers (new ++ seen) > thr := by
  have mono : ∀ {e es j}, Counted es ver j → Counted (e :: es) ver j :=
    fun ⟨e', he', hh⟩ => ⟨e', List.mem_cons_of_mem _ he', hh⟩
  -- one case per branch of `loop`, the branch conditions as hypotheses: five reject, one skips the entry, two count it
  fun_induction loop powers thr ver es seen total with
  | case1 | case2 | case3 | case4 | case5 => cases h
  | case6 =>
    rename_i ih
    obtain ⟨new, h1, h2, h3⟩ := ih h hn ht
    exact ⟨new, h1, fun j hj => mono (h2 j hj), h3⟩
  | case7 e _ seen _ i hw hc pw hp _ hv hgt =>
    refine ⟨[i], List.nodup_cons.2 ⟨by simpa using hc, hn⟩,
      fun j hj => List.mem_singleton.1 hj ▸ ⟨e, List.mem_cons_self, hw, by simpa using hv⟩, ?_⟩
    simp only [sumP, List.singleton_append, List.map_cons, List.sum_cons, hp, Option.getD_some] at *
    omega
  | case8 e _ seen _ i hw hc pw hp _ hv _ ih =>
    obtain ⟨new, h1, h2, h3⟩ := ih h (List.nodup_cons.2 ⟨by simpa using hc, hn⟩) (by
      simp only [sumP, List.map_cons, List.sum_cons, hp, Option.getD_some] at *
      omega)
    refine ⟨new ++ [i], by rwa [List.append_assoc], fun j hj => ?_, by rwa [List.append_assoc]⟩
    rcases List.mem_append.1 hj with hj | hj
    · exact mono (h2 j hj)
    · exact List.mem_singleton.1 hj ▸ ⟨e, List.mem_cons_self, hw, by simpa using hv⟩

/-- **`mst_accept_quorum`**: acceptance ⇒ a duplicate-free set of validators, each counted for its own verifying
    signature, whose power exceeds the threshold -/
theorem mst_accept_quorum (powers : List Int) (contents : List (Nat × Content)) (cur : Content) (es : List Entry)
    (h : verifySign powers contents cur es = .ok) :
    ∃ S : List Nat, S.Nodup ∧ (∀ i ∈ S, Counted es (verifies contents cur) i) ∧ sumP powers S > threshold powers := by
  unfold verifySign at h
  split at h
  · cases h
  · simpa only [List.append_nil] using loop_ok powers _ _ es [] 0 h List.nodup_nil rfl

/-- **`mst_signature_binds`**: a counted signature was made by that very validator over a main info EQUAL to the
    transaction's (every field: the model compares the whole `Content`) -/
theorem mst_signature_binds (contents : List (Nat × Content)) (cur : Content) (i : Nat) (k : SigKind)
    (h : verifies contents cur i k = true) :
    ∃ c, k = .ok i c ∧ (contents.find? (·.1 == c)).map (·.2) = some cur := by
  cases k with
  | ok j c =>
    simp only [verifies, Bool.and_eq_true, beq_iff_eq] at h
    exact ⟨c, by rw [h.1], h.2⟩
  | bad | unparse | empty => cases h

/-- the threshold is the usual one when the doubled total fits an int64 -/
theorem threshold_two_thirds (powers : List Int) (h : Go.InI64 (totalPower powers * 2)) :
    threshold powers = Int.tdiv (totalPower powers * 2) 3 := by
  unfold threshold; rw [Go.wrapI64_id h]

def c0 : Content := ⟨7, 1, 2, [([0xaa], 1)]⟩
def c1 : Content := ⟨8, 1, 2, [([0xaa], 1)]⟩

/-- non-vacuity: 3 validators of power 1; two signatures are insufficient (2 > 3*2/3 = 2 is false), all three are accepted -/
example : verifySign [1, 1, 1] [(0, c0)] c0 [⟨.val 0, .ok 0 0⟩, ⟨.val 1, .ok 1 0⟩] = .insufficient := by decide
example : verifySign [1, 1, 1] [(0, c0)] c0 [⟨.val 0, .ok 0 0⟩, ⟨.val 1, .ok 1 0⟩, ⟨.val 2, .ok 2 0⟩] = .ok := by decide
/-- the same validator twice is an error, not a second vote -/
example : verifySign [1, 1, 1] [(0, c0)] c0 [⟨.val 0, .ok 0 0⟩, ⟨.val 0, .ok 0 0⟩, ⟨.val 1, .ok 1 0⟩] = .dup := by decide
/-- signatures over a main info with another nonce are not counted -/
example : verifySign [1, 1, 1] [(0, c0), (1, c1)] c1 [⟨.val 0, .ok 0 0⟩, ⟨.val 1, .ok 1 0⟩, ⟨.val 2, .ok 2 0⟩] = .insufficient := by
  decide
/-- a signature under another validator's address is not counted -/
example : verifySign [1, 5] [(0, c0)] c0 [⟨.val 1, .ok 0 0⟩] = .insufficient := by decide

end Props.C08
