/-
C10: `insert` on terminator keys never panics, keeps the normal form, and lookups return the last written value.
-/
import LinkVerif.Props.C10Canon

namespace Props.C10
open Model.Trie

/-- the three outcomes of `insert` at a short node, without `split` -/
theorem insert_short_cases (k : List Nib) (c : Node) (key : List Nib) (hk : key ≠ []) (value : Node) :
    (∃ keyRest, key = k ++ keyRest ∧ insert (.short k c) key value = (insert c keyRest value).map (.short k)) ∨
    (∃ x xr, k = key ++ x :: xr) ∨
    (∃ p x xr y yr, x ≠ y ∧ key = p ++ y :: yr ∧ k = p ++ x :: xr ∧
      insert (.short k c) key value = some (insertNil p (.full (branch2 x (insertNil xr c) y (insertNil yr value))))) := by
  cases key with
  | nil => exact absurd rfl hk
  | cons a as =>
    simp only [Model.Trie.insert]
    rcases split_cases (a :: as) k with ⟨h, e⟩ | ⟨y, r, h, _⟩ | ⟨x, r, h, e⟩ | ⟨p, y, x, yr, xr, hyx, h1, h2, e⟩
    · exact Or.inl ⟨[], by rw [← h, List.append_nil], by rw [e]⟩
    · exact Or.inr (Or.inl ⟨y, r, h⟩)
    · exact Or.inl ⟨x :: r, h, by rw [e]⟩
    · refine Or.inr (Or.inr ⟨p, x, xr, y, yr, Ne.symm hyx, h1, h2, ?_⟩)
      rw [e]
      cases p <;> rfl

theorem get_insertNil (s : List Nib) (n : Node) (r : List Nib) :
    Model.Trie.get (insertNil s n) r = (strip s r).bind (Model.Trie.get n) := by
  cases s with
  | nil => simp [insertNil, strip]
  | cons a s => simp only [insertNil]; exact get_short_bind _ _ _

theorem wf_insertNil {s : List Nib} {n : Node} (hw : WF n) (h : s ≠ [] → KeyOK n.isValue s ∧ n.isShort = false) :
    WF (insertNil s n) := by
  cases s with
  | nil => exact hw
  | cons a s => exact ⟨(h (by simp)).1, (h (by simp)).2, hw⟩

theorem isNil_insertNil {s : List Nib} {n : Node} (h : n.isNil = false) : (insertNil s n).isNil = false := by
  cases s with
  | nil => exact h
  | cons a s => rfl

/-- a terminator key is a prefix of another one only if they are equal -/
theorem strip_suf {key key' : List Nib} (hk : Suf key) (hne : key ≠ []) (hk' : Suf key') :
    strip key key' = if key' = key then some [] else none := by
  by_cases e : key' = key
  · rw [if_pos e, e]; exact strip_eq_some.mpr (List.append_nil key).symm
  · rw [if_neg e]
    cases hst : strip key key' with
    | none => rfl
    | some r =>
      have e2 := strip_eq_some.mp hst
      have hr : r = [] := ((suf_append_iff (keyOK_of_suf hk hne)).mp (e2 ▸ hk')).2.mpr rfl
      rw [hr, List.append_nil] at e2
      exact absurd e2 e

/-- the new branch of `insert` at a short node answers like the old short node plus the new key -/
theorem get_branch {x y : Nib} (hxy : x ≠ y) (xr yr : List Nib) (c : Node) (v : Bytes) (i : Nib) (r : List Nib)
    (hy : Suf (y :: yr)) (hr : Suf (i :: r)) :
    Model.Trie.get (.full (branch2 x (insertNil xr c) y (insertNil yr (.value v)))) (i :: r) =
      if i :: r = y :: yr then some v else Model.Trie.get (.short (x :: xr) c) (i :: r) := by
  rw [get_full_cons, get_short_bind]
  simp only [branch2]
  by_cases hiy : i = y
  · subst hiy
    rw [if_pos rfl, get_insertNil, ← strip_cons_eq i yr r, strip_suf hy (List.cons_ne_nil _ _) hr, strip_cons_ne hxy]
    by_cases e : i :: r = i :: yr
    · rw [if_pos e, if_pos e]; rfl
    · rw [if_neg e, if_neg e]; rfl
  · rw [if_neg hiy, if_neg (fun e => hiy (List.cons.inj e).1)]
    by_cases hix : i = x
    · subst hix
      rw [if_pos rfl, get_insertNil, strip_cons_eq]
    · rw [if_neg hix, strip_cons_ne (Ne.symm hix)]
      rfl

/-- Replacing what lies below the prefix `k`: if the new subtree answers like the old one except at `r0`, the whole
answers like before except at `k ++ r0`.  The short-node case of both `insert` and `delete`. -/
theorem bind_strip_update {k r0 : List Nib} {o : Option Bytes} {g g' : List Nib → Option Bytes} {key' : List Nib}
    (h : ∀ r, key' = k ++ r → g' r = if r = r0 then o else g r) :
    (strip k key').bind g' = if key' = k ++ r0 then o else (strip k key').bind g := by
  cases hst : strip k key' with
  | none =>
    rw [if_neg (fun e => by rw [e, strip_append] at hst; cases hst)]
    rfl
  | some r =>
    have e := strip_eq_some.mp hst
    show g' r = if key' = k ++ r0 then o else g r
    rw [h r e, e]
    by_cases hr : r = r0
    · rw [if_pos hr, if_pos (by rw [hr])]
    · rw [if_neg hr, if_neg (fun e' => hr (List.append_cancel_left e'))]

/-- The full-node case of both `insert` and `delete`: child `a` replaced by a node that answers like the old child except
at `as`. -/
theorem get_setChild_update {c : Nib → Node} {a i : Nib} {n' : Node} {as r : List Nib} {o : Option Bytes}
    (h : i = a → Model.Trie.get n' r = if r = as then o else Model.Trie.get (c a) r) :
    Model.Trie.get (.full (setChild c a n')) (i :: r) =
      if i :: r = a :: as then o else Model.Trie.get (.full c) (i :: r) := by
  simp only [get_full_cons, setChild]
  by_cases hia : i = a
  · subst hia
    rw [if_pos rfl, h rfl]
    simp only [List.cons.injEq, true_and]
  · rw [if_neg hia, if_neg (fun e => hia (List.cons.inj e).1)]

theorem branch2_eq_setChild (i : Nib) (a : Node) (j : Nib) (b : Node) :
    branch2 i a j b = setChild (setChild (fun _ => .nil) i a) j b := rfl

theorem children_setChild {c : Nib → Node} {i : Nib} {nn : Node}
    (hall : ∀ j, (c j).isNil = true ∨ (WF (c j) ∧ ((c j).isValue = true ↔ j = term)))
    (hp : Pos (decide (i = term)) nn) (j : Nib) :
    (setChild c i nn j).isNil = true ∨ (WF (setChild c i nn j) ∧ ((setChild c i nn j).isValue = true ↔ j = term)) := by
  simp only [setChild]
  by_cases hji : j = i
  · rw [if_pos hji, hji]
    exact hp.imp id fun ⟨hw, hv⟩ => ⟨hw, by rw [hv, decide_eq_true_iff]⟩
  · rw [if_neg hji]; exact hall j

/-- `n` hung below nibble `a` with the rest `s` of its key is a position of `a`'s kind: both children of a new branch -/
theorem pos_insertNil {a : Nib} {s : List Nib} {n : Node} (hw : WF n) (hs : n.isShort = false)
    (hk : KeyOK n.isValue (a :: s)) : Pos (decide (a = term)) (insertNil s n) := by
  rcases keyOK_cons.mp hk with ⟨rfl, h2⟩ | ⟨h1, h2, h3⟩
  · exact Or.inr ⟨hw, isValue_eq_decide h2.symm⟩
  · cases s with
    | nil => exact absurd rfl h1
    | cons b s' => exact Or.inr ⟨⟨h3, hs, hw⟩, (decide_eq_false h2).symm⟩

/-- INSERT, all clauses at once (positional form): no panic, normal form kept, kind kept, lookups updated -/
theorem insert_spec (x : Bytes) : ∀ (n : Node) (v : Bool) (key : List Nib), Pos v n → KeyAt v key →
    ∃ n', Model.Trie.insert n key (.value x) = some n' ∧ WF n' ∧ n'.isValue = v ∧
      (n.isNil = false → n.isShort = false → n'.isShort = false) ∧
      ∀ key', KeyAt v key' → Model.Trie.get n' key' = if key' = key then some x else Model.Trie.get n key' := by
  intro n v key hp
  -- writing at the position itself (`key = []`, just past the terminator) replaces the value
  have atValue : ∀ n : Node, ∃ n', Model.Trie.insert n [] (.value x) = some n' ∧ WF n' ∧ n'.isValue = true ∧
      (n.isNil = false → n.isShort = false → n'.isShort = false) ∧
      ∀ key', KeyAt true key' → Model.Trie.get n' key' = if key' = [] then some x else Model.Trie.get n key' :=
    fun n => ⟨.value x, by cases n <;> rfl, trivial, rfl, fun _ _ => rfl,
      fun key' hk' => by rw [keyAt_true.mp hk', if_pos rfl]; rfl⟩
  induction v, n, hp using pos_induction generalizing key with
  | nil v =>
    intro hk
    cases key with
    | nil => obtain rfl : v = true := hk.2.mp rfl; exact atValue .nil
    | cons a as =>
      obtain rfl : v = false := false_of_keyAt_cons hk
      refine ⟨.short (a :: as) (.value x), rfl, ⟨keyOK_of_suf hk.1 (List.cons_ne_nil a as), rfl, trivial⟩, rfl,
        fun h => Bool.noConfusion h, fun key' hk' => ?_⟩
      rw [get_short_bind, strip_suf hk.1 (List.cons_ne_nil a as) hk'.1]
      by_cases e : key' = a :: as
      · rw [if_pos e, if_pos e]; rfl
      · rw [if_neg e, if_neg e]; rfl
  | value w => intro hk; rw [keyAt_true.mp hk]; exact atValue (.value w)
  | full c hw ih =>
    intro hk
    obtain ⟨a, as, rfl⟩ := keyAt_false_cons hk
    obtain ⟨n'', hins, hwf, hval, _, hget⟩ := ih a as (keyAt_of_cons hk)
    obtain ⟨hall, i0, j0, hij, hi0, hj0⟩ := hw
    have hnn : ∀ m, (c m).isNil = false → (setChild c a n'' m).isNil = false := fun m hm => by
      simp only [setChild]
      by_cases h : m = a
      · rw [if_pos h]; exact wf_not_nil hwf
      · rw [if_neg h]; exact hm
    refine ⟨.full (setChild c a n''), by simp only [Model.Trie.insert, hins, Option.map],
      ⟨children_setChild hall (Or.inr ⟨hwf, hval⟩), i0, j0, hij, hnn i0 hi0, hnn j0 hj0⟩, rfl, fun _ _ => rfl,
      fun key' hk' => ?_⟩
    obtain ⟨i, r, rfl⟩ := keyAt_false_cons hk'
    exact get_setChild_update fun hia => hget r (hia ▸ keyAt_of_cons hk')
  | short k c hkk hcs hwc ih =>
    intro hk
    obtain ⟨a, as, rfl⟩ := keyAt_false_cons hk
    rcases insert_short_cases k c (a :: as) (List.cons_ne_nil a as) (.value x) with
      ⟨keyRest, e1, e2⟩ | ⟨x', xr, e⟩ | ⟨p, x', xr, y, yr, hxy, e1, e2, e3⟩
    · -- the whole short key matches: descend
      have hkr : KeyAt c.isValue keyRest := (suf_append_iff hkk).mp (e1 ▸ hk.1)
      obtain ⟨n'', hins, hwf, hval, hsh, hget⟩ := ih keyRest hkr
      refine ⟨.short k n'', by rw [e2, hins]; rfl, ⟨hval.symm ▸ hkk, hsh (wf_not_nil hwc) hcs, hwf⟩, rfl,
        fun _ h => Bool.noConfusion h, fun key' hk' => ?_⟩
      rw [get_short_bind, get_short_bind, e1]
      exact bind_strip_update fun r e => hget r ((suf_append_iff hkk).mp (e ▸ hk'.1))
    · -- the key ends inside the short key: impossible for terminator keys
      exact absurd (e ▸ hkk) (keyOK_true_no_ext x' xr (keyOK_of_suf hk.1 (List.cons_ne_nil a as)))
    · -- branch out
      have hy : Suf (y :: yr) := suf_drop (e1 ▸ hk.1)
      have hkx : KeyOK c.isValue (x' :: xr) := keyOK_drop (e2 ▸ hkk) (List.cons_ne_nil x' xr)
      have hbr : WF (.full (branch2 x' (insertNil xr c) y (insertNil yr (.value x)))) := by
        rw [branch2_eq_setChild]
        refine ⟨children_setChild (children_setChild (fun _ => Or.inl rfl) (pos_insertNil hwc hcs hkx))
          (pos_insertNil trivial rfl (keyOK_of_suf hy (List.cons_ne_nil y yr))), x', y, hxy, ?_, ?_⟩
        · simp only [setChild, hxy, if_false, if_true]; exact isNil_insertNil (wf_not_nil hwc)
        · simp only [setChild, if_true]; exact isNil_insertNil rfl
      refine ⟨_, e3, wf_insertNil hbr (fun hne => ⟨keyOK_prefix (e2 ▸ hkk) hne, rfl⟩),
        by cases p <;> rfl, fun _ h => by cases p <;> exact Bool.noConfusion h, fun key' hk' => ?_⟩
      rw [get_insertNil, get_short_bind, e2, strip_append_bind, e1, Option.bind_assoc]
      refine bind_strip_update fun s e' => ?_
      cases s with
      | nil => rw [if_neg (List.cons_ne_nil y yr).symm]; rfl
      | cons i r =>
        rw [get_branch hxy xr yr c x i r hy (suf_drop (e' ▸ hk'.1)), get_short_bind]

end Props.C10
