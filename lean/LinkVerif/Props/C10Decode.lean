/-
C10: the executable decoder inverts the honest node encoder: `decodeNode (enc H s ++ rest) = collapse H s` (`decode_enc`).
So the decoder hypothesis of the verification walks of C10Proof is a theorem for the EXECUTABLE verifier (`verifyExec` =
VerifyProof with `decodeNode`): `decodeExec_path`, and the executable statements in C10.lean have hash hypotheses only:
32-byte outputs and `NoColl`.  (`Function.Injective H` together with 32-byte outputs is unsatisfiable — pigeonhole — hence
the relative form `NoColl`, which `Function.Injective H` implies.)
-/
import LinkVerif.Props.C10Compact
import LinkVerif.Props.C10Proof

namespace Props.C10
open Model.Trie

/-- the hash has 32-byte outputs (what `decodeRef` recognises as a hash reference) -/
def H32 (H : Bytes → Bytes) : Prop := ∀ b, (H b).length = 32

/-- data precondition: every node encoding has a length `putint` can write (< 2^64) and no stored value is empty
(`Update` with an empty value deletes) -/
def Sane (H : Bytes → Bytes) : Node → Prop
  | .nil => True
  | .value v => v ≠ [] ∧ Sz v.length
  | .short k c => Sz (enc H (.short k c)).length ∧ Sane H c
  | .full c => Sz (enc H (.full c)).length ∧ ∀ i, Sane H (c i)

theorem sz_le {a b : Nat} (h : Sz b) (hab : a ≤ b) : Sz a := Nat.lt_of_le_of_lt hab h

theorem sz_small {n : Nat} (h : n ≤ 32) : Sz n := Nat.lt_of_le_of_lt h (by decide)

section
variable (H : Bytes → Bytes) (rec : Bytes → Dec CNode)

/-- `rec` is right on `c` where `c` stands embedded in its parent: what `decode_enc` knows of the decoder one level down -/
def RecOK (c : Node) : Prop :=
  WF c → c.isValue = false → (enc H c).length < 32 → ∀ rest, rec (enc H c ++ rest) = .ok (collapse H c)

theorem slot_false (c : Node) :
    slot H false c = if (enc H c).length < 32 then collapse H c else .hash (H (enc H c)) := by
  simp only [slot, Bool.false_or, decide_eq_true_eq]

theorem rlpList_length (p : Bytes) : (rlpList p).length = (rlpHead 192 p.length).length + p.length := by
  simp [rlpList]

theorem rlpStr_length_ge (b : Bytes) : b.length ≤ (rlpStr b).length := by
  unfold rlpStr
  split
  · split <;> simp
  · simp

theorem isEmpty_rlpList (p rest : Bytes) : (rlpList p ++ rest).isEmpty = false := by
  have := rlpHead_length_pos 192 p.length
  cases h : rlpList p ++ rest with
  | nil =>
    have h' := congrArg List.length h
    simp only [rlpList, List.length_append, List.length_nil] at h'; omega
  | cons a l => rfl

theorem length_le_flatMap {α : Type} (l : List α) (F : α → Bytes) (i : α) (hi : i ∈ l) :
    (F i).length ≤ (l.flatMap F).length := by
  induction l with
  | nil => cases hi
  | cons a l ih =>
    simp only [List.flatMap_cons, List.length_append]
    rcases List.mem_cons.mp hi with rfl | h
    · omega
    · have := ih h; omega

theorem enc_list : ∀ (c : Node), WF c → c.isValue = false → ∃ p, enc H c = rlpList p
  | .nil, h, _ => absurd h (by simp [WF])
  | .value _, _, h => by simp [Node.isValue] at h
  | .short _ _, _, _ => ⟨_, by simp only [enc]; rfl⟩
  | .full _, _, _ => ⟨_, by simp only [enc]; rfl⟩

theorem rlpStr_nil : rlpStr [] = [0x80] := by decide

theorem embed_nil : embed H (enc H .nil) = rlpStr [] := by
  simp [embed, enc, rlpStr_nil]

theorem slot_nil : slot H false .nil = .nil := by
  simp [slot, enc, collapse]

/-- a reference is one value: an embedded node is a list shorter than 32 bytes, any other a 32-byte string -/
theorem item_embed (h32 : H32 H) (c : Node) (hc : Pos false c) :
    Item (embed H (enc H c)) := by
  rcases hc with h0 | ⟨hw, hv⟩
  · rw [isNil_eq h0, embed_nil]; exact item_str (sz_small (Nat.zero_le _))
  · obtain ⟨p, hp⟩ := enc_list H c hw hv
    unfold embed
    split
    · next hsmall =>
      rw [hp] at hsmall ⊢
      exact item_list (sz_small (by rw [rlpList_length] at hsmall; omega))
    · exact item_str (sz_small (Nat.le_of_eq (h32 _)))

theorem decodeRef_str {b : Bytes} (hb : Sz b.length) (rest : Bytes) :
    decodeRefWith rec (rlpStr b ++ rest) =
      if b.length == 0 then .ok (.nil, rest) else if b.length == 32 then .ok (.hash b, rest) else .err := by
  obtain ⟨k, hk, h⟩ := rsplit_str hb rest
  unfold decodeRefWith
  rw [h]
  cases k <;> first | exact absurd rfl hk | rfl

theorem decodeRef_list {p : Bytes} (hp : Sz p.length) (rest : Bytes)
    (hsmall : (rlpList p).length ≤ 32) {n : CNode} (hrec : rec (rlpList p ++ rest) = .ok n) :
    decodeRefWith rec (rlpList p ++ rest) = .ok (n, rest) := by
  unfold decodeRefWith
  rw [rsplit_list hp rest]
  simp only [dec_ok_bind]
  rw [if_pos (show (Kind.list == Kind.list) = true from rfl), if_neg (by rw [List.length_append]; omega), hrec]
  rfl

theorem decodeRef_embed (h32 : H32 H) (c : Node) (hc : Pos false c)
    (hrec : RecOK H rec c) (rest : Bytes) :
    decodeRefWith rec (embed H (enc H c) ++ rest) = .ok (slot H false c, rest) := by
  rcases hc with h0 | ⟨hw, hv⟩
  · rw [isNil_eq h0, embed_nil, slot_nil, decodeRef_str rec (b := []) (sz_small (Nat.zero_le _))]
    rfl
  · rw [slot_false]
    unfold embed
    by_cases hsmall : (enc H c).length < 32
    · rw [if_pos hsmall, if_pos hsmall]
      obtain ⟨p, hp⟩ := enc_list H c hw hv
      have hr := hrec hw hv hsmall rest
      rw [hp] at hr hsmall ⊢
      have hsz : Sz p.length := sz_small (by rw [rlpList_length] at hsmall; omega)
      exact decodeRef_list rec hsz rest (Nat.le_of_lt hsmall) hr
    · rw [if_neg hsmall, if_neg hsmall, decodeRef_str rec (sz_small (Nat.le_of_eq (h32 _))) rest, h32]
      rfl

theorem decodeRefs_children (h32 : H32 H) :
    ∀ (cs : List Node), (∀ c ∈ cs, Pos false c ∧ RecOK H rec c) →
      ∀ rest, decodeRefsWith rec cs.length ((cs.map fun c => embed H (enc H c)).flatten ++ rest) =
        .ok (cs.map (slot H false), rest) := by
  intro cs
  induction cs with
  | nil => exact fun _ _ => rfl
  | cons c cs ih =>
    intro h rest
    obtain ⟨h1, h3⟩ := h c List.mem_cons_self
    simp only [List.map_cons, List.flatten_cons, List.length_cons, decodeRefsWith, List.append_assoc]
    rw [decodeRef_embed H rec h32 c h1 h3]
    simp only [dec_ok_bind, ih (fun c' hc' => h c' (List.mem_cons_of_mem _ hc')) rest, dec_pure]

theorem countValues_two {a b : Bytes} (ha : Item a) (hb : Item b) : countValues (a ++ b) = .ok 2 := by
  have := countValues_items [a, b] fun it hit => by
    rcases List.mem_cons.mp hit with rfl | hit
    · exact ha
    · rw [List.mem_singleton.mp hit]; exact hb
  rwa [show [a, b].flatten = a ++ b from by simp] at this

theorem decodeNode_list (f : Nat) (p rest : Bytes) (hp : Sz p.length) (n : Nat) (hc : countValues p = .ok n) :
    decodeNode (f + 1) (rlpList p ++ rest) =
      (if n == 2 then decodeShortWith (decodeNode f) p
       else if n == 17 then decodeFullWith (decodeNode f) p else .err) := by
  simp only [decodeNode, isEmpty_rlpList, Bool.false_eq_true, if_false, splitList_list hp rest, dec_ok_bind, hc]

theorem decodeShort_key {t : Bool} {k : List Nib} (hk : KeyOK t k) (hck : Sz (hexToCompact k).length) (tail : Bytes) :
    decodeShortWith rec (rlpStr (hexToCompact k) ++ tail) =
      if t then splitString tail >>= fun p => pure (.short k (.value p.1))
      else decodeRefWith rec tail >>= fun p => pure (.short k p.1) := by
  obtain ⟨h1, h2⟩ := compact_roundtrip hk
  unfold decodeShortWith
  rw [splitString_str hck]
  simp only [dec_ok_bind, h1, h2]

theorem castSucc_ne_term (j : Fin 16) : (j.castSucc : Nib) ≠ term := by
  intro e
  have := congrArg Fin.val e
  simp [term] at this
  omega

/-- what the list of a full node holds: the 16 child references and the value slot, written out -/
def fullPayload (c : Nib → Node) : Bytes :=
  (List.finRange 17).flatMap fun i => if i = term then enc H (c i) else embed H (enc H (c i))

theorem enc_full (c : Nib → Node) : enc H (.full c) = rlpList (fullPayload H c) := by
  simp only [enc, fullPayload]

theorem enc_short (k : List Nib) (c : Node) : enc H (.short k c) =
    rlpList (rlpStr (hexToCompact k) ++ (if c.isValue then enc H c else embed H (enc H c))) := by
  simp only [enc]

theorem map_finRange17 {α : Type} (F : Nib → α) :
    (List.finRange 17).map F = (List.finRange 16).map (fun j => F j.castSucc) ++ [F term] := by
  rw [List.finRange_succ_last, List.map_append, List.map_map]; rfl

theorem fullPayload_eq (c : Nib → Node) : fullPayload H c =
    (((List.finRange 16).map (fun j => c j.castSucc)).map (fun n => embed H (enc H n))).flatten ++ enc H (c term) := by
  rw [fullPayload, List.flatMap_def, map_finRange17, List.flatten_append, List.flatten_singleton, if_pos rfl, List.map_map]
  exact congrArg (·.flatten ++ _) (List.map_congr_left fun j _ => if_neg (castSucc_ne_term j))

theorem getD_map_finRange (Y : Nib → CNode) (i : Nib) : ((List.finRange 17).map Y).getD i.val .nil = Y i := by
  simp [List.getD_eq_getElem?_getD]

/-- a written-out slot (`Pos true`) holds nothing or a value: its encoding is a string, empty for nothing -/
theorem enc_value_slot {c : Node} (hp : Pos true c) (hs : Sane H c) :
    ∃ w, enc H c = rlpStr w ∧ Sz w.length ∧ collapse H c = if w.isEmpty then .nil else .value w := by
  rcases pos_true_cases hp with rfl | ⟨w, rfl⟩
  · exact ⟨[], rlpStr_nil.symm, sz_small (Nat.zero_le _), rfl⟩
  · exact ⟨w, rfl, hs.2, by cases w with | nil => exact absurd rfl hs.1 | cons _ _ => rfl⟩

theorem decodeFull_enc (h32 : H32 H) (c : Nib → Node)
    (hw : WF (.full c)) (hs : ∀ i, Sane H (c i)) (hrec : ∀ i, i ≠ term → RecOK H rec (c i)) :
    countValues (fullPayload H c) = .ok 17 ∧ decodeFullWith rec (fullPayload H c) = .ok (collapse H (.full c)) := by
  rw [fullPayload_eq]
  have hL : ∀ n ∈ (List.finRange 16).map (fun j => c j.castSucc), Pos false n ∧ RecOK H rec n := by
    intro n hn
    obtain ⟨j, _, rfl⟩ := List.mem_map.mp hn
    have hp := pos_child hw j.castSucc
    rw [decide_eq_false (castSucc_ne_term j)] at hp
    exact ⟨hp, hrec _ (castSucc_ne_term j)⟩
  obtain ⟨w, hw16, hsz16, hcol16⟩ := enc_value_slot H (pos_child hw term) (hs term)
  rw [hw16]
  constructor
  · have := countValues_items
      (((List.finRange 16).map (fun j => c j.castSucc)).map (fun n => embed H (enc H n)) ++ [rlpStr w]) (by
        intro it hit
        rcases List.mem_append.mp hit with h | h
        · obtain ⟨n, hn, rfl⟩ := List.mem_map.mp h
          exact item_embed H h32 n (hL n hn).1
        · rw [List.mem_singleton.mp h]; exact item_str hsz16)
    simpa using this
  · have hcs := decodeRefs_children H rec h32 _ hL (rlpStr w)
    simp only [List.length_map, List.length_finRange] at hcs
    have hsp := splitString_str hsz16 []
    rw [List.append_nil] at hsp
    unfold decodeFullWith
    rw [hcs]
    simp only [dec_ok_bind, hsp, dec_pure, collapse_full]
    congr 2
    funext i
    -- the 16 references followed by the value slot are the children of the collapsed node, in index order
    have hlist : List.map (slot H false) (List.map (fun j => c j.castSucc) (List.finRange 16)) ++
          [if w.isEmpty then CNode.nil else CNode.value w] =
        (List.finRange 17).map (fun i =>
          slot H (decide (i = term)) (c i)) := by
      rw [map_finRange17, List.map_map, ← hcol16]
      exact congrArg (· ++ _) (List.map_congr_left fun j _ => by rw [decide_eq_false (castSucc_ne_term j)]; rfl)
    rw [hlist]; exact getD_map_finRange _ i

/-- an embedded child is part of its parent's payload, hence shorter than the parent -/
theorem enc_short_child_lt (k : List Nib) (c : Node) (hv : c.isValue = false)
    (hsmall : (enc H c).length < 32) : (enc H c).length < (enc H (.short k c)).length := by
  have := rlpHead_length_pos 192 (rlpStr (hexToCompact k) ++ enc H c).length
  rw [enc_short, hv, if_neg Bool.false_ne_true, show embed H (enc H c) = enc H c from if_pos hsmall, rlpList_length,
    List.length_append]
  rw [List.length_append] at this
  omega

theorem enc_full_child_lt (c : Nib → Node) (i : Nib) (hi : i ≠ term)
    (hsmall : (enc H (c i)).length < 32) : (enc H (c i)).length < (enc H (.full c)).length := by
  have hle : _ ≤ (fullPayload H c).length := length_le_flatMap _ _ i (List.mem_finRange _)
  simp only [hi, if_false, show embed H (enc H (c i)) = enc H (c i) from if_pos hsmall] at hle
  rw [enc_full, rlpList_length]
  exact Nat.lt_of_le_of_lt hle (Nat.lt_add_of_pos_left (rlpHead_length_pos 192 _))

theorem decodeNode_short (h32 : H32 H) (f : Nat) (k : List Nib) (c : Node) (rest : Bytes)
    (hw : WF (.short k c)) (hs : Sane H (.short k c))
    (hrec : RecOK H (decodeNode f) c) :
    decodeNode (f + 1) (enc H (.short k c) ++ rest) = .ok (collapse H (.short k c)) := by
  obtain ⟨hkk, hcs, hwc⟩ := hw
  obtain ⟨hsz, hsc⟩ := hs
  rw [enc_short] at hsz ⊢
  have hP : Sz (rlpStr (hexToCompact k) ++ (if c.isValue then enc H c else embed H (enc H c))).length :=
    sz_le hsz (by rw [rlpList_length]; omega)
  have hck : Sz (hexToCompact k).length :=
    sz_le hP (by have := rlpStr_length_ge (hexToCompact k); rw [List.length_append]; omega)
  cases c with
  | nil => exact hwc.elim
  | short _ _ => exact Bool.noConfusion hcs
  | value v =>
    simp only [Node.isValue, if_true] at hP ⊢
    rw [decodeNode_list f _ rest hP 2 (countValues_two (item_str hck) (item_str hsc.2)), if_pos (beq_self_eq_true 2),
      decodeShort_key (t := true) _ hkk hck, if_pos rfl, show enc H (.value v) = rlpStr v from rfl,
      ← List.append_nil (rlpStr v), splitString_str hsc.2]
    rfl
  | full d =>
    have hrc : Pos false (.full d) := Or.inr ⟨hwc, rfl⟩
    simp only [Node.isValue, Bool.false_eq_true, if_false] at hP ⊢
    rw [decodeNode_list f _ rest hP 2 (countValues_two (item_str hck) (item_embed H h32 _ hrc)),
      if_pos (beq_self_eq_true 2), decodeShort_key (t := false) _ hkk hck, if_neg Bool.false_ne_true,
      ← List.append_nil (embed H _), decodeRef_embed H _ h32 _ hrc hrec, collapse_short]
    -- `rfl` would compare the two slots by unfolding the encoder
    simp only [dec_ok_bind, dec_pure, Node.isValue]

theorem decodeNode_full (h32 : H32 H) (f : Nat) (c : Nib → Node) (rest : Bytes)
    (hw : WF (.full c)) (hs : Sane H (.full c))
    (hrec : ∀ i, i ≠ term → RecOK H (decodeNode f) (c i)) :
    decodeNode (f + 1) (enc H (.full c) ++ rest) = .ok (collapse H (.full c)) := by
  obtain ⟨hsz, hsc⟩ := hs
  rw [enc_full] at hsz ⊢
  obtain ⟨hcount, hdec⟩ := decodeFull_enc H (decodeNode f) h32 c hw hsc hrec
  rw [decodeNode_list f _ rest (sz_le hsz (by rw [rlpList_length]; omega)) 17 hcount]
  exact hdec

end

/-- ROUND TRIP: the executable decoder inverts the honest encoder on normal-form short/full nodes
(whatever follows the node in the buffer, with fuel above the encoding length) -/
theorem decode_enc (H : Bytes → Bytes) (h32 : H32 H) : ∀ (s : Node), WF s → s.isValue = false → Sane H s →
    ∀ (fuel : Nat) (rest : Bytes), (enc H s).length < fuel → decodeNode fuel (enc H s ++ rest) = .ok (collapse H s) := by
  intro s
  induction s with
  | nil => exact fun hw => hw.elim
  | value _ => exact fun _ hv => Bool.noConfusion hv
  | short k c ih =>
    intro hw _ hs fuel rest hf
    cases fuel with
    | zero => exact absurd hf (Nat.not_lt_zero _)
    | succ f =>
      exact decodeNode_short H h32 f k c rest hw hs fun hwc hv hsmall rest' =>
        ih hwc hv hs.2 f rest' (by have := enc_short_child_lt H k c hv hsmall; omega)
  | full c ih =>
    intro hw _ hs fuel rest hf
    cases fuel with
    | zero => exact absurd hf (Nat.not_lt_zero _)
    | succ f =>
      exact decodeNode_full H h32 f c rest hw hs fun i hi hwi hvi hsmall rest' =>
        ih i hwi hvi (hs.2 i) f rest' (by have := enc_full_child_lt H c i hi hsmall; omega)

theorem sane_path (H : Bytes → Bytes) (s : Node) (key : List Nib) (t : Node) (h : t ∈ path s key) (hs : Sane H s) :
    Sane H t :=
  (path_closed (P := Sane H) (fun _ _ h => h.2) (fun _ i h => h.2 i) s key t h hs).1

theorem decodeExec_enc (H : Bytes → Bytes) (h32 : H32 H) (s : Node) (hw : WF s) (hv : s.isValue = false)
    (hs : Sane H s) : decodeExec (enc H s) = .ok (collapse H s) := by
  unfold decodeExec
  have := decode_enc H h32 s hw hv hs ((enc H s).length + 1) [] (by omega)
  rwa [List.append_nil] at this

/-- the node encoding is injective up to `collapse` (no hash assumption): equal bytes decode to the same node -/
theorem enc_injective_collapse (H : Bytes → Bytes) (h32 : H32 H) (a b : Node) (ha : WF a) (hb : WF b)
    (hva : a.isValue = false) (hvb : b.isValue = false) (hsa : Sane H a) (hsb : Sane H b)
    (h : enc H a = enc H b) : collapse H a = collapse H b := by
  have h1 := decodeExec_enc H h32 a ha hva hsa
  have h2 := decodeExec_enc H h32 b hb hvb hsb
  rw [h, h2] at h1
  exact (Dec.ok.inj h1).symm

theorem decodeExec_path (H : Bytes → Bytes) (h32 : H32 H) {s : Node} {key : List Nib} (hs : Sane H s) :
    ∀ t ∈ path s key, WF t → decodeExec (enc H t) = .ok (collapse H t) :=
  fun t ht hw => decodeExec_enc H h32 t hw (path_nonvalue s key t ht) (sane_path H s key t ht hs)

end Props.C10
