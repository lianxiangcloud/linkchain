import LinkVerif.Props.C06Lemmas

/-!
# C07 — every spendable unit is spent at most once across the whole chain

Two kinds of spendable unit:
* a confidential output, identified on chain by its key image (= output id in the model): the committed key-image list
  `spentImgs` never holds an image twice, along EVERY sequence of submissions, mempool blocks, forced (Byzantine) blocks
  and restarts (`keyimage_once`); a committed image is refused forever, at admission and in any block
  (`spent_refused_forever`);
* an account transaction, identified by (sender, nonce): a block executes it only at the exact committed nonce
  (`exact_nonce`), executing it bumps that nonce (`nonce_step`), committed nonces never decrease (`nonce_monotone`), so it
  is invalid in every later state (`account_tx_once`).

What a block does to nonces and key images is proved for the receipt-accurate execution `execBlockR` (namespace
`Props.C07R`); the strict `execBlock` is its restriction to blocks without failed receipts (`execBlock_sub_R`).
All statements here are about the model as it is (no honesty hypothesis): the double-spend guards of the code hold
unconditionally.  (Value conservation does not: see `Props.C06`.)
-/
namespace Props.C07
open Model.Ledger
open Props.C06 (execTx_nonce getn_setN)

section
variable {s : St} {seen : List Nat} {t : TxRec}

theorem txValid_uin (hk : t.kind = .uin) :
    txValid s seen t = true ↔ t.spends ∉ s.spentImgs ∧ t.spends ∉ seen := by
  simp [txValid, hk]

theorem txValid_acct_nonce (hk : t.kind ≠ .uin) (hv : txValid s seen t = true) :
    getn s.nonce t.from_ = t.nonce := by
  cases hk' : t.kind with
  | uin => exact absurd hk' hk
  | xfer => simp only [txValid, hk', Bool.and_eq_true, beq_iff_eq] at hv; exact hv.1
  | ain => simp only [txValid, hk', Bool.and_eq_true, beq_iff_eq] at hv; exact hv.1
  | xfertok => simp only [txValid, hk', Bool.and_eq_true, beq_iff_eq] at hv; exact hv.1.1

theorem vmFailsR_acct (h : vmFailsR s t = true) : t.kind ≠ .uin ∧ getn s.nonce t.from_ = t.nonce := by
  unfold vmFailsR at h
  simp only [Bool.and_eq_true, Bool.or_eq_true, decide_eq_true_eq, beq_iff_eq] at h
  refine ⟨?_, h.1.2⟩
  rcases h.1.1 with h1 | h1 <;> rw [h1] <;> decide

theorem spent_image_invalid (hk : t.kind = .uin) (h : t.spends ∈ s.spentImgs) :
    txValid s seen t = false :=
  Bool.eq_false_iff.mpr fun hv => ((txValid_uin hk).mp hv).1 h

theorem nonce_low_invalid (hk : t.kind ≠ .uin) (h : t.nonce < getn s.nonce t.from_) :
    txValid s seen t = false :=
  Bool.eq_false_iff.mpr fun hv => Nat.ne_of_gt h (txValid_acct_nonce hk hv)

/-- it neither executes nor fails: it makes the block invalid -/
theorem nonce_low_dead (hk : t.kind ≠ .uin) (h : t.nonce < getn s.nonce t.from_) :
    txValid s seen t = false ∧ vmFailsR s t = false :=
  ⟨nonce_low_invalid hk h, Bool.eq_false_iff.mpr fun hf => Nat.ne_of_gt h (vmFailsR_acct hf).2⟩

end

theorem nodup_snoc {l : List Nat} {x : Nat} (hnd : l.Nodup) (hx : x ∉ l) : (l ++ [x]).Nodup := by
  rw [List.nodup_append]
  refine ⟨hnd, List.nodup_cons.mpr ⟨List.not_mem_nil, List.nodup_nil⟩, ?_⟩
  intro a ha b hb hab
  rw [List.mem_singleton] at hb
  exact hx (hb ▸ hab ▸ ha)

def imgsOf (recs : List TxRec) : List Nat := (recs.filter (fun t => t.kind = .uin)).map (·.spends)

theorem imgsOf_cons_uin {t : TxRec} (rest : List TxRec) (hk : t.kind = .uin) : imgsOf (t :: rest) = t.spends :: imgsOf rest := by
  simp [imgsOf, hk]
theorem imgsOf_cons_acct {t : TxRec} (rest : List TxRec) (hk : t.kind ≠ .uin) : imgsOf (t :: rest) = imgsOf rest := by
  simp [imgsOf, hk]

theorem length_setN (xs : List Nat) (i v : Nat) : (setN xs i v).length = xs.length := List.length_set

/-- both an executed and a failed account transaction do exactly this to the nonces -/
theorem getn_le_setN_succ (xs : List Nat) (i j : Nat) : getn xs j ≤ getn (setN xs i (getn xs i + 1)) j := by
  rw [getn_setN]
  split
  · rename_i h; rw [← h.1]; exact Nat.le_succ _
  · exact Nat.le_refl _

theorem applyTx_nonce (s : St) (t : TxRec) :
    (applyTx s t).nonce = if t.kind = .uin then s.nonce else setN s.nonce t.from_ (t.nonce + 1) := by
  unfold applyTx
  generalize t.kind = k
  cases k
  · rfl
  · rfl
  · rfl
  · cases t.aout <;> rfl

theorem nonce_step {s : St} {t : TxRec} (hk : t.kind ≠ .uin) (hlt : t.from_ < s.nonce.length) :
    getn (execTx s t).nonce t.from_ = t.nonce + 1 ∧ ∀ j, j ≠ t.from_ → getn (execTx s t).nonce j = getn s.nonce j := by
  rw [execTx_nonce, applyTx_nonce, if_neg hk]
  constructor
  · rw [getn_setN, if_pos ⟨rfl, hlt⟩]
  · intro j hj
    rw [getn_setN, if_neg (fun h => hj h.1.symm)]

theorem nonce_step_uin {s : St} {t : TxRec} (hk : t.kind = .uin) : (execTx s t).nonce = s.nonce := by
  rw [execTx_nonce, applyTx_nonce, if_pos hk]

/-- What the next transaction `t` of a block does to the committed nonces and key images, whether it executes or fails (a
failing one is an account transaction: the same formulas hold), and what the block checked before. -/
structure TxStep (s : St) (t : TxRec) (s₁ : St) : Prop where
  nonce : s₁.nonce = if t.kind = .uin then s.nonce else setN s.nonce t.from_ (t.nonce + 1)
  spentImgs : s₁.spentImgs = if t.kind = .uin then s.spentImgs ++ [t.spends] else s.spentImgs
  exact : t.kind ≠ .uin → getn s.nonce t.from_ = t.nonce
  fresh : t.kind = .uin → t.spends ∉ s.spentImgs

theorem TxStep.nonce_bump {s s₁ : St} {t : TxRec} (h : TxStep s t s₁) (hk : t.kind ≠ .uin) (hlt : t.from_ < s.nonce.length) :
    t.nonce < getn s₁.nonce t.from_ := by
  rw [h.nonce, if_neg hk, getn_setN, if_pos ⟨rfl, hlt⟩]
  exact Nat.lt_succ_self _

/-- A preorder of which every transaction of a block, every accepted block and every operation of a node's life is a step,
whichever execution its forced blocks use; what C07 says about runs are its four fields. -/
structure Grows (s s' : St) : Prop where
  nonce_mono (j : Nat) : getn s.nonce j ≤ getn s'.nonce j
  nonce_length : s'.nonce.length = s.nonce.length
  spent_nodup : s.spentImgs.Nodup → s'.spentImgs.Nodup
  spent_mono {x : Nat} : x ∈ s.spentImgs → x ∈ s'.spentImgs

theorem Grows.refl (s : St) : Grows s s := ⟨fun _ => Nat.le_refl _, rfl, id, id⟩

theorem Grows.trans {a b c : St} (h : Grows a b) (h' : Grows b c) : Grows a c :=
  ⟨fun j => Nat.le_trans (h.nonce_mono j) (h'.nonce_mono j), h'.nonce_length.trans h.nonce_length,
   fun hnd => h'.spent_nodup (h.spent_nodup hnd), fun hx => h'.spent_mono (h.spent_mono hx)⟩

theorem Grows.of_eq {s s₁ s' : St} (h : Grows s s₁) (hn : s'.nonce = s₁.nonce) (hi : s'.spentImgs = s₁.spentImgs) : Grows s s' :=
  ⟨fun j => by rw [hn]; exact h.nonce_mono j, by rw [hn]; exact h.nonce_length, fun hnd => by rw [hi]; exact h.spent_nodup hnd,
   fun hx => by rw [hi]; exact h.spent_mono hx⟩

theorem TxStep.grows {s s₁ : St} {t : TxRec} (h : TxStep s t s₁) : Grows s s₁ := by
  constructor
  · intro j
    rw [h.nonce]
    split
    · exact Nat.le_refl _
    · rename_i hk; rw [← h.exact hk]; exact getn_le_setN_succ ..
  · rw [h.nonce]
    split
    · rfl
    · exact length_setN ..
  · intro hnd
    rw [h.spentImgs]
    split
    · rename_i hk; exact nodup_snoc hnd (h.fresh hk)
    · exact hnd
  · intro x hx
    rw [h.spentImgs]
    split
    · exact List.mem_append_left _ hx
    · exact hx

end Props.C07

namespace Props.C07R
open Model.Ledger
open Props.C06 (execTx_spentImgs execTx_nonce execBlockR_nil execBlockR_cons)
open Props.C07

section
variable {s s' : St} {seen : List Nat} {recs : List TxRec}

theorem execBlockR_step {t : TxRec} {rest : List TxRec} (he : execBlockR s seen (t :: rest) = some s') :
    ∃ s₁ seen₁, TxStep s t s₁ ∧ execBlockR s₁ seen₁ rest = some s' := by
  rcases execBlockR_cons he with ⟨hv, he'⟩ | ⟨_, hf, he'⟩
  · refine ⟨execTx s t, _, ?_, he'⟩
    exact {
      nonce := by rw [execTx_nonce, applyTx_nonce]
      spentImgs := execTx_spentImgs s t
      exact := fun hk => txValid_acct_nonce hk hv
      fresh := fun hk => ((txValid_uin hk).mp hv).1 }
  · obtain ⟨hk, hn⟩ := vmFailsR_acct hf
    refine ⟨failTx s t, _, ?_, he'⟩
    exact {
      nonce := (if_neg hk).symm
      spentImgs := (if_neg hk).symm
      exact := fun _ => hn
      fresh := fun h => absurd h hk }

theorem execBlockR_grows (he : execBlockR s seen recs = some s') : Grows s s' := by
  induction recs generalizing s seen with
  | nil => rw [execBlockR_nil he]; exact .refl s
  | cons t rest ih =>
    obtain ⟨_, _, hst, he'⟩ := execBlockR_step he
    exact hst.grows.trans (ih he')

theorem execBlockR_nonce_mono (he : execBlockR s seen recs = some s') (j : Nat) : getn s.nonce j ≤ getn s'.nonce j :=
  (execBlockR_grows he).nonce_mono j

theorem execBlockR_nonce_length (he : execBlockR s seen recs = some s') : s'.nonce.length = s.nonce.length :=
  (execBlockR_grows he).nonce_length

theorem execBlockR_spentImgs (he : execBlockR s seen recs = some s') : s'.spentImgs = s.spentImgs ++ imgsOf recs := by
  induction recs generalizing s seen with
  | nil => rw [execBlockR_nil he]; simp [imgsOf]
  | cons t rest ih =>
    obtain ⟨_, _, hst, he'⟩ := execBlockR_step he
    rw [ih he', hst.spentImgs]
    by_cases hk : t.kind = .uin
    · rw [if_pos hk, imgsOf_cons_uin rest hk]; simp
    · rw [if_neg hk, imgsOf_cons_acct rest hk]

theorem execBlockR_mem_nonce {t : TxRec} (he : execBlockR s seen recs = some s') (ht : t ∈ recs) (hk : t.kind ≠ .uin)
    (hlt : t.from_ < s.nonce.length) : t.nonce < getn s'.nonce t.from_ := by
  induction recs generalizing s seen with
  | nil => simp at ht
  | cons u rest ih =>
    obtain ⟨_, _, hst, he'⟩ := execBlockR_step he
    rcases List.mem_cons.mp ht with rfl | ht'
    · exact Nat.lt_of_lt_of_le (hst.nonce_bump hk hlt) (execBlockR_nonce_mono he' _)
    · exact ih he' ht' (hst.grows.nonce_length ▸ hlt)

/-- a transaction that can take no step, for a reason `D` that no step of another transaction removes, makes the block
execution-invalid -/
theorem execBlockR_dead_none {t : TxRec} {D : St → Prop} (dead : ∀ {s s₁}, D s → ¬ TxStep s t s₁)
    (keep : ∀ {s u s₁}, D s → TxStep s u s₁ → D s₁) (ht : t ∈ recs) (h : D s) : execBlockR s seen recs = none := by
  cases he : execBlockR s seen recs with
  | none => rfl
  | some s' =>
    exfalso
    induction recs generalizing s seen with
    | nil => simp at ht
    | cons u rest ih =>
      obtain ⟨_, _, hst, he'⟩ := execBlockR_step he
      rcases List.mem_cons.mp ht with rfl | ht'
      · exact dead h hst
      · exact ih ht' (keep h hst) he'

theorem execBlockR_spent_none {t : TxRec} (ht : t ∈ recs) (hk : t.kind = .uin) (h : t.spends ∈ s.spentImgs) :
    execBlockR s seen recs = none :=
  execBlockR_dead_none (D := fun s => t.spends ∈ s.spentImgs) (fun h hst => hst.fresh hk h) (fun h hst => hst.grows.spent_mono h) ht h

end

theorem execBlockR_images_fresh {s s' : St} {recs : List TxRec} (hnd : s.spentImgs.Nodup)
    (he : execBlockR s [] recs = some s') : (s.spentImgs ++ imgsOf recs).Nodup := by
  rw [← execBlockR_spentImgs he]
  exact (execBlockR_grows he).spent_nodup hnd

theorem execBlockR_stale_none {s : St} {seen : List Nat} {recs : List TxRec} {t : TxRec} (ht : t ∈ recs) (hk : t.kind ≠ .uin)
    (h : t.nonce < getn s.nonce t.from_) : execBlockR s seen recs = none :=
  execBlockR_dead_none (D := fun s => t.nonce < getn s.nonce t.from_) (fun h hst => Nat.ne_of_gt h (hst.exact hk))
    (fun h hst => Nat.lt_of_lt_of_le h (hst.grows.nonce_mono _)) ht h

theorem execBlockR_acct_no_repeat {s : St} {seen : List Nat} {t : TxRec} {rest : List TxRec} (hk : t.kind ≠ .uin)
    (hlt : t.from_ < s.nonce.length) (ht : t ∈ rest) : execBlockR s seen (t :: rest) = none := by
  cases he : execBlockR s seen (t :: rest) with
  | none => rfl
  | some s' =>
    obtain ⟨_, _, hst, he'⟩ := execBlockR_step he
    rw [execBlockR_stale_none ht hk (hst.nonce_bump hk hlt)] at he'
    cases he'

end Props.C07R

namespace Props.C07
open Model.Ledger
open Props.C06 (admitTx_mempoolOnly checkState_writes execBlock_cons recsOf block_eq forceBlock_cases)
open Props.C06R (execBlock_sub_R)
open Props.C07R

theorem execBlock_none_of_R {s : St} {seen : List Nat} {recs : List TxRec} (h : execBlockR s seen recs = none) :
    execBlock s seen recs = none := by
  cases he : execBlock s seen recs with
  | none => rfl
  | some s' => rw [execBlock_sub_R he] at h; cases h

theorem execBlock_images_fresh {s s' : St} {recs : List TxRec} (hnd : s.spentImgs.Nodup)
    (he : execBlock s [] recs = some s') : (s.spentImgs ++ imgsOf recs).Nodup :=
  execBlockR_images_fresh hnd (execBlock_sub_R he)

theorem exact_nonce {s s' : St} {seen : List Nat} {t : TxRec} {rest : List TxRec}
    (he : execBlock s seen (t :: rest) = some s') (hk : t.kind ≠ .uin) : getn s.nonce t.from_ = t.nonce :=
  txValid_acct_nonce hk (execBlock_cons he).1

theorem execBlock_acct_no_repeat {s : St} {seen : List Nat} {t : TxRec} {rest : List TxRec} (hk : t.kind ≠ .uin)
    (hlt : t.from_ < s.nonce.length) (ht : t ∈ rest) : execBlock s seen (t :: rest) = none :=
  execBlock_none_of_R (execBlockR_acct_no_repeat hk hlt ht)

inductive Op where
  | submit (t : TxRec)
  | block
  | force (ids : List Nat)
  | restart

/-- restart: the mempool is lost, the speculative state is rebuilt from the committed one -/
def restart (s : St) : St := { s with pending := [], poolImgs := [], sbal := s.bal, stok := s.tok, snonce := s.nonce }

/-- one operation, with the model's functions, as `Driver.C07.step` applies them.  The machine the driver runs forces blocks
with `forceBlockR` (`Props.C07R.stepR`) and keeps books of its own around it (further key images of multi-input spends,
re-admission of what is pending): the theorems about `run` and `runR` speak of the model's functions, not of those books. -/
def step (s : St) : Op → St
  | .submit t => (admitTx { s with txs := s.txs ++ [t] } s.txs.length t).2
  | .block => block s
  | .force ids => (forceBlock s ids).1
  | .restart => restart s

def run (s : St) : List Op → St
  | [] => s
  | op :: ops => run (step s op) ops

theorem run_append (s : St) (a b : List Op) : run s (a ++ b) = run (run s a) b := by
  induction a generalizing s with
  | nil => rfl
  | cons op a ih => simp only [List.cons_append, run, ih]

theorem run_induct (P : St → Prop) (hstep : ∀ s op, P s → P (step s op)) (s : St) (ops : List Op) (h : P s) :
    P (run s ops) := by
  induction ops generalizing s with
  | nil => exact h
  | cons op ops ih => exact ih _ (hstep s op h)

theorem grows_submit (s : St) (t : TxRec) : Grows s (admitTx { s with txs := s.txs ++ [t] } s.txs.length t).2 := by
  refine (Grows.refl s).of_eq ?_ ?_ <;> rw [admitTx_mempoolOnly]

theorem grows_block (s : St) : Grows s (block s) := by
  rw [block_eq]
  cases he : execBlock s [] (recsOf s s.pending) with
  | none => exact .refl s
  | some s' => exact (execBlockR_grows (execBlock_sub_R he)).of_eq rfl rfl

theorem grows_step (s : St) (op : Op) : Grows s (step s op) := by
  cases op with
  | submit t => exact grows_submit s t
  | restart => exact (Grows.refl s).of_eq rfl rfl
  | block => exact grows_block s
  | force ids =>
    show Grows s (forceBlock s ids).1
    rcases forceBlock_cases s ids with ⟨h, _⟩ | ⟨s', he, _, h⟩
    · rw [h]; exact .refl s
    · rw [h]; exact (execBlockR_grows (execBlock_sub_R he)).of_eq rfl rfl

theorem run_grows (s : St) (ops : List Op) : Grows s (run s ops) :=
  run_induct (Grows s) (fun s' op h => h.trans (grows_step s' op)) s ops (.refl s)

/-- **C07 (confidential outputs).**  For every sequence of submissions (duplicates and altered transactions included),
mempool blocks, forced blocks and restarts, no key image is ever committed twice. -/
theorem keyimage_once (a w : Nat) (b tb : Int) (ops : List Op) : (run (init a w b tb) ops).spentImgs.Nodup :=
  (run_grows _ ops).spent_nodup List.nodup_nil

theorem nonce_monotone (s : St) (ops : List Op) (j : Nat) : getn s.nonce j ≤ getn (run s ops).nonce j :=
  (run_grows s ops).nonce_mono j

theorem init_nonce_length (a w : Nat) (b tb : Int) : (init a w b tb).nonce.length = a := by simp [init]

theorem nonce_low_forever {s : St} {t : TxRec} (hk : t.kind ≠ .uin) (h : t.nonce < getn s.nonce t.from_)
    (ops : List Op) (seen : List Nat) : txValid (run s ops) seen t = false :=
  nonce_low_invalid hk (Nat.lt_of_lt_of_le h (nonce_monotone s ops t.from_))

/-- **C07 (account transactions).**  Once an account transaction has been executed, it is invalid in every later state of
every run: a signed account transaction executes at most once. -/
theorem account_tx_once {s : St} {t : TxRec} (hk : t.kind ≠ .uin) (hlt : t.from_ < s.nonce.length)
    (ops : List Op) (seen : List Nat) : txValid (run (execTx s t) ops) seen t = false :=
  nonce_low_forever hk (by rw [(nonce_step hk hlt).1]; exact Nat.lt_succ_self _) ops seen

/-- the same for whole blocks: a transaction executed by a committed block (mempool or forced) is invalid ever after -/
theorem account_tx_once_block {s s' : St} {recs : List TxRec} {t : TxRec} (he : execBlock s [] recs = some s')
    (ht : t ∈ recs) (hk : t.kind ≠ .uin) (hlt : t.from_ < s.nonce.length) {s'' : St} (hs : s''.nonce = s'.nonce)
    (ops : List Op) (seen : List Nat) : txValid (run s'' ops) seen t = false :=
  nonce_low_forever hk (by rw [hs]; exact execBlockR_mem_nonce (execBlock_sub_R he) ht hk hlt) ops seen

/-- the state after a committed block has the nonces of the executed block: `account_tx_once_block` applies to it -/
theorem finishBlock_nonce (s s' : St) (ids : List Nat) : (finishBlock s s' ids).nonce = s'.nonce := rfl

/-- closed form along runs from genesis: whatever happened before (`ops₁`), a transaction of an existing account that a
committed block executed is invalid after any continuation (`ops`) -/
theorem account_tx_once_run (a w : Nat) (b tb : Int) (ops₁ : List Op) {t : TxRec} (hk : t.kind ≠ .uin) (hlt : t.from_ < a)
    {recs : List TxRec} {s' : St} (he : execBlock (run (init a w b tb) ops₁) [] recs = some s') (ht : t ∈ recs)
    {s'' : St} (hs : s''.nonce = s'.nonce) (ops : List Op) (seen : List Nat) : txValid (run s'' ops) seen t = false :=
  account_tx_once_block he ht hk (by rw [(run_grows ..).nonce_length, init_nonce_length]; exact hlt) hs ops seen

def PoolOK (s : St) : Prop := s.poolImgs.Nodup ∧ ∀ x ∈ s.poolImgs, x ∉ s.spentImgs

theorem checkState_uin {s : St} {id : Nat} {t : TxRec} (hk : t.kind = .uin) :
    checkState s id t =
      if s.spentImgs.contains t.spends then ("double-spend", s)
      else if s.poolImgs.contains t.spends then ("double-spend", s)
      else ("ok", { s with poolImgs := s.poolImgs ++ [t.spends], pending := s.pending ++ [id] }) := by
  simp only [checkState, hk]

theorem admitTx_poolImgs (s : St) (id : Nat) (t : TxRec) :
    (admitTx s id t).2.poolImgs = s.poolImgs ∨
    (t.spends ∉ s.spentImgs ∧ t.spends ∉ s.poolImgs ∧ (admitTx s id t).2.poolImgs = s.poolImgs ++ [t.spends]) := by
  unfold admitTx
  split
  · left; rfl
  · by_cases hk : t.kind = .uin
    · rw [checkState_uin hk]
      by_cases h1 : t.spends ∈ s.spentImgs
      · left; simp [h1]
      · by_cases h2 : t.spends ∈ s.poolImgs
        · left; simp [h1, h2]
        · right; simp [h1, h2]
    · left; exact (checkState_writes s id t).2 hk

theorem admitTx_poolOK {s : St} (id : Nat) (t : TxRec) (h : PoolOK s) : PoolOK (admitTx s id t).2 := by
  unfold PoolOK
  rw [show (admitTx s id t).2.spentImgs = s.spentImgs by rw [admitTx_mempoolOnly]]
  rcases admitTx_poolImgs s id t with h1 | ⟨h1, h2, h3⟩
  · rw [h1]; exact h
  · rw [h3]
    refine ⟨nodup_snoc h.1 h2, fun x hx => ?_⟩
    rcases List.mem_append.mp hx with hx | hx
    · exact h.2 x hx
    · rw [List.mem_singleton.mp hx]; exact h1

theorem poolOK_of_nil {s : St} (h : s.poolImgs = []) : PoolOK s := by
  unfold PoolOK
  rw [h]
  exact ⟨List.nodup_nil, fun _ hx => absurd hx List.not_mem_nil⟩

theorem step_poolOK (s : St) (op : Op) (h : PoolOK s) : PoolOK (step s op) := by
  cases op with
  | submit t => exact admitTx_poolOK (s := { s with txs := s.txs ++ [t] }) _ t h
  | restart => exact poolOK_of_nil rfl
  | block =>
    show PoolOK (block s)
    rw [block_eq]
    cases execBlock s [] (recsOf s s.pending) with
    | none => exact h
    | some s' => exact poolOK_of_nil rfl
  | force ids =>
    show PoolOK (forceBlock s ids).1
    rcases forceBlock_cases s ids with ⟨h', _⟩ | ⟨_, _, _, h'⟩
    · rw [h']; exact h
    · rw [h']; exact poolOK_of_nil rfl

/-- This is about the cache `poolImgs`, not about `pending`: a forced block empties the cache and leaves pending what it does
not contain. -/
theorem pool_no_shared_image (s : St) (ops : List Op) (h : PoolOK s) : PoolOK (run s ops) :=
  run_induct PoolOK step_poolOK s ops h

theorem pool_no_shared_image_init (a w : Nat) (b tb : Int) (ops : List Op) :
    (run (init a w b tb) ops).poolImgs.Nodup ∧
    ∀ x ∈ (run (init a w b tb) ops).poolImgs, x ∉ (run (init a w b tb) ops).spentImgs :=
  pool_no_shared_image _ ops (poolOK_of_nil rfl)

/-- the class is "double-spend" unless an earlier (basic) check already refused it -/
theorem image_refused {s : St} {id : Nat} {t : TxRec} (hk : t.kind = .uin) (h : t.spends ∈ s.spentImgs ∨ t.spends ∈ s.poolImgs) :
    (admitTx s id t).2 = s ∧ (t.broken = none → (admitTx s id t).1 = "double-spend") := by
  unfold admitTx
  split
  · rename_i hb; exact ⟨rfl, fun h' => by rw [h'] at hb; cases hb⟩
  · rw [checkState_uin hk]
    by_cases h1 : t.spends ∈ s.spentImgs
    · simp [h1]
    · simp [h1, h.resolve_left h1]

theorem pending_image_refused {s : St} {id : Nat} {t : TxRec} (hk : t.kind = .uin) (h : t.spends ∈ s.poolImgs) :
    (admitTx s id t).2 = s ∧ (t.broken = none → (admitTx s id t).1 = "double-spend") :=
  image_refused hk (.inr h)

theorem submit_spent_refused {s : St} {t : TxRec} (hk : t.kind = .uin) (h : t.spends ∈ s.spentImgs) :
    step s (.submit t) = { s with txs := s.txs ++ [t] } :=
  (image_refused (s := { s with txs := s.txs ++ [t] }) hk (.inl h)).1

theorem restart_keeps_spent (s : St) : (restart s).spentImgs = s.spentImgs := rfl
theorem restart_keeps_nonce (s : St) : (restart s).nonce = s.nonce := rfl

theorem restart_spent_refused {s : St} {id : Nat} {seen : List Nat} {t : TxRec} (hk : t.kind = .uin)
    (h : t.spends ∈ s.spentImgs) :
    (admitTx (restart s) id t).2 = restart s ∧ (t.broken = none → (admitTx (restart s) id t).1 = "double-spend") ∧
    txValid (restart s) seen t = false :=
  ⟨(image_refused (s := restart s) hk (.inl h)).1, (image_refused (s := restart s) hk (.inl h)).2,
   spent_image_invalid (s := restart s) hk h⟩

/-- **C07 (confidential outputs), forever.**  Once a key image is committed, then after ANY further sequence of
operations (restarts included) a transaction spending it is refused at admission, is invalid at every block position,
and makes any block containing it execution-invalid (so no forced block commits it). -/
theorem spent_refused_forever {s : St} {t : TxRec} (hk : t.kind = .uin) (h : t.spends ∈ s.spentImgs) (ops : List Op) :
    (∀ id, (admitTx (run s ops) id t).2 = run s ops) ∧
    (∀ seen, txValid (run s ops) seen t = false) ∧
    (∀ seen recs, t ∈ recs → execBlock (run s ops) seen recs = none) := by
  have h' := (run_grows s ops).spent_mono h
  exact ⟨fun id => (image_refused hk (.inl h')).1, fun seen => spent_image_invalid hk h',
    fun _ _ ht => execBlock_none_of_R (execBlockR_spent_none ht hk h')⟩

/-- C07 for the model: (1) no key image is ever committed twice; (2) an account transaction that a committed block
executed is never valid again.  Both along every sequence of operations from genesis, Byzantine forced blocks and restarts
included. -/
def C07_statement : Prop :=
  (∀ (a w : Nat) (b tb : Int) (ops : List Op), (run (init a w b tb) ops).spentImgs.Nodup) ∧
  (∀ (a w : Nat) (b tb : Int) (ops₁ : List Op) (t : TxRec) (recs : List TxRec) (s' s'' : St), t.kind ≠ .uin → t.from_ < a →
    execBlock (run (init a w b tb) ops₁) [] recs = some s' → t ∈ recs → s''.nonce = s'.nonce →
    ∀ (ops : List Op) (seen : List Nat), txValid (run s'' ops) seen t = false)

theorem C07_holds : C07_statement :=
  ⟨keyimage_once, fun a w b tb ops₁ _ _ _ _ hk hlt he ht hs ops seen =>
    account_tx_once_run a w b tb ops₁ hk hlt he ht hs ops seen⟩

/-! ## non-vacuity -/

def nv_s : St := init 2 2 100000000000 0
def nv_t1 : TxRec := { kind := .ain, from_ := 0, to := 0, amount := 30000000000, nonce := 0, gas := calGas 30000000000 }
/-- spends output 0 -/
def nv_t2 : TxRec := { kind := .uin, spends := 0, outs := [(1, 10000000000), (0, 15000000000)], gas := utxoGas }
/-- a second, different spend of output 0 -/
def nv_t3 : TxRec := { kind := .uin, spends := 0, outs := [(0, 25000000000)], gas := utxoGas }

/-- output 0 created and spent on chain -/
def nv_ops : List Op := [.submit nv_t1, .block, .submit nv_t2, .block]

example : (run nv_s nv_ops).spentImgs = [0] ∧ (run nv_s nv_ops).height = 2 ∧ (run nv_s nv_ops).pending = [] := ⟨rfl, rfl, rfl⟩
/-- the second spend is refused at admission … -/
example : (admitTx (run nv_s nv_ops) 2 nv_t3).1 = "double-spend" := rfl
example : (run nv_s (nv_ops ++ [.submit nv_t3])).pending = [] := rfl
/-- … refused in a forced block (both the replay of tx 1 and the new spend tx 2) … -/
example : (forceBlock (run nv_s (nv_ops ++ [.submit nv_t3])) [1]).2 = "propose=panic" := rfl
example : (forceBlock (run nv_s (nv_ops ++ [.submit nv_t3])) [2]).2 = "propose=panic" := rfl
/-- … and refused after a restart -/
example : (admitTx (run nv_s (nv_ops ++ [.restart])) 2 nv_t3).1 = "double-spend" := rfl
example : (forceBlock (run nv_s (nv_ops ++ [.submit nv_t3, .restart])) [2]).2 = "propose=panic" := rfl
example : (run nv_s (nv_ops ++ [.submit nv_t3, .force [2], .restart, .submit nv_t3, .block, .force [1, 2]])).spentImgs = [0] := rfl

/-- both spends pending at once: the second is refused by the pool-image cache; a forced block with both is invalid;
after a restart (mempool lost) the other spend is admitted and committed, and then the first one is dead -/
def nv_ops2 : List Op := [.submit nv_t1, .block, .submit nv_t2]
example : (admitTx (run nv_s nv_ops2) 2 nv_t3).1 = "double-spend" := rfl
example : (forceBlock (run nv_s (nv_ops2 ++ [.submit nv_t3])) [1, 2]).2 = "propose=panic" := rfl
example : (run nv_s (nv_ops2 ++ [.restart, .submit nv_t3])).pending = [2] := rfl
example : (run nv_s (nv_ops2 ++ [.restart, .submit nv_t3, .block])).spentImgs = [0] := rfl
example : (forceBlock (run nv_s (nv_ops2 ++ [.restart, .submit nv_t3, .block])) [1]).2 = "propose=panic" := rfl
/-- an account transaction replayed in a forced block is refused (nonce) -/
example : (forceBlock (run nv_s nv_ops) [0]).2 = "propose=panic" := rfl
example : (run nv_s nv_ops).nonce = [1, 0] := rfl

end Props.C07
