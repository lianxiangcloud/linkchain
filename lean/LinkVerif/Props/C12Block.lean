/-
C12: `perturb_changes_id` as ONE theorem over the whole block.

A block is modelled by its identity-relevant content (`Blk`): the values of the 17 header fields that
`Header.Hash` hashes, `Header.Recover`, the ordered encoded transactions, the evidence list, the
`LastCommit.BlockID` and the precommit slots.  The identity validators sign is
`BlockID = (Block.Hash, MakePartSet(partSize).Header())`.

Every cryptographic / codec law is a FIELD of `Scheme` (a hypothesis, never an axiom):
  * `inj2`   : `SimpleHashFromTwoHashes` injective in the pair of operands,
  * `kv_inj` : `merkle.KVPair.Hash` injective in (key, value hash),
  * `fh_inj` : the field hash (`aminoHasher`) injective,
  * `lh_inj` : the part hash (`Part.Hash`) injective,
  * `ser_inj`: `libs/ser` encoding of a block injective (C11's subject), `ser_ne`: never empty.
`Props.C12.freeScheme` (C12Code.lean) is a model of all of them at once (non-vacuity).
-/
import LinkVerif.Props.C12
import LinkVerif.Props.C12Header

namespace Props.C12
open Model.Merkle Model.PartSet Model.BlockId

/-- the identity-relevant content of a `types.Block` -/
structure Blk where
  /-- values of the 17 hashed header fields, in the order of `Model.BlockId.hashedFields` -/
  hashed : List FVal
  /-- `Header.Recover`: serialised, NOT in `Header.Hash` -/
  recover : Nat
  /-- `Data.Txs`: the encoded transactions in block order -/
  txs : List Bytes
  /-- `Evidence.Evidence`: the encoded evidence items in order -/
  evidence : List Bytes
  /-- `LastCommit.BlockID`: serialised, not covered by `Commit.Hash` -/
  commitBlockID : BlockIDv
  /-- `LastCommit.Precommits`: one slot per validator, `none` = absent vote -/
  precommits : List (Option Bytes)
deriving DecidableEq, Repr

/-- well-formed: one value per hashed field -/
def Blk.WF (b : Blk) : Prop := b.hashed.length = hashedFields.length

/-- the functions block identity is built from, with their assumed laws -/
structure Scheme (D : Type) [Inhabited D] where
  H2 : D → D → D
  KV : Bytes → D → D
  FH : FVal → D
  LH : Bytes → D
  ser : Blk → Bytes
  inj2 : Inj2 H2
  kv_inj : ∀ k v k' v', KV k v = KV k' v' → k = k' ∧ v = v'
  fh_inj : Function.Injective FH
  lh_inj : Function.Injective LH
  ser_inj : Function.Injective ser
  ser_ne : ∀ b, ser b ≠ []

/-- `Block.Hash()` = `Header.Hash()` -/
def blockHash {D : Type} [Inhabited D] (S : Scheme D) (b : Blk) : D := headerHashG S.H2 S.KV S.FH b.hashed

/-- `Block.MakePartSet(partSize).Header()` -/
def partsHeader {D : Type} [Inhabited D] (S : Scheme D) (partSize : Int) (b : Blk) : Except Panic (Header D) :=
  match newFromData S.H2 S.LH (S.ser b) partSize with
  | .ok ps => .ok ps.header
  | .error e => .error e

section
variable {D : Type} [Inhabited D] (S : Scheme D)

theorem partsHeader_ok {partSize : Int} (hsz : 0 < partSize) (b : Blk) :
    ∃ ps, newFromData S.H2 S.LH (S.ser b) partSize = .ok ps ∧ partsHeader S partSize b = .ok ps.header := by
  have h := (newFromData_eq_ok (H2 := S.H2) (LH := S.LH)).mpr ⟨Int.pos_iff_toNat_pos.mp hsz, S.ser_ne b, rfl⟩
  exact ⟨_, h, by rw [partsHeader, h]⟩

/-- header half: the block hash commits to the hashed field values -/
theorem blockHash_inj {b₁ b₂ : Blk} (w₁ : b₁.WF) (w₂ : b₂.WF) (h : blockHash S b₁ = blockHash S b₂) :
    b₁.hashed = b₂.hashed :=
  header_hash_commits S.H2 S.inj2 S.KV S.kv_inj S.FH S.fh_inj _ _ w₁ w₂ h

/-- parts half: different blocks ⇒ different part-set header (at the same positive part size) -/
theorem block_change_changes_parts {partSize : Int} (hsz : 0 < partSize) {b₁ b₂ : Blk} (hne : b₁ ≠ b₂) :
    partsHeader S partSize b₁ ≠ partsHeader S partSize b₂ := by
  obtain ⟨ps₁, h₁, e₁⟩ := partsHeader_ok S hsz b₁
  obtain ⟨ps₂, h₂, e₂⟩ := partsHeader_ok S hsz b₂
  rw [e₁, e₂]
  intro h
  simp only [Except.ok.injEq] at h
  exact hne (S.ser_inj (partset_header_commits S.H2 S.LH S.inj2 S.lh_inj _ _ partSize ps₁ ps₂ h₁ h₂ h))

end

/-- FULL STATEMENT (C12, identity clause): two different blocks never have the same signed identity:
the block hash or the part-set header differs. -/
def C12_perturb_statement : Prop :=
  ∀ (D : Type) [Inhabited D] (S : Scheme D) (partSize : Int), 0 < partSize →
    ∀ (b₁ b₂ : Blk), b₁ ≠ b₂ →
      blockHash S b₁ ≠ blockHash S b₂ ∨ partsHeader S partSize b₁ ≠ partsHeader S partSize b₂

/-- **perturb_changes_id**.  The part-set header alone tells any two blocks apart (`block_change_changes_parts`); which
changes the block hash notices as well is `single_field_perturbation`. -/
theorem perturb_changes_id : C12_perturb_statement := by
  intro D _ S partSize hsz b₁ b₂ hne
  exact Or.inr (block_change_changes_parts S hsz hne)

/-- a single-field change of header / data / evidence / last commit (list-valued fields: any other list,
which covers changed content, changed order, insertion and removal) -/
inductive Perturb where
  | hashedField (i : Nat) (v : FVal)          -- one of the 17 hashed header fields
  | recover (r : Nat)
  | txs (l : List Bytes)
  | evidence (l : List Bytes)
  | commitBlockID (v : BlockIDv)
  | precommits (l : List (Option Bytes))

def Perturb.apply : Perturb → Blk → Blk
  | .hashedField i v, b => { b with hashed := b.hashed.set i v }
  | .recover r, b => { b with recover := r }
  | .txs l, b => { b with txs := l }
  | .evidence l, b => { b with evidence := l }
  | .commitBlockID v, b => { b with commitBlockID := v }
  | .precommits l, b => { b with precommits := l }

def Perturb.isHashed : Perturb → Bool
  | .hashedField _ _ => true
  | _ => false

theorem Perturb.apply_wf (p : Perturb) (b : Blk) (w : b.WF) : (p.apply b).WF := by
  cases p with
  | hashedField i v => exact List.length_set.trans w
  | _ => exact w

/-- every effective single-field perturbation changes the signed identity; one that touches a hashed
header field changes the BLOCK HASH itself, every other one leaves the block hash as it is and is
noticed by the part-set header only. -/
theorem single_field_perturbation {D : Type} [Inhabited D] (S : Scheme D) (partSize : Int) (hsz : 0 < partSize)
    (b : Blk) (w : b.WF) (p : Perturb) (heff : p.apply b ≠ b) :
    partsHeader S partSize (p.apply b) ≠ partsHeader S partSize b ∧
    (p.isHashed = true → blockHash S (p.apply b) ≠ blockHash S b) ∧
    (p.isHashed = false → blockHash S (p.apply b) = blockHash S b) := by
  refine ⟨block_change_changes_parts S hsz heff, ?_, ?_⟩
  · intro hh
    cases p with
    | hashedField i v =>
      refine fun h => heff ?_
      show { b with hashed := b.hashed.set i v } = b
      rw [show b.hashed.set i v = b.hashed from blockHash_inj S (Perturb.apply_wf _ b w) w h]
    | _ => cases hh
  · intro hh
    cases p with
    | hashedField i v => cases hh
    | _ => rfl

/-- FULL STATEMENT (stronger than C12 asks, and FALSE): the block hash ALONE commits to every field. -/
def C12_hash_alone_statement : Prop :=
  ∀ (D : Type) [Inhabited D] (S : Scheme D) (b₁ b₂ : Blk), b₁.WF → b₂.WF → b₁ ≠ b₂ → blockHash S b₁ ≠ blockHash S b₂

/-- position of `NumTxs` and `DataHash` in `hashedFields` -/
theorem numTxs_dataHash_positions :
    hashedFields[4]? = some ("NumTxs", .uint) ∧ hashedFields[11]? = some ("DataHash", .bytes) := ⟨rfl, rfl⟩

/-- the two `ValidateBasic` conditions on the data: `NumTxs = len(Txs)` and `DataHash = Txs.Hash()`,
for a transaction hash `TH` and a digest-to-bytes coding `E` -/
def DataValid {D : Type} [Inhabited D] (H2 : D → D → D) (TH : Bytes → D) (E : D → Bytes) (b : Blk) : Prop :=
  b.hashed[4]? = some (.uint b.txs.length) ∧ b.hashed[11]? = some (.bytes (E (root H2 (b.txs.map TH))))

/-- two valid blocks with the same block hash carry the same ordered transaction list: the count is
committed by `NumTxs`, which closes the missing leaf/inner domain separation of the tree
(`C12_root_injective_counterexample`). -/
theorem valid_block_hash_commits_txs {D : Type} [Inhabited D] (S : Scheme D) (TH : Bytes → D) (hTH : Function.Injective TH)
    (E : D → Bytes) (hE : Function.Injective E) (b₁ b₂ : Blk) (w₁ : b₁.WF) (w₂ : b₂.WF)
    (v₁ : DataValid S.H2 TH E b₁) (v₂ : DataValid S.H2 TH E b₂)
    (h : blockHash S b₁ = blockHash S b₂) : b₁.txs = b₂.txs := by
  have hh := blockHash_inj S w₁ w₂ h
  obtain ⟨n₁, d₁⟩ := v₁
  obtain ⟨n₂, d₂⟩ := v₂
  rw [hh] at n₁ d₁
  have hlen : b₁.txs.length = b₂.txs.length := FVal.uint.inj (Option.some.inj (n₁.symm.trans n₂))
  have hroot : root S.H2 (b₁.txs.map TH) = root S.H2 (b₂.txs.map TH) :=
    hE (FVal.bytes.inj (Option.some.inj (d₁.symm.trans d₂)))
  have hm := root_inj_same_length S.inj2 (by simp [hlen]) hroot
  exact (List.map_inj_right fun _ _ h => hTH h).mp hm

end Props.C12
