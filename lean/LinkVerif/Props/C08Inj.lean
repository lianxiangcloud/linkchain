/-
C08, injectivity part: the `libs/ser` (RLP) list encoding of the items that `Model.SigHash` hashes is injective, so
"equal Hash() ⇒ equal content" and the binding theorems rest on hash injectivity alone (an explicit hypothesis).

Every item the model hashes is a *frame*: a single byte < 0x80, a string header + payload, or a list header + payload
(the payload of a list may be opaque — UTXO inputs/outputs carry `ser` type prefixes that are not RLP items — because
only its header is needed to delimit it).  Frames are a prefix code (`framed_prefix_free`, from C11's header lemmas
`readHead_byte / readHead_enc_str / readHead_enc_list`), hence a concatenation of frames splits uniquely (`flatten_inj`)
and `rlpList` is injective on frame lists (`rlpList_inj`).  Sizes are Go sizes: `Small b` = the length fits a uint64.
-/
import LinkVerif.Props.C11Rlp
import LinkVerif.Model.SigHash

namespace Props.C08
open Model.SigHash Gen.SigFacts

/-- what Go can represent at all: the length fits a uint64 (C11's `Sized`) -/
def Small (b : Bytes) : Prop := b.length < 2 ^ 64

inductive Framed : Bytes → Prop
  | byte (x : UInt8) (h : x < 0x80) : Framed [x]
  | str (p : Bytes) (h : Small p) : Framed (Model.Rlp.encHead 0x80 0xB7 p.length ++ p)
  | list (p : Bytes) (h : Small p) : Framed (Model.Rlp.encHead 0xC0 0xF7 p.length ++ p)

def frameLen (x : Bytes) : Option Nat :=
  match Model.Rlp.readHead x with
  | .ok (.byte, _, _, _) => some 1
  | .ok (_, sz, _, rest) => some (x.length - rest.length + sz)
  | .error _ => none

theorem frameLen_framed {b : Bytes} (hb : Framed b) (r : Bytes) : frameLen (b ++ r) = some b.length := by
  cases hb with
  | byte x h => simp [frameLen, Props.C11.readHead_byte x r h]
  | str p h =>
    simp only [frameLen, List.append_assoc, Props.C11.readHead_enc_str p.length (p ++ r) h, List.length_append,
      Option.some.injEq]
    omega
  | list p h =>
    simp only [frameLen, List.append_assoc, Props.C11.readHead_enc_list p.length (p ++ r) h, List.length_append,
      Option.some.injEq]
    omega

theorem framed_prefix_free {a b r r' : Bytes} (ha : Framed a) (hb : Framed b) (h : a ++ r = b ++ r') :
    a = b ∧ r = r' := by
  have h1 := frameLen_framed ha r
  have h2 := frameLen_framed hb r'
  rw [h, h2] at h1
  exact List.append_inj h (by simpa using h1.symm)

theorem framed_ne_nil {b : Bytes} (hb : Framed b) : b ≠ [] := by
  rintro rfl
  cases frameLen_framed hb []

theorem flatten_inj : ∀ (xs ys : List Bytes), (∀ b ∈ xs, Framed b) → (∀ b ∈ ys, Framed b) →
    xs.flatten = ys.flatten → xs = ys
  | [], [], _, _, _ => rfl
  | [], y :: _, _, hy, h => absurd (List.append_eq_nil_iff.1 h.symm).1 (framed_ne_nil (hy y List.mem_cons_self))
  | x :: _, [], hx, _, h => absurd (List.append_eq_nil_iff.1 h).1 (framed_ne_nil (hx x List.mem_cons_self))
  | x :: xs, y :: ys, hx, hy, h => by
    have ⟨fx, hx⟩ := List.forall_mem_cons.1 hx
    have ⟨fy, hy⟩ := List.forall_mem_cons.1 hy
    obtain ⟨h1, h2⟩ := framed_prefix_free fx fy h
    rw [h1, flatten_inj xs ys hx hy h2]

def ItemsOK (xs : List Bytes) : Prop := (∀ b ∈ xs, Framed b) ∧ Small xs.flatten

theorem framed_rlpList (xs : List Bytes) (h : Small xs.flatten) : Framed (rlpList xs) := Framed.list _ h

theorem framed_rlpStr (b : Bytes) (h : Small b) : Framed (rlpStr b) := by
  unfold rlpStr
  cases hs : Model.Rlp.single7 b with
  | true =>
    obtain ⟨x, rfl, hx⟩ := (Props.C11.single7_iff b).mp hs
    rw [Props.C11.encStr_single x hx]; exact Framed.byte x hx
  | false =>
    rw [Props.C11.encStr_general b hs]; exact Framed.str b h

theorem rlpList_inj {xs ys : List Bytes} (hx : ItemsOK xs) (hy : ItemsOK ys) (h : rlpList xs = rlpList ys) : xs = ys := by
  unfold rlpList at h
  have h1 := Props.C11.readHead_enc_list xs.flatten.length xs.flatten hx.2
  have h2 := Props.C11.readHead_enc_list ys.flatten.length ys.flatten hy.2
  rw [h, h2] at h1
  simp only [Except.ok.injEq, Prod.mk.injEq, true_and] at h1
  exact flatten_inj xs ys hx.1 hy.1 h1.2.symm

theorem rlpStr_inj {a b : Bytes} (ha : Small a) (hb : Small b) (h : rlpStr a = rlpStr b) : a = b :=
  Model.Rlp.Item.str.inj (Props.C11.enc_injective (.str a) (.str b) ha hb h)

theorem beVal_beBytes (n : Nat) : Model.Rlp.beVal (beBytes n) = n :=
  Props.C11.beVal_beBytesF n n (Nat.lt_pow_self (by decide))

theorem beBytes_inj {n m : Nat} (h : beBytes n = beBytes m) : n = m := by
  rw [← beVal_beBytes n, ← beVal_beBytes m, h]

/-- a number below 256^g has at most g bytes (so r, s < N < 256^32 and every V a transaction can carry are `Small`) -/
theorem beBytesF_length_le (f n g : Nat) (h : n < 256 ^ g) : (Model.Rlp.beBytesF f n).length ≤ g := by
  fun_induction Model.Rlp.beBytesF f n generalizing g with
  | case1 | case2 => exact Nat.zero_le _
  | case3 f n hn ih =>
    cases g with
    | zero => omega
    | succ g =>
      rw [List.length_append]
      exact Nat.succ_le_succ (ih g (Nat.div_lt_of_lt_mul (by rwa [Nat.pow_succ, Nat.mul_comm] at h)))

theorem beBytes_small {n g : Nat} (h : n < 256 ^ g) (hg : g < 2 ^ 64) : Small (beBytes n) :=
  Nat.lt_of_le_of_lt (beBytesF_length_le n n g h) hg

theorem encNat_inj {n m : Nat} (hn : Small (beBytes n)) (hm : Small (beBytes m)) (h : encNat n = encNat m) : n = m :=
  beBytes_inj (rlpStr_inj hn hm h)

theorem encInt_inj {v w : Int} (hv : 0 ≤ v) (hw : 0 ≤ w) (sv : Small (beBytes v.toNat)) (sw : Small (beBytes w.toNat))
    (h : encInt v = encInt w) : v = w := by
  have := encNat_inj sv sw h
  omega

end Props.C08
