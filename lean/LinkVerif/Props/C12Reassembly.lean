/-
C12: `partset_reassembles_only_original`, stated over OP SEQUENCES of a receiving node
(admit a part a peer sent / read the set), for every byte string and every part size.
Hypotheses (explicit): `Inj2 H2` (Merkle two-hash) and `Function.Injective LH` (part hash).
-/
import LinkVerif.Props.C12

namespace Props.C12
open Model.Merkle Model.PartSet

/-- what a node does with a receiving part set -/
inductive Op (D : Type) where
  | add (p : Part D)   -- `AddPart` with whatever a peer sent
  | read               -- `GetReader()` + read everything

/-- run an op sequence on the model; every `read` contributes its result (the `PanicSanity` of an
incomplete set is a result: the real callers test `IsComplete` first), a panic of `AddPart` ends the run -/
def runOps {D : Type} [DecidableEq D] (H2 : D → D → D) (LH : Bytes → D) :
    PS D → List (Op D) → Except Panic (PS D × List (Except Panic Bytes))
  | ps, [] => .ok (ps, [])
  | ps, .add p :: rest =>
    match addPart H2 LH ps p with
    | .error e => .error e
    | .ok (ps', _, _) => runOps H2 LH ps' rest
  | ps, .read :: rest =>
    match runOps H2 LH ps rest with
    | .error e => .error e
    | .ok (ps', rs) => .ok (ps', assemble ps :: rs)

theorem runOps_inv {D : Type} [Inhabited D] [DecidableEq D] {H2 : D → D → D} {LH : Bytes → D}
    (hinj : Inj2 H2) (hleaf : Function.Injective LH) {orig : List Bytes} (hne : orig ≠ []) (ops : List (Op D))
    {ps : PS D} (hinv : Inv H2 LH orig ps) :
    ∃ ps' reads, runOps H2 LH ps ops = .ok (ps', reads) ∧ Inv H2 LH orig ps' ∧
      ∀ r ∈ reads, r = .error .sanity ∨ r = .ok orig.flatten := by
  induction ops generalizing ps with
  | nil => exact ⟨ps, [], rfl, hinv, by simp⟩
  | cons op rest ih =>
    cases op with
    | add p =>
      obtain ⟨ps1, ⟨a, e⟩, h1, hinv1⟩ := addPart_step hinj hleaf p hinv
      obtain ⟨ps', reads, hrun, hinv', hreads⟩ := ih hinv1
      exact ⟨ps', reads, by simp only [runOps, h1, hrun], hinv', hreads⟩
    | read =>
      obtain ⟨ps', reads, hrun, hinv', hreads⟩ := ih hinv
      refine ⟨ps', assemble ps :: reads, by simp only [runOps, hrun], hinv', List.forall_mem_cons.mpr ⟨?_, hreads⟩⟩
      cases hc : isComplete ps with
      | false => exact Or.inl (assemble_incomplete hc)
      | true => exact Or.inr (assemble_complete hne hinv hc)

/-- **partset_reassembles_only_original**.  Take ANY byte string `b` and ANY part size for which the
proposer's `NewPartSetFromData` succeeds, give a receiver the header (total, root) of that set, and let it
execute ANY sequence of `AddPart`s with arbitrary parts (wrong or negative index, wrong proof, truncated
or foreign bytes, duplicates) interleaved with reads.  Then
 * nothing panics,
 * every read returned either nothing (the sanity refusal of an incomplete set) or exactly `b`,
 * at the end the set is complete IF AND ONLY IF every slot holds the original part of that index,
 * and a complete set reads back exactly `b`. -/
theorem partset_reassembles_only_original {D : Type} [Inhabited D] [DecidableEq D] (H2 : D → D → D) (LH : Bytes → D)
    (hinj : Inj2 H2) (hleaf : Function.Injective LH) (b : Bytes) (sz : Int) (src : PS D)
    (hsrc : newFromData H2 LH b sz = .ok src) (ops : List (Op D)) :
    ∃ ps reads, runOps H2 LH (emptyPS src.total src.hash) ops = .ok (ps, reads) ∧
      (∀ r ∈ reads, r = .error .sanity ∨ r = .ok b) ∧
      (isComplete ps = true ↔ ps.parts = (chunks sz.toNat b).map some) ∧
      (isComplete ps = true → assemble ps = .ok b) := by
  obtain ⟨hsz, hb, rfl⟩ := newFromData_eq_ok.mp hsrc
  have hne := chunks_ne_nil hsz hb
  have hfl := chunks_flatten sz.toNat hsz b
  obtain ⟨ps, reads, hrun, hinv, hreads⟩ :=
    runOps_inv hinj hleaf hne ops (inv_empty H2 LH (chunks sz.toNat b))
  rw [hfl] at hreads
  exact ⟨ps, reads, hrun, hreads, hinv.complete_iff, fun hc => by rw [assemble_complete hne hinv hc, hfl]⟩

/-- the proposer's own set (every slot filled by `NewPartSetFromData`) reads back `b` -/
theorem source_set_reads_back {D : Type} [Inhabited D] (H2 : D → D → D) (LH : Bytes → D) (b : Bytes) (sz : Int) (src : PS D)
    (hsrc : newFromData H2 LH b sz = .ok src) : assemble src = .ok b := by
  obtain ⟨hsz, hb, rfl⟩ := newFromData_eq_ok.mp hsrc
  rw [assemble_of_parts (chunks_ne_nil hsz hb) (by simp [isComplete]) rfl, chunks_flatten sz.toNat hsz b]

/-! non-vacuity: a run with a forgery, a negative index, an early read and a duplicate, completing -/
example :
    runOps Tree.node (fun b => Tree.leaf b.length) (emptyPS 2 (Tree.node (.leaf 1) (.leaf 2)))
      [.add ⟨1, [7, 7], [.leaf 1]⟩, .read, .add ⟨0, [9, 9], [.leaf 2]⟩, .add ⟨-1, [9], [.leaf 2]⟩,
       .add ⟨0, [9], [.leaf 2]⟩, .add ⟨1, [7, 7], [.leaf 1]⟩, .read]
    = .ok ({ total := 2, hash := Tree.node (.leaf 1) (.leaf 2), parts := [some [9], some [7, 7]], count := 2 },
           [.error .sanity, .ok [9, 7, 7]]) := by rfl

end Props.C12
