import LinkVerif.Model.Mempool
import LinkVerif.Props.C06Lemmas

/-!
# C15 — part 1: a list of transactions that passes the mempool's DEBIT-ONLY state checks one after the other, starting
from the committed state, executes as a block on the committed ledger (`Model.Ledger.execBlock`), whatever credits the
real execution adds on the way; confidential spends with pairwise distinct, uncommitted key images execute after them.
-/
namespace Props.C15
open Model.Ledger Model.Mempool
open Props.C06 (length_addAt getn_setN execTx_bal execTx_tok execTx_nonce execTx_spentImgs)

theorem geti_addAt (xs : List Int) (i j : Nat) (d : Int) :
    geti (addAt xs i d) j = if i = j ∧ i < xs.length then geti xs j + d else geti xs j := by
  unfold geti addAt
  simp only [List.getD_eq_getElem?_getD, List.getElem?_modify]
  by_cases hij : i = j
  · subst hij
    by_cases hl : i < xs.length <;> simp [hl]
  · simp [hij]

theorem geti_addAt_mono {a b : List Int} (hl : a.length = b.length) (h : ∀ j, geti a j ≤ geti b j) (i : Nat) (d : Int) :
    ∀ j, geti (addAt a i d) j ≤ geti (addAt b i d) j := by
  intro j
  rw [geti_addAt, geti_addAt, hl]
  have := h j
  split <;> omega

theorem geti_addAt_ge (xs : List Int) (i : Nat) {d : Int} (hd : 0 ≤ d) : ∀ j, geti xs j ≤ geti (addAt xs i d) j := by
  intro j
  rw [geti_addAt]
  split <;> omega

/-- the mempool's state checks applied one after the other (all must pass) -/
def runAcc : Acc → List TxRec → Option Acc
  | a, [] => some a
  | a, t :: r => if (checkAcc a t).1 = .ok then runAcc (checkAcc a t).2 r else none

/-- well-formed amounts (what `CheckBasic` guarantees: values and fees are unsigned) -/
def WFt (t : TxRec) : Prop := 0 ≤ t.amount ∧ 0 ≤ t.gas ∧ (∀ a v, t.aout = some (a, v) → 0 ≤ v)

/-- the committed ledger dominates a speculative state: same nonces, at least the balances -/
structure Dom (s : St) (a : Acc) : Prop where
  nonce : s.nonce = a.nonce
  lbal : a.bal.length = s.bal.length
  ltok : a.tok.length = s.tok.length
  bal : ∀ j, geti a.bal j ≤ geti s.bal j
  tok : ∀ j, geti a.tok j ≤ geti s.tok j

theorem dom_accOf (s : St) : Dom s (accOf s) :=
  ⟨rfl, rfl, rfl, fun _ => Int.le_refl _, fun _ => Int.le_refl _⟩

theorem checkAcc_cases (a : Acc) (t : TxRec) :
    (checkAcc a t = (.ok, debit a t) ∧ getn a.nonce t.from_ = t.nonce ∧ canPay a t = true) ∨
    ((checkAcc a t).1 ≠ .ok ∧ (checkAcc a t).2 = a) := by
  unfold checkAcc
  simp only []
  by_cases h1 : getn a.nonce t.from_ > t.nonce
  · rw [if_pos h1]; exact Or.inr ⟨nofun, rfl⟩
  · by_cases h2 : getn a.nonce t.from_ < t.nonce
    · rw [if_neg h1, if_pos h2]; exact Or.inr ⟨nofun, rfl⟩
    · by_cases h3 : (!canPay a t) = true
      · rw [if_neg h1, if_neg h2, if_pos h3]; exact Or.inr ⟨nofun, rfl⟩
      · by_cases h4 : (t.kind = .ain && feeLow t) = true
        · rw [if_neg h1, if_neg h2, if_neg h3, if_pos h4]; exact Or.inr ⟨nofun, rfl⟩
        · rw [if_neg h1, if_neg h2, if_neg h3, if_neg h4]
          exact Or.inl ⟨rfl, Nat.le_antisymm (Nat.le_of_not_lt h1) (Nat.le_of_not_lt h2), by simpa using h3⟩

theorem checkAcc_ok {a : Acc} {t : TxRec} (h : (checkAcc a t).1 = .ok) :
    getn a.nonce t.from_ = t.nonce ∧ canPay a t = true ∧ (checkAcc a t).2 = debit a t :=
  (checkAcc_cases a t).elim (fun h' => ⟨h'.2.1, h'.2.2, by rw [h'.1]⟩) (fun h' => absurd h h'.1)

theorem debit_nonce (a : Acc) (t : TxRec) : (debit a t).nonce = setN a.nonce t.from_ (t.nonce + 1) := by
  unfold debit; split <;> rfl

theorem checkAcc_nonce_mono (a : Acc) (t : TxRec) (j : Nat) : getn a.nonce j ≤ getn (checkAcc a t).2.nonce j := by
  rcases checkAcc_cases a t with ⟨he, hn, _⟩ | ⟨_, he⟩
  · rw [he, debit_nonce, getn_setN]
    split
    · rename_i h; rw [← h.1, hn]; exact Nat.le_succ _
    · exact Nat.le_refl _
  · rw [he]; exact Nat.le_refl _

theorem runAcc_cons_ok {a : Acc} {t : TxRec} (r : List TxRec) (h : (checkAcc a t).1 = .ok) :
    runAcc a (t :: r) = runAcc (checkAcc a t).2 r := if_pos h

theorem runAcc_cons_some {a a' : Acc} {t : TxRec} {r : List TxRec} (h : runAcc a (t :: r) = some a') :
    (checkAcc a t).1 = .ok ∧ getn a.nonce t.from_ = t.nonce ∧ canPay a t = true ∧ runAcc (debit a t) r = some a' := by
  by_cases hok : (checkAcc a t).1 = .ok
  · obtain ⟨hn, hp, he⟩ := checkAcc_ok hok
    rw [runAcc_cons_ok r hok, he] at h
    exact ⟨hok, hn, hp, h⟩
  · rw [show runAcc a (t :: r) = none from if_neg hok] at h; cases h

/-- one step of the simulation: a transaction with an account input that passes the speculative check is valid on any
dominating ledger, and executing it keeps the domination -/
theorem step_sim {s : St} {a : Acc} {t : TxRec} (seen : List Nat) (hk : t.kind ≠ .uin) (hw : WFt t) (hd : Dom s a)
    (h : (checkAcc a t).1 = .ok) :
    txValid s seen t = true ∧ Dom (execTx s t) (checkAcc a t).2 ∧ (execTx s t).spentImgs = s.spentImgs := by
  obtain ⟨hn, hp, he⟩ := checkAcc_ok h
  have hb := hd.bal t.from_
  have htk := hd.tok t.from_
  rw [he]
  refine ⟨?_, ?_, by rw [execTx_spentImgs, if_neg hk]⟩
  · unfold txValid
    unfold canPay at hp
    rw [hd.nonce, hn]
    cases hkind : t.kind <;> simp only [hkind, Bool.and_eq_true, decide_eq_true_eq, beq_self_eq_true, true_and] at hp ⊢
    · omega
    · exact ⟨by omega, by omega⟩
    · omega
    · exact absurd hkind hk
  · -- both sides take the same debit (`geti_addAt_mono`); the ledger alone credits the recipient (`geti_addAt_ge`)
    have mono := fun d => geti_addAt_mono hd.lbal hd.bal t.from_ d
    have monot := fun d => geti_addAt_mono hd.ltok hd.tok t.from_ d
    have credit := fun (xs : List Int) j => geti_addAt_ge xs t.to hw.1 j
    suffices Dom (applyTx s t) (debit a t) from
      ⟨by rw [execTx_nonce]; exact this.nonce, by rw [execTx_bal]; exact this.lbal, by rw [execTx_tok]; exact this.ltok,
        by rw [execTx_bal]; exact this.bal, by rw [execTx_tok]; exact this.tok⟩
    unfold applyTx debit
    cases hkind : t.kind with
    | uin => exact absurd hkind hk
    | xfer =>
      exact ⟨by rw [hd.nonce], by simp only [length_addAt]; exact hd.lbal, hd.ltok, fun j => Int.le_trans (mono _ j) (credit _ j), hd.tok⟩
    | xfertok =>
      exact ⟨by rw [hd.nonce], by simp only [length_addAt]; exact hd.lbal, by simp only [length_addAt]; exact hd.ltok, mono _,
        fun j => Int.le_trans (monot _ j) (credit _ j)⟩
    | ain => exact ⟨by rw [hd.nonce], by simp only [length_addAt]; exact hd.lbal, hd.ltok, mono _, hd.tok⟩

/-- **the account part of an offered block executes**: from a dominating ledger, with any `seen` set -/
theorem runAcc_exec : ∀ (l : List TxRec) (s : St) (a a' : Acc) (seen : List Nat),
    (∀ t ∈ l, t.kind ≠ .uin ∧ WFt t) → Dom s a → runAcc a l = some a' →
    ∃ s', execBlock s seen l = some s' ∧ Dom s' a' ∧ s'.spentImgs = s.spentImgs := by
  intro l
  induction l with
  | nil => intro s a a' seen _ hd h; cases h; exact ⟨s, rfl, hd, rfl⟩
  | cons t r ih =>
    intro s a a' seen hall hd h
    have hok := (runAcc_cons_some h).1
    rw [runAcc_cons_ok r hok] at h
    obtain ⟨ht, hall⟩ := List.forall_mem_cons.mp hall
    obtain ⟨hv, hd', hsp⟩ := step_sim seen ht.1 ht.2 hd hok
    obtain ⟨s', hs', hd'', hsp'⟩ := ih (execTx s t) _ a' seen hall hd' h
    refine ⟨s', ?_, hd'', hsp'.trans hsp⟩
    unfold execBlock
    rw [if_pos hv, if_neg ht.1]; exact hs'

/-- confidential spends with pairwise distinct key images none of which is committed or already in the block execute -/
theorem uin_exec : ∀ (l : List TxRec) (s : St) (seen : List Nat),
    (∀ t ∈ l, t.kind = .uin) → (l.map (·.spends)).Nodup →
    (∀ t ∈ l, t.spends ∉ s.spentImgs ∧ t.spends ∉ seen) →
    ∃ s', execBlock s seen l = some s' := by
  intro l
  induction l with
  | nil => intro s seen _ _ _; exact ⟨s, rfl⟩
  | cons t r ih =>
    intro s seen hk hnd hfresh
    obtain ⟨htk, hk⟩ := List.forall_mem_cons.mp hk
    obtain ⟨hft, hfresh⟩ := List.forall_mem_cons.mp hfresh
    rw [List.map_cons, List.nodup_cons] at hnd
    have hv : txValid s seen t = true := by
      unfold txValid; simp [htk, hft.1, hft.2]
    rw [execBlock, if_pos hv, if_pos htk]
    refine ih _ _ hk hnd.2 (fun x hx => ?_)
    have hfx := hfresh x hx
    have hne : x.spends ≠ t.spends := fun heq => hnd.1 (heq ▸ List.mem_map_of_mem hx)
    rw [execTx_spentImgs]
    simp [htk, hfx.1, hfx.2, hne]

theorem execBlock_append_acct {l₁ : List TxRec} (l₂ : List TxRec) (s : St) (seen : List Nat) (hk : ∀ t ∈ l₁, t.kind ≠ .uin) :
    execBlock s seen (l₁ ++ l₂) = (execBlock s seen l₁).bind (fun s' => execBlock s' seen l₂) := by
  induction l₁ generalizing s with
  | nil => rfl
  | cons t r ih =>
    obtain ⟨ht, hk⟩ := List.forall_mem_cons.mp hk
    rw [List.cons_append, execBlock, execBlock, if_neg ht, ih _ hk]
    split <;> rfl

theorem runAcc_bind (a : Acc) (l₁ l₂ : List TxRec) : runAcc a (l₁ ++ l₂) = (runAcc a l₁).bind (runAcc · l₂) := by
  induction l₁ generalizing a with
  | nil => rfl
  | cons x r ih =>
    rw [List.cons_append, runAcc, runAcc, ih]
    split <;> rfl

theorem runAcc_append {a a' : Acc} {l : List TxRec} {t : TxRec} (h : runAcc a l = some a') (hok : (checkAcc a' t).1 = .ok) :
    runAcc a (l ++ [t]) = some (checkAcc a' t).2 := by
  rw [runAcc_bind, h]; exact runAcc_cons_ok [] hok

theorem runAcc_take {a a' : Acc} {l : List TxRec} (h : runAcc a l = some a') (k : Nat) : ∃ a'', runAcc a (l.take k) = some a'' := by
  rw [← List.take_append_drop k l, runAcc_bind] at h
  obtain ⟨a'', h1, _⟩ := Option.bind_eq_some_iff.mp h
  exact ⟨a'', h1⟩

end Props.C15
