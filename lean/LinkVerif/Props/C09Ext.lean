/-
C09: the relations in which a step of a state is described — `Ext` (the journal was extended by entries whose undo
restores the abstraction), `Frame` (what the step leaves alone), `Mut` (both) — and one lemma per kind of write mutators are made of.
-/
import LinkVerif.Props.C09Abs

namespace Props.C09
open Model.StateDB

def Upd (s s' : State) : Prop :=
  s'.trie = s.trie ∧ ∀ a, s'.objs a = s.objs a ∨ s'.objs a = none ∨ ∃ o, s'.objs a = some o ∧ o.deleted = false

theorem Upd.refl (s : State) : Upd s s := ⟨rfl, fun _ => Or.inl rfl⟩

theorem Upd.trans {s s' s'' : State} (h1 : Upd s s') (h2 : Upd s' s'') : Upd s s'' := by
  refine ⟨h2.1.trans h1.1, fun a => ?_⟩
  rcases h2.2 a with h | h | h
  · rw [h]; exact h1.2 a
  · exact Or.inr (Or.inl h)
  · exact Or.inr (Or.inr h)

/-- an object marked deleted (by Finalise/Commit) is absent from the trie -/
def WF (s : State) : Prop := ∀ a o, s.objs a = some o → o.deleted = true → s.trie a = none

theorem WF_of_Upd {s s' : State} (hw : WF s) (hu : Upd s s') : WF s' := by
  intro a o ho hd
  rcases hu.2 a with h | h | ⟨o', h, hd'⟩
  · rw [hu.1]; exact hw a o (h ▸ ho) hd
  · rw [h] at ho; cases ho
  · rw [h] at ho; cases ho; rw [hd] at hd'; cases hd'

theorem Upd_putObj (c : Ctx) (a : Addr) (o : Obj) (hd : o.deleted = false) : Upd c.st (putObj c a o).st := by
  refine ⟨rfl, fun b => ?_⟩
  by_cases hb : b = a
  · subst hb; exact Or.inr (Or.inr ⟨o, by simp [putObj], hd⟩)
  · exact Or.inl (by simp [putObj, hb])

theorem Upd_push (c : Ctx) (e : Entry) : Upd c.st (push c e).st := ⟨rfl, fun _ => Or.inl rfl⟩

structure Ext (c c' : Ctx) : Prop where
  upd : Upd c.st c'.st
  jr : ∃ es, c'.st.journal = es ++ c.st.journal ∧ abs (undoList es c') = abs c

theorem Ext.refl (c : Ctx) : Ext c c := ⟨Upd.refl _, [], rfl, rfl⟩

theorem Ext.trans {c c' c'' : Ctx} (h1 : Ext c c') (h2 : Ext c' c'') : Ext c c'' := by
  obtain ⟨es1, hj1, ha1⟩ := h1.jr
  obtain ⟨es2, hj2, ha2⟩ := h2.jr
  refine ⟨Upd.trans h1.upd h2.upd, es2 ++ es1, by rw [hj2, hj1, List.append_assoc], ?_⟩
  rw [undoList_append, abs_undoList_congr es1 ha2, ha1]

theorem Ext.neutral {c c' : Ctx} (hu : Upd c.st c'.st) (hj : c'.st.journal = c.st.journal) (ha : abs c' = abs c) : Ext c c' :=
  ⟨hu, [], by simpa using hj, ha⟩

theorem Ext.push1 {c c' : Ctx} (e : Entry) (hu : Upd c.st c'.st) (hj : c'.st.journal = e :: c.st.journal)
    (ha : abs (undo e c') = abs c) : Ext c c' :=
  ⟨hu, [e], by simpa using hj, ha⟩

theorem upd_upd_self {β : Type} (f : Nat → β) (k : Nat) (v : β) : upd (upd f k v) k (f k) = f := by
  rw [upd_upd, upd_self]

theorem putObj_putObj (c : Ctx) (a : Addr) (x y : Obj) : putObj (putObj c a x) a y = putObj c a y := by
  simp only [putObj, upd_upd]

theorem modObj_putObj (c : Ctx) (a : Addr) (o : Obj) (f : Obj → Obj) (hd : o.deleted = false) :
    modObj (putObj c a o) a f = putObj c a (f o) := by
  simp only [modObj, peek_putObj, if_true, hd, Bool.false_eq_true, if_false, putObj_putObj]

theorem restoreToks_putObj (c : Ctx) (a : Addr) (o : Obj) (m : TokMap) (pos : Tok → Option Int) (hd : o.deleted = false)
    (hm : o.toks = .inl m) : restoreToks (putObj c a o) a pos = putObj c a { o with toks := .inl (mergeToks pos m) } := by
  simp only [restoreToks, peek_putObj, if_true, hd, Bool.false_eq_true, if_false, hm, putObj_putObj]

theorem getState_dirty_restore (o : Obj) (k : Key) (v : Bytes) :
    getState { o with dirty := upd (upd o.dirty k (some v)) k (some (getState o k)) } = getState o := by
  rw [upd_upd, getState_dirty_upd, upd_self]

def Inl (o : Obj) : Prop := ∃ m, o.toks = .inl m

def NSo (s : State) : Prop := ∀ a o, s.objs a = some o → ∃ m, o.toks = .inl m

/-- objects remembered by `resetObjectChange` entries hold private maps -/
def PrevOK (j : List Entry) : Prop := ∀ a p, Entry.resetObject a p ∈ j → Inl p

theorem Inl_of_toks {o o' : Obj} (h : o'.toks = o.toks) (ho : Inl o) : Inl o' := by
  obtain ⟨m, hm⟩ := ho; exact ⟨m, h.trans hm⟩

theorem NSo_peek {s : State} (hn : NSo s) {a : Addr} {o : Obj} (h : peek s a = some o) : Inl o := by
  rcases peek_eq_some h with ⟨ho, _⟩ | ⟨x, _, rfl⟩
  · exact hn a o ho
  · exact ⟨_, rfl⟩

theorem NSo_objs_upd {s s' : State} (hn : NSo s) (a : Addr) (o : Obj) (ho : Inl o) (h : s'.objs = upd s.objs a (some o)) : NSo s' := by
  intro b o' hb
  rw [h] at hb
  by_cases hba : b = a
  · subst hba; simp at hb; subst hb; exact ho
  · simp [hba] at hb; exact hn b o' hb

theorem PrevOK_cons {j : List Entry} (hj : PrevOK j) (e : Entry) (he : ∀ a p, e = .resetObject a p → Inl p) : PrevOK (e :: j) := by
  intro a p hm
  rcases List.mem_cons.mp hm with h | h
  · exact he a p h.symm
  · exact hj a p h

theorem PrevOK_nil : PrevOK [] := fun _ _ h => nomatch h

/-- `es`: the entries the step undoes (`[]` for a mutator) -/
structure Frame (es : List Entry) (c c' : Ctx) : Prop where
  upd : Upd c.st c'.st
  revs : c'.st.revs = c.st.revs
  nextRev : c'.st.nextRev = c.st.nextRev
  priv : NSo c.st → PrevOK es → c'.heap = c.heap ∧ NSo c'.st ∧ (PrevOK c.st.journal → PrevOK c'.st.journal)

theorem Frame.refl {es : List Entry} (c : Ctx) : Frame es c c := ⟨Upd.refl _, rfl, rfl, fun hn _ => ⟨rfl, hn, id⟩⟩

theorem Frame.append {es fs : List Entry} {c c' c'' : Ctx} (h1 : Frame es c c') (h2 : Frame fs c' c'') :
    Frame (es ++ fs) c c'' := by
  refine ⟨h1.upd.trans h2.upd, h2.revs.trans h1.revs, h2.nextRev.trans h1.nextRev, fun hn hp => ?_⟩
  obtain ⟨hh1, hn1, hp1⟩ := h1.priv hn (fun a p h => hp a p (List.mem_append_left _ h))
  obtain ⟨hh2, hn2, hp2⟩ := h2.priv hn1 (fun a p h => hp a p (List.mem_append_right _ h))
  exact ⟨hh2.trans hh1, hn2, hp2 ∘ hp1⟩

theorem Frame.trans {c c' c'' : Ctx} (h1 : Frame [] c c') (h2 : Frame [] c' c'') : Frame [] c c'' := h1.append h2

theorem Frame.put {es : List Entry} (c : Ctx) (a : Addr) (o : Obj) (hd : o.deleted = false)
    (ho : NSo c.st → PrevOK es → Inl o) : Frame es c (putObj c a o) :=
  ⟨Upd_putObj c a o hd, rfl, rfl, fun hn hp => ⟨rfl, NSo_objs_upd hn a o (ho hn hp) rfl, id⟩⟩

theorem Frame.push (c : Ctx) (e : Entry) (he : ∀ a p, e = .resetObject a p → NSo c.st → Inl p) : Frame [] c (push c e) :=
  ⟨Upd_push c e, rfl, rfl, fun hn _ => ⟨rfl, hn, fun hj => PrevOK_cons hj e (fun a p h => he a p h hn)⟩⟩

/-- writes to the fields no frame speaks of: `hs` says that `s` is `c.st` but for those -/
theorem Frame.st {es : List Entry} (c : Ctx) (s : State)
    (hs : s = { c.st with refund := s.refund, thash := s.thash, txIndex := s.txIndex, logs := s.logs, logSize := s.logSize,
                          preimages := s.preimages }) : Frame es c { c with st := s } := by
  rw [hs]
  exact ⟨⟨rfl, fun _ => Or.inl rfl⟩, rfl, rfl, fun hn _ => ⟨rfl, hn, id⟩⟩

theorem Frame.writeTok {es : List Entry} (c : Ctx) (a : Addr) {o : Obj} (t : Tok) (v : Option Int) (h : peek c.st a = some o) :
    Frame es c (writeTok c a o t v) := by
  refine ⟨Upd_putObj _ a _ ((writeTokO_deleted o t v).trans (peek_not_deleted h)), rfl, rfl, fun hn _ => ?_⟩
  obtain ⟨m, hm⟩ := NSo_peek hn h
  rw [writeTok_inl c a hm]
  exact ⟨rfl, NSo_objs_upd hn a _ ⟨_, rfl⟩ rfl, id⟩

structure Mut (c c' : Ctx) : Prop where
  frame : Frame [] c c'
  ext : WF c.st → Ext c c'

theorem Mut.refl (c : Ctx) : Mut c c := ⟨.refl c, fun _ => .refl c⟩

theorem Mut.trans {c c' c'' : Ctx} (h1 : Mut c c') (h2 : Mut c' c'') : Mut c c'' :=
  ⟨h1.frame.trans h2.frame, fun hw => (h1.ext hw).trans (h2.ext (WF_of_Upd hw (h1.ext hw).upd))⟩

section
variable {c : Ctx} {a : Addr} {o : Obj}

/-- A journalled write to the live object `o` is an `Ext` step as soon as the undo of the entry, run on the new context, puts an
object with the view of `o` in its place. -/
theorem Mut.put (h : peek c.st a = some o) (o' o'' : Obj) (e : Entry)
    (he : ∀ a p, e = .resetObject a p → NSo c.st → Inl p) (ho : NSo c.st → Inl o') (hd : o'.deleted = false)
    (hu : undo e (putObj (push c e) a o') = putObj (push c e) a o'') (hd'' : o''.deleted = false) (hv : viewObj o'' = viewObj o) :
    Mut c (putObj (push c e) a o') := by
  have fr := (Frame.push c e he).trans (.put _ a o' hd (fun hn _ => ho hn))
  refine ⟨fr, fun _ => Ext.push1 e fr.upd rfl ?_⟩
  rw [hu, abs_putObj_view (push c e) a o o'' (by simpa using h) hv hd'', abs_push]

/-- balance, nonce, credits, storage, code: the undo of `e` applies some `f` to the object -/
theorem Mut.field (h : peek c.st a = some o) (o' : Obj) (e : Entry) {f : Obj → Obj}
    (he : ∀ a p, e ≠ .resetObject a p) (hu : ∀ x, undo e x = modObj x a f) (ht : o'.toks = o.toks)
    (hd : o'.deleted = o.deleted) (hfd : (f o').deleted = o.deleted) (hv : viewObj (f o') = viewObj o) :
    Mut c (putObj (push c e) a o') :=
  have hnd := peek_not_deleted h
  .put h o' (f o') e (fun a p h => absurd h (he a p)) (fun hn => Inl_of_toks ht (NSo_peek hn h)) (hd.trans hnd)
    ((hu _).trans (modObj_putObj _ a o' f (hd.trans hnd))) (hfd.trans hnd) hv

theorem Mut.create (h : peek c.st a = none) : Mut c (putObj (push c (.createObject a)) a freshObj) := by
  have fr := (Frame.push c (.createObject a) (fun _ _ h => by cases h)).trans (.put _ a freshObj rfl (fun _ _ => ⟨_, rfl⟩))
  refine ⟨fr, fun hw => Ext.push1 (.createObject a) fr.upd rfl ?_⟩
  -- the undo falls back to the trie entry, which is absent: a deleted object is absent from the trie (`WF`)
  have htrie : (abs c).trieV a = none := by
    unfold peek at h
    cases ho : c.st.objs a with
    | none => simpa [abs, ho] using h
    | some o => simp [abs, hw a o ho (by simpa [ho] using h)]
  have hacct : (abs c).acct a = none := by simp [abs, h]
  rw [abs_undo, abs_putObj _ a freshObj rfl, abs_push]
  simp only [undoA, upd_upd, htrie]
  rw [← hacct, upd_self]

/-- refund, addLog, addPreimage -/
theorem Mut.st (c : Ctx) (e : Entry) (s : State) (he : ∀ a p, e ≠ .resetObject a p)
    (hs : s = { c.st with journal := e :: c.st.journal, refund := s.refund, logs := s.logs, logSize := s.logSize,
                          preimages := s.preimages })
    (ha : undoA e (abs { c with st := s }) = abs c) : Mut c { c with st := s } :=
  have fr := (Frame.push c e (fun a p h => absurd h (he a p))).trans (.st _ s (by rw [hs]; rfl))
  ⟨fr, fun _ => Ext.push1 e fr.upd (by rw [hs]) ((abs_undo e _).trans ha)⟩

def tokValA (x : Abs) (ov : OV) (t : Tok) : Int :=
  match ov.toks with
  | .inl f => f t
  | .shared r => x.heap r t

theorem modTokA_modTokA (x : Abs) (a : Addr) (t : Tok) (v w : Int) : modTokA (modTokA x a t v) a t w = modTokA x a t w := by
  unfold modTokA
  cases h : x.acct a with
  | none => simp only [h]
  | some ov =>
    cases ht : ov.toks with
    | inl f => simp only [ht, upd_same, upd_upd]
    | shared r => simp only [h, ht, upd_same, upd_upd]

theorem modTokA_same (x : Abs) (a : Addr) (t : Tok) (ov : OV) (h : x.acct a = some ov) :
    modTokA x a t (tokValA x ov t) = x := by
  unfold modTokA tokValA
  simp only [h]
  cases ht : ov.toks with
  | inl f =>
    simp only [upd_self]
    have : upd x.acct a (some { ov with toks := TokV.inl f }) = x.acct := by
      rw [← ht]; rw [← h]; exact upd_self _ _
    rw [this]
  | shared r => simp only [upd_self]

theorem tokValA_abs (c : Ctx) (o : Obj) (t : Tok) : tokValA (abs c) (viewObj o) t = (tokMapOf c.heap o t).getD 0 := by
  unfold tokValA tokMapOf viewObj viewToks
  cases o.toks <;> simp [abs]

theorem Mut.tok (h : peek c.st a = some o) (t : Tok) (v : Int) :
    Mut c (writeTok (push c (.tokenBalance a t (tokMapOf c.heap o t))) a o t (some v)) := by
  have hp : peek (push c (.tokenBalance a t (tokMapOf c.heap o t))).st a = some o := by simpa using h
  have fr := (Frame.push c (.tokenBalance a t (tokMapOf c.heap o t)) (fun _ _ h => by cases h)).trans (.writeTok _ a t (some v) hp)
  refine ⟨fr, fun _ => Ext.push1 _ fr.upd rfl ?_⟩
  rw [← modTok_of_peek hp]
  simp only [undo]
  rw [abs_modTok, abs_modTok, abs_push, modTokA_modTokA, ← tokValA_abs, modTokA_same _ a t _ (abs_acct h)]

/-- `Suicide` followed by its undo, for an account whose balances are non-negative and whose token map is still private -/
theorem Mut.suicide {m : TokMap} (h : peek c.st a = some o) (hm : o.toks = .inl m)
    (hb : 0 ≤ o.balance) (ht : ∀ t v, m t = some v → 0 ≤ v) :
    Mut c (putObj (push c (.suicide a o.suicided (if o.balance > 0 then some o.balance else none) (positiveToks (tokMapOf c.heap o)))) a
      { o with suicided := true, balance := 0, toks := .inl emptyToks }) := by
  have hnd := peek_not_deleted h
  refine .put h _
    { o with suicided := o.suicided, balance := (if o.balance > 0 then some o.balance else none).getD 0,
             toks := .inl (mergeToks (positiveToks (tokMapOf c.heap o)) emptyToks) } _
    (fun _ _ h => by cases h) (fun _ => ⟨_, rfl⟩) hnd ?_ hnd ?_
  · simp only [undo]
    rw [modObj_putObj, restoreToks_putObj _ a _ emptyToks]
    · exact hnd
    · rfl
    · exact hnd
  -- only strictly positive values were remembered: the others come back as 0, resp. as absent entries (which read 0)
  simp only [viewObj, viewToks, tokMapOf, hm]
  congr 1
  · by_cases hpos : o.balance > 0
    · simp [hpos]
    · simp [hpos]; omega
  · congr 1
    funext t
    simp only [mergeToks, positiveToks, emptyToks]
    cases hmt : m t with
    | none => simp
    | some v =>
      have := ht t v hmt
      by_cases hv : v > 0
      · simp [hv]
      · simp [hv]; omega

end

end Props.C09
