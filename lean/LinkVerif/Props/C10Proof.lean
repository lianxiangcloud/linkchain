/-
C10: soundness of proof verification against the root of a normal-form trie, for ANY content-addressed proof database, and
completeness: the proof built by `Prove` (`proofNodes`) verifies to the true claim.
Each walk is proved once, for a decoder that inverts the honest encoder on the nodes on the way to the key and a hash
without collisions between database entries and those nodes (`verify_sound_path`, `verify_complete_path`);
`Function.Injective H` and a decoder that is right everywhere is the special case `verify_sound`.
-/
import LinkVerif.Model.TrieProof
import LinkVerif.Props.C10Basic

namespace Props.C10
open Model.Trie

/-- no database entry collides with a different honest node encoding on the way to `key` -/
def NoColl (H : Bytes → Bytes) (db : Bytes → Option Bytes) (s : Node) (key : List Nib) : Prop :=
  ∀ h b t, db h = some b → t ∈ path s key → H b = H (enc H t) → b = enc H t

theorem noColl_of_injective (H : Bytes → Bytes) (Hinj : Function.Injective H) (db : Bytes → Option Bytes) (s : Node)
    (key : List Nib) : NoColl H db s key := fun _ _ _ _ _ e => Hinj e

/-- the nodes on `Prove`'s path are short or full nodes, and inherit what passes from a node to its children -/
theorem path_closed {P : Node → Prop} (hshort : ∀ k c, P (.short k c) → P c) (hfull : ∀ c i, P (.full c) → P (c i)) :
    ∀ (s : Node) (key : List Nib) (t : Node), t ∈ path s key → P s → P t ∧ t.isValue = false := by
  intro s
  induction s with
  | nil => exact fun key t h => by cases key <;> cases h
  | value _ => exact fun key t h => by cases key <;> cases h
  | short k c ih =>
    intro key t h hp
    cases key with
    | nil => cases h
    | cons a as =>
      rcases List.mem_cons.mp h with rfl | h
      · exact ⟨hp, rfl⟩
      · cases hst : strip k (a :: as) with
        | none => rw [hst] at h; cases h
        | some r => rw [hst] at h; exact ih r t h (hshort k c hp)
  | full c ih =>
    intro key t h hp
    cases key with
    | nil => cases h
    | cons i r =>
      rcases List.mem_cons.mp h with rfl | h
      · exact ⟨hp, rfl⟩
      · exact ih i r t h (hfull c i hp)

theorem path_nonvalue : ∀ (s : Node) (key : List Nib) (t : Node), t ∈ path s key → t.isValue = false :=
  fun s key t h => (path_closed (P := fun _ => True) (fun _ _ _ => trivial) (fun _ _ _ => trivial) s key t h trivial).2

theorem path_short_cons (k : List Nib) (c : Node) {key r : List Nib} (hne : key ≠ []) (h : strip k key = some r) :
    path (.short k c) key = .short k c :: path c r := by
  cases key with
  | nil => exact absurd rfl hne
  | cons a as => simp only [path, h]

theorem path_full_cons (c : Nib → Node) (i : Nib) (r : List Nib) : path (.full c) (i :: r) = .full c :: path (c i) r := rfl

theorem path_head {s : Node} {key : List Nib} (hw : WF s) (hv : s.isValue = false) (hk : KeyAt false key) :
    ∃ tl, path s key = s :: tl := by
  obtain ⟨a, as, rfl⟩ := keyAt_false_cons hk
  cases s with
  | nil => exact hw.elim
  | value w => exact Bool.noConfusion hv
  | short k c => exact ⟨_, rfl⟩
  | full c => exact ⟨_, rfl⟩

theorem self_mem_path {s : Node} {key : List Nib} (hw : WF s) (hv : s.isValue = false) (hk : KeyAt false key) :
    s ∈ path s key := by
  obtain ⟨tl, e⟩ := path_head hw hv hk
  rw [e]; exact List.mem_cons_self

section
variable (H : Bytes → Bytes)

theorem enc_nil_short : (enc H .nil).length < 32 := by simp [enc]

/-- The child `c` as its parent's collapsed form holds it: itself in a value slot (`b`) or when its encoding is shorter
than 32 bytes, else the hash reference. -/
def slot (b : Bool) (c : Node) : CNode :=
  if b || decide ((enc H c).length < 32) then collapse H c else .hash (H (enc H c))

theorem collapse_short (k : List Nib) (c : Node) :
    collapse H (.short k c) = .short k (slot H c.isValue c) := rfl

theorem collapse_full (c : Nib → Node) :
    collapse H (.full c) = .full fun i => slot H (decide (i = term)) (c i) := rfl

/-- the lookup of `key` in `s` goes on at `s'`, a hashed (≥ 32 bytes) node further down `Prove`'s path, with the shorter
key `rest` -/
structure Goto (s : Node) (key : List Nib) (rest : List Nib) (s' : Node) : Prop where
  wf : WF s'
  notValue : s'.isValue = false
  keyAt : KeyAt false rest
  get_eq : Model.Trie.get s key = Model.Trie.get s' rest
  long : 32 ≤ (enc H s').length
  path_sub : ∀ t ∈ path s' rest, t ∈ path s key
  shorter : rest.length < key.length

/-- what one decoded honest node tells the verifier about `key`: the answer, or a reference to where it goes on -/
def StepOK (s : Node) (key : List Nib) : Step → Prop
  | .found x => Model.Trie.get s key = some x
  | .absent => Model.Trie.get s key = none
  | .goto h rest => ∃ s', h = H (enc H s') ∧ Goto H s key rest s'
  | .panic => False

/-- the step through a child slot, seen from the parent `s`: the short and the full case of `cget_collapse` -/
theorem stepOK_child {s c : Node} {key r : List Nib} {b : Bool}
    (hg : Model.Trie.get s key = Model.Trie.get c r) (hpath : ∀ t ∈ path c r, t ∈ path s key)
    (hlen : r.length < key.length) (hp : Pos b c) (hr : KeyAt b r)
    (ih : StepOK H c r (cget (collapse H c) r)) :
    StepOK H s key (cget (slot H b c) r) := by
  unfold slot
  by_cases hc : (b || decide ((enc H c).length < 32)) = true
  · rw [if_pos hc]
    revert ih
    cases cget (collapse H c) r with
    | found x => exact hg.trans
    | absent => exact hg.trans
    | panic => exact id
    | goto h rest =>
      rintro ⟨s', hh, g⟩
      exact ⟨s', hh, { g with
        get_eq := hg.trans g.get_eq
        path_sub := fun t ht => hpath t (g.path_sub t ht)
        shorter := Nat.lt_trans g.shorter hlen }⟩
  · rw [if_neg hc]
    simp only [Bool.or_eq_true, decide_eq_true_eq, not_or, Bool.not_eq_true] at hc
    rcases hp with h0 | ⟨hw, hv⟩
    · rw [isNil_eq h0] at hc; exact absurd (enc_nil_short H) hc.2
    · exact ⟨c, rfl, {
        wf := hw
        notValue := hv.trans hc.1
        keyAt := hc.1 ▸ hr
        get_eq := hg
        long := Nat.le_of_not_lt hc.2
        path_sub := hpath
        shorter := hlen }⟩

theorem cget_collapse {v : Bool} {s : Node} (hp : Pos v s) :
    ∀ key, KeyAt v key → StepOK H s key (cget (collapse H s) key) := by
  induction v, s, hp using pos_induction with
  | nil v => exact fun _ _ => rfl
  | value w => exact fun _ _ => rfl
  | short k c hk hs hw ih =>
    intro key hkey
    have hne := keyAt_false_ne_nil hkey
    rw [collapse_short]
    simp only [cget]
    cases hst : strip k key with
    | none => exact (get_short_bind k c key).trans (by rw [hst]; rfl)
    | some r =>
      have e := strip_eq_some.mp hst
      have hr : KeyAt c.isValue r := (suf_append_iff hk).mp (e ▸ hkey.1)
      refine stepOK_child H (by rw [get_short_bind, hst]; rfl) ?_ ?_ (pos_of_wf hw) hr (ih r hr)
      · rw [path_short_cons k c hne hst]; exact fun t ht => List.mem_cons_of_mem _ ht
      · have := List.length_pos_iff.mpr (keyOK_ne_nil hk)
        rw [e, List.length_append]; omega
  | full c hw ih =>
    intro key hkey
    obtain ⟨i, r, rfl⟩ := keyAt_false_cons hkey
    have hr := keyAt_of_cons hkey
    exact stepOK_child H rfl (fun t ht => List.mem_cons_of_mem _ ht) (Nat.lt_succ_self _) (pos_child hw i) hr
      (ih i r hr)

/-- a verdict that can be trusted, `o` being the true lookup: a value or absence only if `o` says so, and no panic -/
def SoundFor (o : Option Bytes) (r : VRes) : Prop :=
  (∀ x, r = .value x → o = some x) ∧ (r = .absent → o = none) ∧ r ≠ .panic

/-- PROOF SOUNDNESS, the walk.  `db` is ANY content-addressed database (in particular: the honest proof with any nodes
altered, dropped, added, re-inserted under the hash of the altered bytes).  Whatever `VerifyProof` answers for the root of
a normal-form trie `s` without reporting an error is the truth about `s`; it never panics on such a database. -/
theorem verify_sound_path (decode : Bytes → Dec CNode)
    (db : Bytes → Option Bytes) (hdb : ∀ h b, db h = some b → H b = h) :
    ∀ (fuel : Nat) (s : Node) (key : List Nib), WF s → s.isValue = false → KeyAt false key →
      (∀ t ∈ path s key, WF t → decode (enc H t) = .ok (collapse H t)) → NoColl H db s key →
      SoundFor (Model.Trie.get s key) (verify H decode db fuel (H (enc H s)) key) := by
  intro fuel
  induction fuel with
  | zero => exact fun _ _ _ _ _ _ _ => ⟨nofun, nofun, nofun⟩
  | succ f ih =>
    intro s key hw hv hk hdec hcoll
    have hself := self_mem_path hw hv hk
    simp only [verify]
    cases hdbq : db (H (enc H s)) with
    | none => exact ⟨nofun, nofun, nofun⟩
    | some buf =>
      have hb : buf = enc H s := hcoll _ buf s hdbq hself (hdb _ _ hdbq)
      subst hb
      simp only [hdec s hself hw]
      have hstep := cget_collapse H (pos_of_wf hw) key (hv ▸ hk)
      revert hstep
      cases cget (collapse H s) key with
      | found x => exact fun h => ⟨fun y e => h.trans (congrArg some (VRes.value.inj e)), nofun, nofun⟩
      | absent => exact fun h => ⟨nofun, fun _ => h, nofun⟩
      | panic => exact False.elim
      | goto h rest =>
        rintro ⟨s', rfl, g⟩
        rw [g.get_eq]
        exact ih s' rest g.wf g.notValue g.keyAt (fun t ht => hdec t (g.path_sub t ht))
          (fun h b t hd ht => hcoll h b t hd (g.path_sub t ht))

theorem dbOf_content_addressed (nodes : List Bytes) :
    ∀ h b, dbOf H nodes h = some b → H b = h := by
  intro h b hf
  have := List.find?_some hf
  simpa using this

theorem dbOf_of_mem (nodes : List Bytes) (b : Bytes) (hb : b ∈ nodes)
    (hc : ∀ x ∈ nodes, H x = H b → x = b) : dbOf H nodes (H b) = some b := by
  unfold dbOf
  cases hf : nodes.find? (fun x => H x == H b) with
  | none => exact absurd (List.find?_eq_none.mp hf b hb) (by simp)
  | some x =>
    have h1 : (H x == H b) = true := List.find?_some (p := fun x => H x == H b) hf
    rw [hc x (List.mem_of_find?_eq_some hf) (beq_iff_eq.mp h1)]

/-- `Prove` lists the encodings of the nodes on the path: the first one, and those that are not embedded -/
theorem mem_proofNodes (s : Node) (key : List Nib) (x : Bytes) :
    x ∈ proofNodes H s key ↔
      ∃ t ∈ path s key, x = enc H t ∧ (32 ≤ (enc H t).length ∨ (path s key).head? = some t) := by
  unfold proofNodes
  cases path s key with
  | nil => exact ⟨nofun, nofun⟩
  | cons p ps =>
    simp only [List.map_cons, List.mem_cons, List.mem_filter, List.mem_map, List.head?_cons, Option.some.injEq,
      ge_iff_le, decide_eq_true_eq]
    constructor
    · rintro (rfl | ⟨⟨t, ht, rfl⟩, h⟩)
      · exact ⟨p, Or.inl rfl, rfl, Or.inr rfl⟩
      · exact ⟨t, Or.inr ht, rfl, Or.inl h⟩
    · rintro ⟨t, ht, rfl, h | rfl⟩
      · exact ht.imp (congrArg _) fun ht => ⟨⟨t, ht, rfl⟩, h⟩
      · exact Or.inl rfl

/-- The walk over any node list that contains the current node and every hashed node of `Prove`'s path, for a decoder that
inverts the honest encoder on that path and a hash that does not make a listed node collide with a path node. -/
theorem verify_complete_path (decode : Bytes → Dec CNode) (nodes : List Bytes) :
    ∀ (fuel : Nat) (s : Node) (key : List Nib), WF s → s.isValue = false → KeyAt false key → key.length < fuel →
      (∀ t ∈ path s key, WF t → decode (enc H t) = .ok (collapse H t)) →
      (∀ x ∈ nodes, ∀ t ∈ path s key, H x = H (enc H t) → x = enc H t) →
      enc H s ∈ nodes → (∀ t ∈ path s key, 32 ≤ (enc H t).length → enc H t ∈ nodes) →
      verify H decode (dbOf H nodes) fuel (H (enc H s)) key =
        (match Model.Trie.get s key with | some x => VRes.value x | none => VRes.absent) := by
  intro fuel
  induction fuel with
  | zero => exact fun _ _ _ _ _ hf => absurd hf (Nat.not_lt_zero _)
  | succ f ih =>
    intro s key hw hv hk hf hdec hcoll hin hall
    have hself := self_mem_path hw hv hk
    simp only [verify, dbOf_of_mem H nodes _ hin (fun x hx => hcoll x hx s hself), hdec s hself hw]
    have hstep := cget_collapse H (pos_of_wf hw) key (hv ▸ hk)
    revert hstep
    cases cget (collapse H s) key with
    | found x => intro (h : Model.Trie.get s key = some x); rw [h]
    | absent => intro (h : Model.Trie.get s key = none); rw [h]
    | panic => exact False.elim
    | goto h rest =>
      rintro ⟨s', rfl, g⟩
      rw [g.get_eq]
      have hs' : s' ∈ path s key := g.path_sub s' (self_mem_path g.wf g.notValue g.keyAt)
      exact ih s' rest g.wf g.notValue g.keyAt (Nat.lt_of_lt_of_le g.shorter (Nat.le_of_lt_succ hf))
        (fun t ht => hdec t (g.path_sub t ht)) (fun x hx t ht => hcoll x hx t (g.path_sub t ht)) (hall s' hs' g.long)
        (fun t ht h => hall t (g.path_sub t ht) h)

end

theorem verify_sound (H : Bytes → Bytes) (Hinj : Function.Injective H) (decode : Bytes → Dec CNode)
    (hdec : ∀ s, WF s → decode (enc H s) = .ok (collapse H s))
    (db : Bytes → Option Bytes) (hdb : ∀ h b, db h = some b → H b = h) :
    ∀ (fuel : Nat) (s : Node) (key : List Nib), WF s → s.isValue = false → KeyAt false key →
      (∀ x, verify H decode db fuel (H (enc H s)) key = .value x → Model.Trie.get s key = some x) ∧
      (verify H decode db fuel (H (enc H s)) key = .absent → Model.Trie.get s key = none) ∧
      verify H decode db fuel (H (enc H s)) key ≠ .panic :=
  fun fuel s key hw hv hk => verify_sound_path H decode db hdb fuel s key hw hv hk (fun t _ => hdec t)
    (noColl_of_injective H Hinj db s key)

end Props.C10
