/-
C09: one walk over the mutators of `StateDB` (`applyOp_mut`).  Its halves: `applyOp_ext` — a mutator only appends journal
entries, and undoing exactly those restores the abstraction; `applyOp_frame` — it leaves the revision stack alone and, in a state
without shared token-map cells, the heap.
-/
import LinkVerif.Props.C09Ext

namespace Props.C09
open Model.StateDB

/-- side condition of `Suicide` (see `C09_revert_unconditional_counterexample`): `suicideChange` remembers only strictly positive
balances, so exact restoration needs non-negative balances; and the token map must be private (not a cell shared with a copy),
because the revert installs a private map again.  On the current tree (deepCopy clones the map) no map is ever shared, and
the second half is discharged by the invariant `NS`: see `SafeOpNN`, `safe_of_nn`, `revert_exact_ns` in Props/C09World.lean -/
def SafeOp (c : Ctx) : Op → Prop
  | .suicide a => ∀ o, peek c.st a = some o → 0 ≤ o.balance ∧ ∃ m, o.toks = .inl m ∧ ∀ t v, m t = some v → 0 ≤ v
  | _ => True

theorem peek_ensure (c : Ctx) (a : Addr) : peek (ensure c a).1.st a = some (ensure c a).2 := by
  unfold ensure
  cases h : peek c.st a with
  | some o => simp [peek_not_deleted h]
  | none => simp [createObject, freshObj]

section
variable {c : Ctx} {a : Addr} {o : Obj}

theorem peek_setCredits (h : peek c.st a = some o) (v : Nat) :
    peek (setCredits c a o v).1.st a = some (setCredits c a o v).2 := by
  simp [setCredits, peek_not_deleted h]

theorem peek_zeroInsert (cfg : Cfg) (h : peek c.st a = some o) (t : Tok) :
    peek (zeroInsert cfg c a o t).1.st a = some (zeroInsert cfg c a o t).2 := by
  unfold zeroInsert
  split
  · simp [writeTokO_deleted, peek_not_deleted h]
  · exact h

theorem ensure_mut (c : Ctx) (a : Addr) : Mut c (ensure c a).1 := by
  unfold ensure
  cases h : peek c.st a with
  | some o =>
    have hnd := peek_not_deleted h
    exact ⟨.put c a o hnd (fun hn _ => NSo_peek hn h), fun _ => Ext.neutral (Upd_putObj c a o hnd) rfl (abs_putObj_view c a o o h rfl hnd)⟩
  | none =>
    have : (createObject c a).1 = putObj (push c (.createObject a)) a freshObj := by simp [createObject, h]
    simp only [this]
    exact .create h

theorem setCredits_mut (h : peek c.st a = some o) (v : Nat) : Mut c (setCredits c a o v).1 :=
  .field h { o with credits := v } (.credits a o.credits) (fun _ _ h => by cases h) (fun _ => rfl) rfl rfl rfl rfl

theorem setBalance_mut (h : peek c.st a = some o) (v : Int) : Mut c (setBalance c a o v) :=
  (setCredits_mut h (o.credits + 1)).trans
    (.field (peek_setCredits h _) { o with credits := o.credits + 1, balance := v } (.balance a o.balance)
      (fun _ _ h => by cases h) (fun _ => rfl) rfl rfl rfl rfl)

theorem touchIfEmpty_mut (c : Ctx) (a : Addr) (o : Obj) : Mut c (touchIfEmpty c a o) := by
  unfold touchIfEmpty
  split
  · exact ⟨.push c _ (fun _ _ h => by cases h), fun _ => Ext.push1 (.touch a) (Upd_push _ _) rfl rfl⟩
  · exact .refl c

theorem zeroInsert_mut (cfg : Cfg) (h : peek c.st a = some o) (t : Tok) :
    Mut c (zeroInsert cfg c a o t).1 := by
  unfold zeroInsert
  split
  · next hc =>
    -- the un-journalled zero entry is invisible to the abstraction
    simp only [Bool.and_eq_true, Option.isNone_iff_eq_none] at hc
    have fr : Frame [] c (writeTok c a o t (some 0)) := .writeTok c a t _ h
    refine ⟨fr, fun _ => Ext.neutral fr.upd rfl ?_⟩
    have := modTokA_same (abs c) a t (viewObj o) (abs_acct h)
    rw [tokValA_abs, hc.1] at this
    show abs (writeTok c a o t (some 0)) = abs c
    rw [← modTok_of_peek h, abs_modTok]
    exact this
  · exact .refl c

theorem setTokenBalance_mut (cfg : Cfg) (h : peek c.st a = some o) (t : Tok) (v : Int) :
    Mut c (setTokenBalance cfg c a o t v) := by
  by_cases ht : t = 0
  · simp only [setTokenBalance, if_pos ht]; exact setBalance_mut h v
  · rw [setTokenBalance_of_ne cfg c a o ht]
    have h0 := peek_zeroInsert cfg h t
    exact (zeroInsert_mut cfg h t).trans ((setCredits_mut h0 _).trans (.tok (peek_setCredits h0 _) t v))

end

theorem applyOp_mut (cfg : Cfg) (c : Ctx) (op : Op) :
    Frame [] c (applyOp cfg c op) ∧ (WF c.st → SafeOp c op → Ext c (applyOp cfg c op)) := by
  -- `ensure` with its result named: the `let (c1, o) := ensure c a` of a mutator then reduces (unifying through the projections of
  -- the unnamed pair is slow to check)
  have key : ∀ a, ∃ c1 o, ensure c a = (c1, o) ∧ Mut c c1 ∧ peek c1.st a = some o :=
    fun a => ⟨_, _, rfl, ensure_mut c a, peek_ensure c a⟩
  have ofMut : ∀ {c'}, Mut c c' → Frame [] c c' ∧ (WF c.st → SafeOp c op → Ext c c') := fun m => ⟨m.frame, fun hw _ => m.ext hw⟩
  cases op with
  | addBal a v =>
    obtain ⟨c1, o, he, h1, h2⟩ := key a
    simp only [applyOp, he]
    split
    · exact ofMut (h1.trans (touchIfEmpty_mut _ a _))
    · exact ofMut (h1.trans (setBalance_mut h2 _))
  | subBal a v =>
    obtain ⟨c1, o, he, h1, h2⟩ := key a
    simp only [applyOp, he]
    split
    · exact ofMut h1
    · exact ofMut (h1.trans (setBalance_mut h2 _))
  | setBal a v =>
    obtain ⟨c1, o, he, h1, h2⟩ := key a
    simp only [applyOp, he]
    exact ofMut (h1.trans (setBalance_mut h2 _))
  | addTok a t v =>
    obtain ⟨c1, o, he, h1, h2⟩ := key a
    simp only [applyOp, he]
    split
    · exact ofMut (h1.trans (touchIfEmpty_mut _ a _))
    · exact ofMut (h1.trans (setTokenBalance_mut cfg h2 t _))
  | subTok a t v =>
    obtain ⟨c1, o, he, h1, h2⟩ := key a
    simp only [applyOp, he]
    split
    · exact ofMut h1
    · exact ofMut (h1.trans (setTokenBalance_mut cfg h2 t _))
  | setTok a t v =>
    obtain ⟨c1, o, he, h1, h2⟩ := key a
    simp only [applyOp, he]
    exact ofMut (h1.trans (setTokenBalance_mut cfg h2 t _))
  | setNonce a n =>
    obtain ⟨c1, o, he, h1, h2⟩ := key a
    simp only [applyOp, he]
    exact ofMut (h1.trans (.field h2 { o with nonce := n } (.nonce a o.nonce) (fun _ _ h => by cases h)
      (fun _ => rfl) rfl rfl rfl rfl))
  | setCode a code =>
    obtain ⟨c1, o, he, h1, h2⟩ := key a
    simp only [applyOp, he]
    exact ofMut (h1.trans (.field h2 { o with code := code } (.code a o.code) (fun _ _ h => by cases h)
      (fun _ => rfl) rfl rfl rfl rfl))
  | setState a k v =>
    obtain ⟨c1, o, he, h1, h2⟩ := key a
    simp only [applyOp, he]
    split
    · exact ofMut h1
    · exact ofMut (h1.trans (.field h2 { o with dirty := upd o.dirty k (some v) } (.storage a k (getState o k))
        (fun _ _ h => by cases h) (fun _ => rfl) rfl rfl rfl (by simp only [viewObj, getState_dirty_restore])))
  | create a =>
    simp only [applyOp, createObject]
    cases h : peek c.st a with
    | none => exact ofMut (.create h)
    | some p =>
      simp only [putObj_putObj]
      exact ofMut (.put h _ { p with deleted := false } _ (fun _ _ he hn => by cases he; exact NSo_peek hn h) (fun _ => ⟨_, rfl⟩) rfl
        (putObj_putObj _ a _ _) rfl rfl)
  | suicide a =>
    simp only [applyOp]
    cases h : peek c.st a with
    | none => exact ofMut (.refl c)
    | some o =>
      have hnd := peek_not_deleted h
      refine ⟨(Frame.push c _ (fun _ _ h => by cases h)).trans (.put _ a _ hnd (fun _ _ => ⟨_, rfl⟩)), fun hw hs => ?_⟩
      obtain ⟨hb, m, hm, ht⟩ := hs o h
      exact (Mut.suicide h hm hb ht).ext hw
  | addLog d =>
    exact ofMut (.st c (.addLog c.st.thash) _ (fun _ _ h => by cases h) rfl
      (by simp only [abs, undoA, peek, upd_same, upd_upd, List.dropLast_concat, upd_self, Nat.add_sub_cancel]))
  | addRefund g => exact ofMut (.st c (.refund c.st.refund) _ (fun _ _ h => by cases h) rfl rfl)
  | subRefund g => exact ofMut (.st c (.refund c.st.refund) _ (fun _ _ h => by cases h) rfl rfl)
  | prepare x i => exact ofMut ⟨.st _ _ rfl, fun _ => Ext.neutral ⟨rfl, fun _ => Or.inl rfl⟩ rfl rfl⟩
  | setCredits a n =>
    obtain ⟨c1, o, he, h1, h2⟩ := key a
    simp only [applyOp, he]
    exact ofMut (h1.trans (setCredits_mut h2 n))
  | addPreimage p d =>
    simp only [applyOp]
    cases h : c.st.preimages p with
    | some v => exact ofMut (.refl c)
    | none =>
      exact ofMut (.st c (.addPreimage p) _ (fun _ _ h => by cases h) rfl
        (by simp only [abs, undoA, peek, upd_upd]; rw [← h, upd_self]))

theorem applyOp_ext (cfg : Cfg) (c : Ctx) (op : Op) (hw : WF c.st) (hs : SafeOp c op) : Ext c (applyOp cfg c op) :=
  (applyOp_mut cfg c op).2 hw hs

theorem applyOp_frame (cfg : Cfg) (c : Ctx) (op : Op) : Frame [] c (applyOp cfg c op) := (applyOp_mut cfg c op).1

theorem WF_applyOp (cfg : Cfg) (c : Ctx) (op : Op) (hw : WF c.st) : WF (applyOp cfg c op).st :=
  WF_of_Upd hw (applyOp_frame cfg c op).upd

end Props.C09
