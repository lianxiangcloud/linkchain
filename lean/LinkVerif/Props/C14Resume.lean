import LinkVerif.Props.C14Search
import LinkVerif.Model.Node

/-!
# C14 — what the node IS after a restart: the replay restores the state (and the lock)

`catchupReplay` hands every record after the marker of the previous height to the handlers the running node uses
(`readReplayMessage` → `handleMsg` / `handleTimeout`).  With the node model of C01 (`Model.Node.step`, tied to the real
`ConsensusState` step by step) the state after a restart is therefore a fold of `step` over the decoded records; the
search theorems of `Props/C14Search` say WHICH records those are.
-/
namespace Props.C14
open Model.Wal

/-- **catchup_replays_after_marker**: the log on disk is record-aligned and ends cleanly (record boundary, or inside
a checksum field), the marker of the current height is absent and the marker of the previous height present: then
`catchupReplay` ends with "Replay: Done" and hands the state machine exactly the non-marker records written after a
marker of the previous height, in order. -/
theorem catchup_replays_after_marker (c : Codec) (hb : Bounded c) (g : Group) (csHeight : Nat)
    (pss : List (List Bytes)) (hd : List Bytes) (rem rest' : Bytes)
    (hD : OnDisk c g pss hd rem) (hrem : decode1 c Tail.eof rem = (Res.eof, rest'))
    (hv : ∀ p ∈ pss.flatten ++ hd, Valid c p)
    (hmono : ((pss.flatten ++ hd).filterMap c.eh).Pairwise (· ≤ ·))
    (hno : ∀ p ∈ pss.flatten ++ hd, c.eh p ≠ some csHeight)
    (hyes : ∃ p ∈ pss.flatten ++ hd, c.eh p = some (csHeight - 1)) :
    ∃ pre m post, pss.flatten ++ hd = pre ++ m :: post ∧ c.eh m = some (csHeight - 1) ∧
      catchup c g csHeight = (post.filter (fun p => (c.eh p).isNone), Outcome.done) := by
  rcases search_aligned_clean c hb g csHeight true pss hd rem rest' hD hrem hv hmono with
    ⟨_, _, m, _, e, hm, _⟩ | ⟨_, k1⟩
  · exact absurd hm (hno m (e ▸ List.mem_append_cons_self))
  rcases search_aligned_clean c hb g (csHeight - 1) true pss hd rem rest' hD hrem hv hmono with
    ⟨i, pre, m, post, e, hm, k2⟩ | ⟨hno', _⟩
  · refine ⟨pre, m, post, e, hm, ?_⟩
    have htail := (alignedView_of_onDisk c g pss hd rem hD).tail
    have hdec : decodeAll c Tail.eof (frames c post ++ rem) = (post, Res.eof) :=
      decodeAll_frames_stop c hb post
        (fun p hp => hv p (by rw [e]; exact List.mem_append_right _ (List.mem_cons_of_mem _ hp))) hrem rfl
    simp only [catchup, k1, k2, htail, hdec]
  · obtain ⟨p, hp, he⟩ := hyes
    exact absurd he (hno' p hp)

/-- a torn length/data field at the end of the head: `catchupReplay` gives up with that read error before replaying
anything, unless the marker of the CURRENT height is among the head's whole records (finding wal-search-torn-tail, seen
from its consumer) -/
theorem catchup_torn_gives_up (c : Codec) (hb : Bounded c) (g : Group) (csHeight : Nat)
    (pss : List (List Bytes)) (hd : List Bytes) (rem rest' : Bytes) (r : Res)
    (hD : OnDisk c g pss hd rem) (hrem : decode1 c Tail.eof rem = (r, rest')) (hr : isStop r = true)
    (hne : r ≠ Res.eof) (hv : ∀ p ∈ hd, Valid c p) (hno : ∀ p ∈ hd, c.eh p ≠ some csHeight) :
    catchup c g csHeight = ([], Outcome.err r) := by
  rcases search_aligned_torn c hb g csHeight true pss hd rem rest' r hD hrem hr hne hv with
    ⟨_, m, _, e, hm, _⟩ | ⟨_, k⟩
  · exact absurd hm (hno m (e ▸ List.mem_append_cons_self))
  · simp only [catchup, k]

/-- one logged input of the node: the event `i` and what the node model takes as given with it (as `nsStep` of
`Driver/C01.lean` does): `nv` = the block this node would create if it had to propose now, `nvt` = the number of
parts of that block -/
structure LoggedIn where
  i : Model.Node.In
  nv : Nat
  nvt : Nat

/-- handling one input (what the running node does after logging it, and what the replay does with the record) -/
def handle (s : Model.Node.St) (x : LoggedIn) : Model.Node.St :=
  Model.Node.step (Model.Node.learn { s with fresh := x.nv } x.nv x.nvt) x.i

/-- the state of the ORIGINAL node after handling these inputs from `s0` (the state the commit of the previous height left) -/
def stateAfter (s0 : Model.Node.St) (xs : List LoggedIn) : Model.Node.St := xs.foldl handle s0

/-- the state a restarted node has when `catchupReplay(csHeight)` ends with "Replay: Done" (`inOf` = the payload codec,
abstract); `none`: the replay reports an error or panics on corruption (the node refuses, or starts from `s0` without
replay — OnStart's policy, finding wal-search-torn-tail) -/
def restartState (c : Codec) (inOf : Bytes → LoggedIn) (s0 : Model.Node.St) (g : Group) (csHeight : Nat) :
    Option Model.Node.St :=
  match catchup c g csHeight with
  | (ms, Outcome.done) => some (stateAfter s0 (ms.map inOf))
  | _ => none

/-- **replay_is_fold**: on a record-aligned log that ends cleanly, without the marker of the current height and with
the marker of the previous one, the restarted node's state is the fold of the node's step function over exactly the
non-marker records written after that marker, in order — i.e. the state the original node had after handling them. -/
theorem replay_is_fold (c : Codec) (hb : Bounded c) (inOf : Bytes → LoggedIn) (s0 : Model.Node.St) (g : Group)
    (csHeight : Nat) (pss : List (List Bytes)) (hd : List Bytes) (rem rest' : Bytes)
    (hD : OnDisk c g pss hd rem) (hrem : decode1 c Tail.eof rem = (Res.eof, rest'))
    (hv : ∀ p ∈ pss.flatten ++ hd, Valid c p)
    (hmono : ((pss.flatten ++ hd).filterMap c.eh).Pairwise (· ≤ ·))
    (hno : ∀ p ∈ pss.flatten ++ hd, c.eh p ≠ some csHeight)
    (hyes : ∃ p ∈ pss.flatten ++ hd, c.eh p = some (csHeight - 1)) :
    ∃ pre m post, pss.flatten ++ hd = pre ++ m :: post ∧ c.eh m = some (csHeight - 1) ∧
      restartState c inOf s0 g csHeight =
        some (stateAfter s0 ((post.filter (fun p => (c.eh p).isNone)).map inOf)) := by
  obtain ⟨pre, m, post, e, hm, hc⟩ :=
    catchup_replays_after_marker c hb g csHeight pss hd rem rest' hD hrem hv hmono hno hyes
  exact ⟨pre, m, post, e, hm, by simp [restartState, hc]⟩

/-- **lock_survives_replay**: if the original node, after handling the inputs logged after the marker, was locked on
`(r, b)`, the restarted node is locked on `(r, b)` (and has the same valid round/value, round and step): the WAL is
what makes the voting discipline of C01 survive a crash.  (`restartState` is by definition the fold over the replayed
records, so all the content is in `replay_is_fold`: which records those are; the seven equations then hold by `rfl`.) -/
theorem lock_survives_replay (c : Codec) (hb : Bounded c) (inOf : Bytes → LoggedIn) (s0 : Model.Node.St) (g : Group)
    (csHeight : Nat) (pss : List (List Bytes)) (hd : List Bytes) (rem rest' : Bytes)
    (hD : OnDisk c g pss hd rem) (hrem : decode1 c Tail.eof rem = (Res.eof, rest'))
    (hv : ∀ p ∈ pss.flatten ++ hd, Valid c p)
    (hmono : ((pss.flatten ++ hd).filterMap c.eh).Pairwise (· ≤ ·))
    (hno : ∀ p ∈ pss.flatten ++ hd, c.eh p ≠ some csHeight)
    (hyes : ∃ p ∈ pss.flatten ++ hd, c.eh p = some (csHeight - 1)) :
    ∃ pre m post s, pss.flatten ++ hd = pre ++ m :: post ∧ c.eh m = some (csHeight - 1) ∧
      restartState c inOf s0 g csHeight = some s ∧
      let orig := stateAfter s0 ((post.filter (fun p => (c.eh p).isNone)).map inOf)
      s.lockedRound = orig.lockedRound ∧ s.lockedValue = orig.lockedValue ∧
      s.validRound = orig.validRound ∧ s.validValue = orig.validValue ∧
      s.round = orig.round ∧ s.step = orig.step ∧ s.height = orig.height := by
  obtain ⟨pre, m, post, e, hm, hr⟩ :=
    replay_is_fold c hb inOf s0 g csHeight pss hd rem rest' hD hrem hv hmono hno hyes
  exact ⟨pre, m, post, _, e, hm, hr, rfl, rfl, rfl, rfl, rfl, rfl, rfl⟩

/-- **restart_torn_no_replay**: a head that ends inside the length or data field of a record (and does not hold the
marker of the current height): no state is restored — never the state of a log with a record skipped in the middle;
what the node does instead (start from `s0`) is the recorded finding wal-search-torn-tail. -/
theorem restart_torn_no_replay (c : Codec) (hb : Bounded c) (inOf : Bytes → LoggedIn) (s0 : Model.Node.St) (g : Group)
    (csHeight : Nat) (pss : List (List Bytes)) (hd : List Bytes) (rem rest' : Bytes) (r : Res)
    (hD : OnDisk c g pss hd rem) (hrem : decode1 c Tail.eof rem = (r, rest')) (hr : isStop r = true)
    (hne : r ≠ Res.eof) (hv : ∀ p ∈ hd, Valid c p) (hno : ∀ p ∈ hd, c.eh p ≠ some csHeight) :
    restartState c inOf s0 g csHeight = none := by
  have := catchup_torn_gives_up c hb g csHeight pss hd rem rest' r hD hrem hr hne hv hno
  simp [restartState, this]

/-- a state restored from the first inputs only is a state the original node went through -/
theorem stateAfter_append (s0 : Model.Node.St) (xs ys : List LoggedIn) :
    stateAfter s0 (xs ++ ys) = stateAfter (stateAfter s0 xs) ys := by
  simp [stateAfter, List.foldl_append]

end Props.C14
