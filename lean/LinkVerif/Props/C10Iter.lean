/-
C10: iteration (`toMap`, the order of iterator.go) enumerates exactly the content, in path order.
-/
import LinkVerif.Props.C10Basic

namespace Props.C10
open Model.Trie

/-- lexicographic order on nibble paths (the terminator 16 is the greatest nibble) -/
def pathLt : List Nib → List Nib → Prop
  | [], [] => False
  | [], _ :: _ => True
  | _ :: _, [] => False
  | a :: as, b :: bs => a < b ∨ (a = b ∧ pathLt as bs)

theorem pathLt_append_left (k : List Nib) {a b : List Nib} (h : pathLt a b) : pathLt (k ++ a) (k ++ b) := by
  induction k with
  | nil => exact h
  | cons x k ih => exact Or.inr ⟨rfl, ih⟩

/-- the enumeration is strictly increasing in path order (for every node, no invariant needed): no key twice -/
theorem toMap_sorted : ∀ (n : Node), (toMap n).Pairwise (fun a b => pathLt a.1 b.1) := by
  intro n
  induction n with
  | nil => exact List.Pairwise.nil
  | value _ => exact List.pairwise_singleton _ _
  | short k c ih =>
    simp only [toMap, List.pairwise_map]
    exact ih.imp (pathLt_append_left k)
  | full c ih =>
    simp only [toMap, List.pairwise_flatMap, List.pairwise_map]
    refine ⟨fun i _ => (ih i).imp (fun h => Or.inr ⟨rfl, h⟩), (List.pairwise_lt_finRange 17).imp ?_⟩
    intro i j hij x hx y hy
    obtain ⟨x', _, rfl⟩ := List.mem_map.mp hx
    obtain ⟨y', _, rfl⟩ := List.mem_map.mp hy
    exact Or.inl hij

theorem toMap_mem_iff : ∀ (n : Node) (v : Bool), Pos v n → ∀ (key : List Nib) (x : Bytes), KeyAt v key →
    ((key, x) ∈ toMap n ↔ Model.Trie.get n key = some x) := by
  intro n v hp
  induction v, n, hp using pos_induction with
  | nil v => exact fun _ _ _ => ⟨nofun, nofun⟩
  | value w =>
    intro key x hk
    rw [keyAt_true.mp hk]
    exact ⟨fun h => by rw [(Prod.mk.inj (List.mem_singleton.mp h)).2]; rfl,
      fun h => by rw [← Option.some.inj h]; exact List.mem_singleton.mpr rfl⟩
  | short k c hkk _ _ ih =>
    intro key x hk
    rw [get_short_bind]
    simp only [toMap, List.mem_map]
    constructor
    · rintro ⟨⟨r, x'⟩, hm, e⟩
      obtain ⟨rfl, rfl⟩ := Prod.mk.inj e
      rw [strip_append]
      exact (ih r x' ((suf_append_iff hkk).mp hk.1)).mp hm
    · intro hg
      cases hst : strip k key with
      | none => rw [hst] at hg; cases hg
      | some r =>
        rw [hst] at hg
        have e := strip_eq_some.mp hst
        exact ⟨(r, x), (ih r x ((suf_append_iff hkk).mp (e ▸ hk.1))).mpr hg, by rw [e]⟩
  | full c _ ih =>
    intro key x hk
    obtain ⟨i, r, rfl⟩ := keyAt_false_cons hk
    rw [get_full_cons, ← ih i r x (keyAt_of_cons hk)]
    simp only [toMap, List.mem_flatMap, List.mem_map]
    constructor
    · rintro ⟨j, _, ⟨r', x'⟩, hm, e⟩
      obtain ⟨e1, rfl⟩ := Prod.mk.inj e
      obtain ⟨rfl, rfl⟩ := List.cons.inj e1
      exact hm
    · exact fun hm => ⟨i, List.mem_finRange i, (r, x), hm, rfl⟩

theorem toMap_keys : ∀ (n : Node) (v : Bool), Pos v n → ∀ kv ∈ toMap n, KeyAt v kv.1 := by
  intro n v hp
  induction v, n, hp using pos_induction with
  | nil v => exact nofun
  | value w => exact fun kv h => List.mem_singleton.mp h ▸ keyAt_true.mpr rfl
  | short k c hkk _ _ ih =>
    intro kv h
    obtain ⟨kv', hm, rfl⟩ := List.mem_map.mp h
    exact keyAt_append hkk (ih kv' hm)
  | full c hw ih =>
    intro kv h
    obtain ⟨i, _, h'⟩ := List.mem_flatMap.mp h
    obtain ⟨kv', hm, rfl⟩ := List.mem_map.mp h'
    exact keyAt_cons (by rw [decide_eq_true_iff]) (ih i kv' hm)

end Props.C10
