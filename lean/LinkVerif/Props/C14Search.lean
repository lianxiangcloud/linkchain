import LinkVerif.Props.C14

/-!
# C14 — SearchForEndHeight over record-aligned groups

Every file of the group is a whole number of records (what `RotateFile` guarantees since fix ed188e7: it flushes the
buffered writer before renaming); the head file is a whole number of records followed by a possibly torn record
(`rem`).  The theorems say exactly what `SearchForEndHeight` answers.
-/
namespace Props.C14
open Model.Wal

/-- `lastHeightFound` after scanning the records -/
def lastEh (c : Codec) : Nat → List Bytes → Nat
  | last, [] => last
  | last, p :: ps => lastEh c ((c.eh p).getD last) ps

/-- a terminal that ends the loop of SearchForEndHeight whatever the options: not a message, not `corrupt` -/
def isStop : Res → Bool
  | .msg _ => false
  | .corrupt => false
  | _ => true

/-- the invariant of `lastHeightFound` across the files of a search: 0, or the height of a marker already read -/
theorem lastEh_seen (c : Codec) (S : List Bytes) : ∀ (ps : List Bytes), (∀ p ∈ ps, p ∈ S) → ∀ last,
    (last = 0 ∨ ∃ p ∈ S, c.eh p = some last) →
    lastEh c last ps = 0 ∨ ∃ p ∈ S, c.eh p = some (lastEh c last ps) := by
  intro ps
  induction ps with
  | nil => exact fun _ _ h => h
  | cons p ps ih =>
    intro hsub last hlast
    rw [lastEh]
    refine ih (fun q hq => hsub q (List.mem_cons_of_mem _ hq)) _ ?_
    cases hp : c.eh p with
    | none => exact hlast
    | some v => exact Or.inr ⟨p, hsub p List.mem_cons_self, hp⟩

theorem scanF_frame (c : Codec) (hb : Bounded c) (t : Tail) (h : Nat) (ign : Bool) (p r : Bytes) (hv : Valid c p)
    (f last : Nat) :
    scanF c t h ign (f + 1) (frame c p ++ r) last =
      if c.eh p = some h then Scan.found r else scanF c t h ign f r ((c.eh p).getD last) := by
  rw [scanF, decode1_frame c hb t p r hv]
  dsimp only
  cases c.eh p with
  | none => exact (if_neg (fun e => nomatch e)).symm
  | some v =>
    by_cases hvh : v = h
    · exact (if_pos hvh).trans (if_pos (congrArg some hvh)).symm
    · exact (if_neg hvh).trans (if_neg (fun e => hvh (Option.some.inj e))).symm

/-- **scan of whole records followed by a terminal**: the scan stops right behind a marker for `h`, or there is none
among the records and the terminal decides -/
theorem scanF_frames (c : Codec) (hb : Bounded c) (t : Tail) (h : Nat) (ign : Bool) (s rest' : Bytes) (r : Res)
    (hd : decode1 c t s = (r, rest')) (hr : isStop r = true) :
    ∀ (ps : List Bytes), (∀ p ∈ ps, Valid c p) → ∀ (f last : Nat), (frames c ps ++ s).length ≤ f →
    (∃ pre m post, ps = pre ++ m :: post ∧ c.eh m = some h ∧
        scanF c t h ign (f + 1) (frames c ps ++ s) last = Scan.found (frames c post ++ s)) ∨
    ((∀ p ∈ ps, c.eh p ≠ some h) ∧
        scanF c t h ign (f + 1) (frames c ps ++ s) last =
          if r = Res.eof then Scan.atEof (lastEh c last ps) else Scan.err r) := by
  intro ps
  induction ps with
  | nil =>
    intro _ f last _
    refine Or.inr ⟨fun _ hp => (nomatch hp), ?_⟩
    show scanF c t h ign (f + 1) s last = if r = Res.eof then Scan.atEof last else Scan.err r
    rw [scanF, hd]
    cases r <;> first | rfl | cases hr
  | cons p ps ih =>
    intro hv f last hf
    rw [frames_cons, List.append_assoc] at hf ⊢
    rw [List.length_append, frame_length] at hf
    -- the record takes one unit of fuel and at least eight bytes
    obtain ⟨f, rfl⟩ := Nat.exists_eq_succ_of_ne_zero (show f ≠ 0 by omega)
    rw [scanF_frame c hb t h ign p _ (hv p List.mem_cons_self)]
    by_cases hp : c.eh p = some h
    · rw [if_pos hp]
      exact Or.inl ⟨[], p, ps, rfl, hp, rfl⟩
    · rw [if_neg hp, lastEh]
      exact (ih (fun q hq => hv q (List.mem_cons_of_mem _ hq)) f _ (by omega)).imp
        (fun ⟨pre, m, post, e, hm, hs⟩ => ⟨p :: pre, m, post, congrArg _ e, hm, hs⟩)
        (fun ⟨hno, hs⟩ => ⟨List.forall_mem_cons.mpr ⟨hp, hno⟩, hs⟩)

/-- what the search sees of a record-aligned group: `qss` = the records of every file, head last; `rem` = the bytes
after the last whole record of the head (a torn record, or nothing).  The head is the last file like any other: the form
the induction over the files wants (`searchFrom_aligned`) -/
structure AlignedView (c : Codec) (g : Group) (qss : List (List Bytes)) (rem : Bytes) : Prop where
  stream : ∀ i, i < qss.length → g.stream i = frames c (qss.drop i).flatten ++ rem
  canOpen : ∀ i, i < qss.length → g.canOpen i = true
  tail : g.tail = Tail.eof
  len : g.files.length + 1 = qss.length

theorem searchFrom_succ (c : Codec) (g : Group) (h : Nat) (ign : Bool) (i last : Nat) (ho : g.canOpen i = true) :
    searchFrom c g h ign (i + 1) last =
      match scanF c g.tail h ign ((g.stream i).length + 1) (g.stream i) last with
      | Scan.found rest => Search.found i rest
      | Scan.atEof last' => if last' > 0 ∧ last' < h then Search.notFound else searchFrom c g h ign i last'
      | Scan.err r => Search.err r := by
  rw [searchFrom, if_pos ho]
  rfl

/-- the outer loop of SearchForEndHeight on an aligned group whose head ends on a record boundary or inside a checksum
field (`rem` reads as io.EOF), entered at file `n` with no marker for `h` in the files from `n` on: it stops right
behind a marker for `h`, or there is none and it answers "not found" -/
theorem searchFrom_aligned (c : Codec) (hb : Bounded c) (g : Group) (h : Nat) (ign : Bool)
    (qss : List (List Bytes)) (rem rest' : Bytes)
    (hA : AlignedView c g qss rem) (hrem : decode1 c Tail.eof rem = (Res.eof, rest'))
    (hv : ∀ p ∈ qss.flatten, Valid c p)
    (hmono : (qss.flatten.filterMap c.eh).Pairwise (· ≤ ·)) :
    ∀ n, n ≤ qss.length → ∀ last,
      (last = 0 ∨ ∃ p ∈ (qss.drop n).flatten, c.eh p = some last) →
      (∀ p ∈ (qss.drop n).flatten, c.eh p ≠ some h) →
      (∃ i pre m post, qss.flatten = pre ++ m :: post ∧ c.eh m = some h ∧
          searchFrom c g h ign n last = Search.found i (frames c post ++ rem)) ∨
      ((∀ p ∈ qss.flatten, c.eh p ≠ some h) ∧ searchFrom c g h ign n last = Search.notFound) := by
  intro n
  induction n with
  | zero => exact fun _ _ _ hno => Or.inr ⟨hno, rfl⟩
  | succ i ih =>
    intro hn last hlast hno
    have hi : i < qss.length := hn
    have hS : (qss.drop i).flatten = qss[i] ++ (qss.drop (i + 1)).flatten := by
      rw [List.drop_eq_getElem_cons hi, List.flatten_cons]
    have hall : qss.flatten = (qss.take i).flatten ++ (qss.drop i).flatten := by
      rw [← List.flatten_append, List.take_append_drop]
    rw [searchFrom_succ c g h ign i last (hA.canOpen i hi), hA.stream i hi, hA.tail]
    rcases scanF_frames c hb Tail.eof h ign rem rest' Res.eof hrem rfl _
        (fun p hp => hv p (by rw [hall]; exact List.mem_append_right _ hp)) _ last (Nat.le_refl _) with
      ⟨pre', m, post, e, hm, hs⟩ | ⟨hnoS, hs⟩
    · rw [hs]
      exact Or.inl ⟨i, (qss.take i).flatten ++ pre', m, post, by rw [hall, e, List.append_assoc], hm, rfl⟩
    · have hLinv := lastEh_seen c (qss.drop i).flatten _ (fun _ hp => hp) last
        (hlast.imp id (fun ⟨p, hp, he⟩ => ⟨p, by rw [hS]; exact List.mem_append_right _ hp, he⟩))
      rw [hs, if_pos rfl]
      dsimp only
      by_cases hc : lastEh c last (qss.drop i).flatten > 0 ∧ lastEh c last (qss.drop i).flatten < h
      · -- early exit: a marker below `h` was seen in a newer file, so by the order of the markers none for `h` is older
        rw [if_pos hc]
        refine Or.inr ⟨fun p hp hph => ?_, rfl⟩
        rw [hall] at hp
        rcases List.mem_append.mp hp with hpA | hpS
        · rcases hLinv with h0 | ⟨q, hq, hqe⟩
          · omega
          · rw [hall, List.filterMap_append, List.pairwise_append] at hmono
            have := hmono.2.2 h (List.mem_filterMap.mpr ⟨p, hpA, hph⟩) _ (List.mem_filterMap.mpr ⟨q, hq, hqe⟩)
            omega
        · exact hnoS p hpS hph
      · rw [if_neg hc]
        exact ih (Nat.le_of_lt hi) _ hLinv hnoS

theorem flatten_map_frames (c : Codec) (pss : List (List Bytes)) :
    (pss.map (frames c)).flatten = frames c pss.flatten := by
  induction pss with
  | nil => rfl
  | cons ps pss ih => rw [List.map_cons, List.flatten_cons, List.flatten_cons, frames_append, ih]

/-- a group on disk: every rotated file is the records `pss[i]`, the head is the records `hd` followed by `rem` -/
structure OnDisk (c : Codec) (g : Group) (pss : List (List Bytes)) (hd : List Bytes) (rem : Bytes) : Prop where
  files : g.files = pss.map (frames c)
  head : g.head = some (frames c hd ++ rem)

theorem alignedView_of_onDisk (c : Codec) (g : Group) (pss : List (List Bytes)) (hd : List Bytes) (rem : Bytes)
    (hD : OnDisk c g pss hd rem) : AlignedView c g (pss ++ [hd]) rem := by
  have hfl : g.files.length = pss.length := by rw [hD.files, List.length_map]
  have hle : ∀ i, i < (pss ++ [hd]).length → i ≤ pss.length := fun i hi =>
    Nat.le_of_lt_succ (by rwa [List.length_append] at hi)
  refine ⟨fun i hi => ?_, fun i hi => ?_, ?_, ?_⟩
  · rw [Group.stream, hD.files, hD.head, Option.getD_some, ← List.map_drop, flatten_map_frames,
      List.drop_append_of_le_length (hle i hi), List.flatten_append, List.flatten_singleton, frames_append,
      List.append_assoc]
  · rw [Group.canOpen, hfl, hD.head]
    rcases Nat.lt_or_eq_of_le (hle i hi) with h | h
    · rw [decide_eq_true h]; rfl
    · rw [h, beq_self_eq_true]; exact Bool.or_true _
  · rw [Group.tail, hD.head]; rfl
  · rw [hfl, List.length_append]; rfl

/-- **search on an aligned group whose head ends cleanly** (on a record boundary or inside a checksum field):
`SearchForEndHeight h` finds the marker iff it is among the records on disk, and the returned reader continues exactly
after a marker for `h` (so `catchupReplay` replays exactly the records written after it, then `rem`). -/
theorem search_aligned_clean (c : Codec) (hb : Bounded c) (g : Group) (h : Nat) (ign : Bool)
    (pss : List (List Bytes)) (hd : List Bytes) (rem rest' : Bytes)
    (hD : OnDisk c g pss hd rem) (hrem : decode1 c Tail.eof rem = (Res.eof, rest'))
    (hv : ∀ p ∈ pss.flatten ++ hd, Valid c p)
    (hmono : ((pss.flatten ++ hd).filterMap c.eh).Pairwise (· ≤ ·)) :
    (∃ i pre m post, pss.flatten ++ hd = pre ++ m :: post ∧ c.eh m = some h ∧
        search c g h ign = Search.found i (frames c post ++ rem)) ∨
    ((∀ p ∈ pss.flatten ++ hd, c.eh p ≠ some h) ∧ search c g h ign = Search.notFound) := by
  have hA := alignedView_of_onDisk c g pss hd rem hD
  have hfl : (pss ++ [hd]).flatten = pss.flatten ++ hd := by rw [List.flatten_append, List.flatten_singleton]
  rw [← hfl] at hv hmono ⊢
  have key := searchFrom_aligned c hb g h ign (pss ++ [hd]) rem rest' hA hrem hv hmono (pss ++ [hd]).length
    (Nat.le_refl _) 0 (Or.inl rfl) (by rw [List.drop_length]; exact fun _ hp => (nomatch hp))
  rwa [← hA.len] at key

/-- **search on an aligned group whose head ends in a torn length or data field** (or any other non-EOF read error):
only the head is ever scanned.  The search stops behind a marker among the whole records of the HEAD; if there is none it
returns that read error — whatever the older files contain and whatever `IgnoreDataCorruptionErrors` says. -/
theorem search_aligned_torn (c : Codec) (hb : Bounded c) (g : Group) (h : Nat) (ign : Bool)
    (pss : List (List Bytes)) (hd : List Bytes) (rem rest' : Bytes) (r : Res)
    (hD : OnDisk c g pss hd rem) (hrem : decode1 c Tail.eof rem = (r, rest')) (hr : isStop r = true)
    (hne : r ≠ Res.eof) (hv : ∀ p ∈ hd, Valid c p) :
    (∃ pre m post, hd = pre ++ m :: post ∧ c.eh m = some h ∧
        search c g h ign = Search.found pss.length (frames c post ++ rem)) ∨
    ((∀ p ∈ hd, c.eh p ≠ some h) ∧ search c g h ign = Search.err r) := by
  have hA := alignedView_of_onDisk c g pss hd rem hD
  have hi : pss.length < (pss ++ [hd]).length := by rw [List.length_append]; exact Nat.lt_succ_self _
  have hdrop : ((pss ++ [hd]).drop pss.length).flatten = hd := by
    rw [List.drop_left, List.flatten_singleton]
  have hlen : g.files.length = pss.length := by rw [hD.files, List.length_map]
  rw [search, hlen, searchFrom_succ c g h ign _ 0 (hA.canOpen _ hi), hA.stream _ hi, hA.tail, hdrop]
  rcases scanF_frames c hb Tail.eof h ign rem rest' r hrem hr hd hv _ 0 (Nat.le_refl _) with
    ⟨pre, m, post, e, hm, hs⟩ | ⟨hno, hs⟩
  · rw [hs]
    exact Or.inl ⟨pre, m, post, e, hm, rfl⟩
  · rw [hs, if_neg hne]
    exact Or.inr ⟨hno, rfl⟩

/-! ## crash cuts of the head: exactly which cuts break the search -/

theorem truncRes_isStop (k : Nat) : isStop (truncRes k) = true := by
  rcases truncRes_cases k with h | h | h <;> rw [h] <;> rfl

theorem truncRes_eof_iff (k : Nat) : truncRes k = Res.eof ↔ k < 4 := by
  unfold truncRes
  by_cases h4 : k < 4
  · rw [if_pos h4]; exact ⟨fun _ => h4, fun _ => rfl⟩
  · rw [if_neg h4]; exact ⟨fun e => (by split at e <;> cases e), fun h => absurd h h4⟩

/-- **search_fails_iff_torn_len_or_data** — the exact characterisation of the cuts that break SearchForEndHeight on a
record-aligned group: the search answers an error iff the head ends inside the LENGTH or DATA field of its last
record (`4 ≤ k`) and the marker is not among the whole records of the head itself.  `k` enters only through `hrem`: the
remainder reads as `truncRes k`, which is what `decode1_trunc` gives for a record cut after `k` bytes, so `4 ≤ k` stands
for "the terminal is a read error, not io.EOF" (`truncRes_eof_iff`). -/
theorem search_fails_iff_torn_len_or_data (c : Codec) (hb : Bounded c) (g : Group) (h : Nat) (ign : Bool)
    (pss : List (List Bytes)) (hd : List Bytes) (rem : Bytes) (k : Nat)
    (hD : OnDisk c g pss hd rem) (hrem : decode1 c Tail.eof rem = (truncRes k, []))
    (hv : ∀ p ∈ pss.flatten ++ hd, Valid c p)
    (hmono : ((pss.flatten ++ hd).filterMap c.eh).Pairwise (· ≤ ·)) :
    (∃ e, search c g h ign = Search.err e) ↔ (4 ≤ k ∧ ∀ p ∈ hd, c.eh p ≠ some h) := by
  by_cases hk : k < 4
  · rw [(truncRes_eof_iff k).mpr hk] at hrem
    refine ⟨fun ⟨e, hs⟩ => ?_, fun ⟨h4, _⟩ => absurd hk (Nat.not_lt.mpr h4)⟩
    rcases search_aligned_clean c hb g h ign pss hd rem [] hD hrem hv hmono with ⟨_, _, _, _, _, _, hf⟩ | ⟨_, hf⟩ <;>
      rw [hf] at hs <;> cases hs
  · rcases search_aligned_torn c hb g h ign pss hd rem [] (truncRes k) hD hrem (truncRes_isStop k)
      (fun he => hk ((truncRes_eof_iff k).mp he)) (fun p hp => hv p (List.mem_append_right _ hp)) with
      ⟨_, m, _, e, hm, hf⟩ | ⟨hno, hf⟩
    · rw [hf]
      exact ⟨fun ⟨_, hs⟩ => (nomatch hs), fun ⟨_, hno⟩ => absurd hm (hno m (e ▸ List.mem_append_cons_self))⟩
    · rw [hf]
      exact ⟨fun _ => ⟨Nat.le_of_not_lt hk, hno⟩, fun _ => ⟨_, rfl⟩⟩

/-- **marker_iff_written_clean_cut**: if the head ends on a record boundary or inside the checksum field of its last
record (`k < 4`; in particular after any flush), the marker is found iff it is among the records on disk. -/
theorem marker_iff_written_clean_cut (c : Codec) (hb : Bounded c) (g : Group) (h : Nat) (ign : Bool)
    (pss : List (List Bytes)) (hd : List Bytes) (rem : Bytes) (k : Nat) (hk : k < 4)
    (hD : OnDisk c g pss hd rem) (hrem : decode1 c Tail.eof rem = (truncRes k, []))
    (hv : ∀ p ∈ pss.flatten ++ hd, Valid c p)
    (hmono : ((pss.flatten ++ hd).filterMap c.eh).Pairwise (· ≤ ·)) :
    (search c g h ign).isFound = true ↔ ∃ p ∈ pss.flatten ++ hd, c.eh p = some h := by
  rw [(truncRes_eof_iff k).mpr hk] at hrem
  rcases search_aligned_clean c hb g h ign pss hd rem [] hD hrem hv hmono with ⟨_, pre, m, post, e, hm, hf⟩ | ⟨hno, hf⟩
  · rw [hf]
    exact ⟨fun _ => ⟨m, e ▸ List.mem_append_cons_self, hm⟩, fun _ => rfl⟩
  · rw [hf]
    exact ⟨fun hf' => (nomatch hf'), fun ⟨p, hp, he⟩ => absurd he (hno p hp)⟩

/-- **search_after_head_cut**: a group whose rotated files are whole records and whose head is the records `psh` cut
at ANY byte offset `cut` (crash).  With `j` whole records surviving in the head and the cut `k` bytes into the next
one: the search errs iff `4 ≤ k` and the marker is not among those `j` records; and for `k < 4` the marker clause
holds for the records on disk. -/
theorem search_after_head_cut (c : Codec) (hb : Bounded c) (g : Group) (h : Nat) (ign : Bool)
    (pss : List (List Bytes)) (psh : List Bytes) (cut : Nat)
    (hfiles : g.files = pss.map (frames c)) (hhead : g.head = some ((frames c psh).take cut))
    (hv : ∀ p ∈ pss.flatten ++ psh, Valid c p)
    (hmono : ((pss.flatten ++ psh).filterMap c.eh).Pairwise (· ≤ ·)) :
    ∃ j k, j ≤ psh.length ∧
      (cut < (frames c psh).length → j < psh.length ∧ cut = bytesOf c psh j + k ∧ k < (frame c (psh.getD j [])).length) ∧
      ((frames c psh).length ≤ cut → j = psh.length ∧ k = 0) ∧
      ((∃ e, search c g h ign = Search.err e) ↔ (4 ≤ k ∧ ∀ p ∈ psh.take j, c.eh p ≠ some h)) ∧
      (k < 4 → ((search c g h ign).isFound = true ↔ ∃ p ∈ pss.flatten ++ psh.take j, c.eh p = some h)) := by
  have key : ∀ j k rem, (frames c psh).take cut = frames c (psh.take j) ++ rem →
      decode1 c Tail.eof rem = (truncRes k, []) →
      ((∃ e, search c g h ign = Search.err e) ↔ (4 ≤ k ∧ ∀ p ∈ psh.take j, c.eh p ≠ some h)) ∧
      (k < 4 → ((search c g h ign).isFound = true ↔ ∃ p ∈ pss.flatten ++ psh.take j, c.eh p = some h)) := by
    intro j k rem h1 h2
    have hD : OnDisk c g pss (psh.take j) rem := ⟨hfiles, by rw [hhead, h1]⟩
    -- the surviving records are a sublist of the written ones: still valid, markers still in order
    have hsl : (pss.flatten ++ psh.take j).Sublist (pss.flatten ++ psh) :=
      List.Sublist.append (List.Sublist.refl _) (List.take_sublist _ _)
    have hv' : ∀ p ∈ pss.flatten ++ psh.take j, Valid c p := fun p hp => hv p (hsl.subset hp)
    have hmono' := List.Pairwise.sublist (hsl.filterMap c.eh) hmono
    exact ⟨search_fails_iff_torn_len_or_data c hb g h ign pss (psh.take j) rem k hD h2 hv' hmono',
      fun hk => marker_iff_written_clean_cut c hb g h ign pss (psh.take j) rem k hk hD h2 hv' hmono'⟩
  rcases take_frames_cases c psh cut with ⟨j, hj, hcut, hlo, hk, e⟩ | ⟨hge, e⟩
  · exact ⟨j, cut - bytesOf c psh j, Nat.le_of_lt hj,
      fun _ => ⟨hj, by omega, by rwa [List.getD_eq_getElem?_getD, List.getElem?_eq_getElem hj, Option.getD_some]⟩,
      fun h' => absurd hcut (Nat.not_lt.mpr h'),
      key j _ _ e (decode1_trunc c hb _ (hv _ (List.mem_append_right _ (List.getElem_mem hj))) _ hk)⟩
  · exact ⟨psh.length, 0, Nat.le_refl _, fun h' => absurd h' (Nat.not_lt.mpr hge), fun _ => ⟨rfl, rfl⟩,
      key _ 0 [] (by rw [e, List.take_length, List.append_nil]) rfl⟩

set_option maxRecDepth 100000 in
/-- instances with the real CRC-32C: marker 1 in a rotated file, the head holds one 12-byte record cut after `k` bytes.
`k = 0, 3` (boundary / inside the checksum field): found.  `k = 4, 7` (length field), `k = 8, 11` (data): the error. -/
example :
    let g (k : Nat) : Group := { files := [frames toyCodec [[0xEE, 1]]], head := some ((frames toyCodec [[1, 2, 3, 4]]).take k), buf := [] }
    (search toyCodec (g 0) 1 true).isFound = true ∧ (search toyCodec (g 3) 1 true).isFound = true ∧
    search toyCodec (g 4) 1 true = Search.err Res.errLen ∧ search toyCodec (g 7) 1 true = Search.err Res.errLen ∧
    search toyCodec (g 8) 1 true = Search.err Res.errData ∧ search toyCodec (g 11) 1 true = Search.err Res.errData ∧
    (search toyCodec (g 12) 1 true).isFound = true ∧ search toyCodec (g 12) 2 true = Search.notFound := by
  decide +kernel

end Props.C14
