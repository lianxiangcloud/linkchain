import LinkVerif.Props.C06
import LinkVerif.Props.C06X

/-!
# C06 on the real genesis: fees credited to the foundation contract, awards paid out of it

`Model.LedgerX`: `Prim.award k wei` moves `wei` from the foundation contract (`fw`: what it has paid out) to payee `k`
(`yw`); `nativeTotalWei` is the total over everything observed, in wei, payees included.  An award to an existing payee
leaves that total unchanged — it is paid OUT OF the foundation's balance — so a block = executed transactions (whose fees are
credited to the foundation: `Props.C06.fees_match`) followed by awards conserves it, and the foundation's balance changes by
exactly fees − awards.  Without the in-range hypothesis the statement is false (`award_unobserved_payee_loses`).
The amounts of the awards are inputs (the model does not execute the WASM foundation contract).
-/
namespace Props.C06Sys
open Model.Ledger
open Props.C06 (sum_addAt)
open Props.C06X

theorem addBk_wei_frame (s : St) (x : XS) (tok : Bool) (b : Bk) (d : Int) :
    (addBk s x tok b d).2.fw = x.fw ∧ (addBk s x tok b d).2.yw = x.yw := by
  cases b <;> cases tok <;> exact ⟨rfl, rfl⟩

theorem addTokOuts_wei_frame (x : XS) (outs : List (Nat × Int)) : (addTokOuts x outs).fw = x.fw ∧ (addTokOuts x outs).yw = x.yw := by
  rw [addTokOuts_eq]; exact ⟨rfl, rfl⟩

theorem applyPrim_wei_frame (s : St) (x : XS) (p : Prim) (h : ∀ k w, p ≠ .award k w) :
    (applyPrim (s, x) p).2.fw = x.fw ∧ (applyPrim (s, x) p).2.yw = x.yw := by
  cases p with
  | tokIn i w units => exact addTokOuts_wei_frame ..
  | tokSpend oid outs aout => cases aout <;> exact addTokOuts_wei_frame ..
  | fee i u => exact ⟨rfl, rfl⟩
  | move tok src dst amt =>
    rw [applyPrim_move]
    exact ⟨(addBk_wei_frame ..).1.trans (addBk_wei_frame ..).1, (addBk_wei_frame ..).2.trans (addBk_wei_frame ..).2⟩
  | burn b => cases b <;> exact addBk_wei_frame ..
  | kill b => cases b <;> exact ⟨rfl, rfl⟩
  | award k w => exact absurd rfl (h k w)

theorem applyPrim_award_wei (s : St) (x : XS) (k : Nat) (w : Int) (hk : k < x.yw.length) :
    nativeTotalWei (applyPrim (s, x) (.award k w)).1 (applyPrim (s, x) (.award k w)).2 = nativeTotalWei s x := by
  show nativeTotal s x * unitWei - (x.fw + w) + (addAt x.yw k w).sum = nativeTotal s x * unitWei - x.fw + x.yw.sum
  rw [sum_addAt _ _ _ hk]
  omega

theorem applyPrim_conserves_wei {s : St} {x : XS} {p : Prim} (h : AllMoves s x [p]) :
    nativeTotalWei (applyPrim (s, x) p).1 (applyPrim (s, x) p).2 = nativeTotalWei s x := by
  cases p with
  | award k w => exact applyPrim_award_wei s x k w h.1
  | move tok src dst amt =>
    have hf := applyPrim_wei_frame s x (.move tok src dst amt) (fun _ _ hh => by cases hh)
    unfold nativeTotalWei
    rw [hf.1, hf.2, (applyPrim_conserves h).1]
  | kill b => cases b <;> rfl
  | _ => exact h.elim

theorem applyPrims_conserves_wei (ps : List Prim) (s : St) (x : XS) (h : AllMoves s x ps) :
    nativeTotalWei (applyPrims (s, x) ps).1 (applyPrims (s, x) ps).2 = nativeTotalWei s x :=
  applyPrims_keeps nativeTotalWei (fun _ _ _ hp => applyPrim_conserves_wei hp) ps s x h

def OnlyAwards (x : XS) : List Prim → Prop
  | [] => True
  | .award k _ :: ps => k < x.yw.length ∧ OnlyAwards x ps
  | _ :: _ => False

def awardSum : List Prim → Int
  | [] => 0
  | .award _ w :: ps => w + awardSum ps
  | _ :: ps => awardSum ps

theorem onlyAwards_allMoves (s : St) (x : XS) (ps : List Prim) (h : OnlyAwards x ps) : AllMoves s x ps := by
  induction ps with
  | nil => trivial
  | cons p ps ih =>
    cases p with
    | award k w => exact ⟨h.1, ih h.2⟩
    | _ => exact h.elim

/-- `x₀` is free: whether the payees exist plays no part in this -/
theorem applyPrims_onlyAwards (ps : List Prim) (s : St) (x : XS) {x₀ : XS} (h : OnlyAwards x₀ ps) :
    (applyPrims (s, x) ps).1 = s ∧ (applyPrims (s, x) ps).2.fw = x.fw + awardSum ps := by
  induction ps generalizing x with
  | nil => exact ⟨rfl, (Int.add_zero _).symm⟩
  | cons p ps ih =>
    cases p with
    | award k w =>
      have h' := ih { x with yw := addAt x.yw k w, fw := x.fw + w } h.2
      exact ⟨h'.1, h'.2.trans (Int.add_assoc ..)⟩
    | _ => exact h.elim

/-- **C06 on an award block (partial, as `C06_partial`).**  The transactions of the block execute (every one `Honest` where it
executes: their fees are credited to the foundation), then the foundation pays the awards: the total over everything observed,
in wei, is unchanged, and the foundation's balance changes by exactly the fees it received minus the awards it paid. -/
theorem award_block_conserves {s s' : St} {seen : List Nat} {recs : List TxRec} (x : XS) (aws : List Prim)
    (hi : Props.C06.Inv s) (hr : Props.C06.HonestRun s seen recs) (he : execBlock s seen recs = some s') (ha : OnlyAwards x aws) :
    nativeTotalWei (applyPrims (s', x) aws).1 (applyPrims (s', x) aws).2 = nativeTotalWei s x ∧
    foundationWei (applyPrims (s', x) aws).1 (applyPrims (s', x) aws).2 =
      foundationWei s x + Props.C06.feesOf recs * unitWei - awardSum aws := by
  have hs := (Props.C06.execBlock_conserves hi hr he).1
  have hf := Props.C06.fees_match he
  have hw := applyPrims_conserves_wei aws s' x (onlyAwards_allMoves s' x aws ha)
  have ho := applyPrims_onlyAwards aws s' x ha
  constructor
  · rw [hw]; unfold nativeTotalWei nativeTotal; rw [hs]
  · unfold foundationWei
    rw [ho.1, ho.2, hf]
    simp only [unitWei]
    omega

def sys_s : St := { bal := [1000], tok := [0], nonce := [0], sbal := [1000], stok := [0], snonce := [0], found := 7 }
def sys_x : XS := { yw := [0, 0], fw := 0 }

/-- an award to a payee that is not observed: the value leaves the foundation and is nowhere -/
theorem award_unobserved_payee_loses :
    ¬ (∀ (k : Nat) (w : Int) (s : St) (x : XS),
        nativeTotalWei (applyPrim (s, x) (.award k w)).1 (applyPrim (s, x) (.award k w)).2 = nativeTotalWei s x) := by
  intro h
  have := h 5 3 sys_s sys_x
  revert this; decide

/-- the foundation (7 units of fees = 70000000000 wei) pays 69999999996 wei to two payees: 4 wei stay with it -/
def sys_aws : List Prim := [.award 0 60000000000, .award 1 9999999996]

example : OnlyAwards sys_x sys_aws := by simp [OnlyAwards, sys_x, sys_aws]
example : nativeTotalWei (applyPrims (sys_s, sys_x) sys_aws).1 (applyPrims (sys_s, sys_x) sys_aws).2 = nativeTotalWei sys_s sys_x := by decide
example : foundationWei (applyPrims (sys_s, sys_x) sys_aws).1 (applyPrims (sys_s, sys_x) sys_aws).2 = 4 := by decide
example : (applyPrims (sys_s, sys_x) sys_aws).2.yw = [60000000000, 9999999996] := by decide

end Props.C06Sys
