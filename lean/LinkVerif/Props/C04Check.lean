/-
C04: what the CURRENT source of `(FilePV).checkHRS` / `voteToStep` / `signVote` / `signProposal`
says (T1 translation and T2 facts regenerated by /verif/extract on every check).
Everything in `Props.C04` that talks about the height/round/step discipline goes through these lemmas.
-/
import LinkVerif.Model.FilePV

namespace Props.C04
open Model.FilePV Gen.FilePVCheck

def HRS.lt (a b : HRS) : Prop := a.h < b.h ∨ (a.h = b.h ∧ (a.r < b.r ∨ (a.r = b.r ∧ a.s < b.s)))
def HRS.le (a b : HRS) : Prop := a.h < b.h ∨ (a.h = b.h ∧ (a.r < b.r ∨ (a.r = b.r ∧ a.s ≤ b.s)))

instance (a b : HRS) : Decidable (HRS.lt a b) := by unfold HRS.lt; exact inferInstance
instance (a b : HRS) : Decidable (HRS.le a b) := by unfold HRS.le; exact inferInstance

theorem HRS.eq_iff (a b : HRS) : a = b ↔ a.h = b.h ∧ a.r = b.r ∧ a.s = b.s := by
  cases a; cases b; simp

theorem HRS.le_refl (a : HRS) : HRS.le a a := by unfold HRS.le; omega

theorem HRS.lt_irrefl (a : HRS) : ¬ HRS.lt a a := by unfold HRS.lt; omega

/-- one level of a lexicographic order composes if the next level does -/
theorem lex_trans {x y z : Int} {P Q R : Prop} (hpq : P → Q → R) (h1 : x < y ∨ (x = y ∧ P)) (h2 : y < z ∨ (y = z ∧ Q)) :
    x < z ∨ (x = z ∧ R) := by
  rcases h1 with h1 | ⟨rfl, p⟩ <;> rcases h2 with h2 | ⟨rfl, q⟩
  · exact Or.inl (Int.lt_trans h1 h2)
  · exact Or.inl h1
  · exact Or.inl h2
  · exact Or.inr ⟨rfl, hpq p q⟩

section
variable {a b c : HRS}

theorem HRS.le_of_lt (h : HRS.lt a b) : HRS.le a b := by unfold HRS.lt at h; unfold HRS.le; omega

theorem HRS.le_trans (h1 : HRS.le a b) (h2 : HRS.le b c) : HRS.le a c :=
  lex_trans (lex_trans Int.le_trans) h1 h2

theorem HRS.lt_of_le_of_lt (h1 : HRS.le a b) (h2 : HRS.lt b c) : HRS.lt a c :=
  lex_trans (lex_trans Int.lt_of_le_of_lt) h1 h2

theorem HRS.ne_of_lt (h : HRS.lt a b) : a ≠ b := fun e => HRS.lt_irrefl b (e ▸ h)

theorem HRS.not_lt_of_le (h : HRS.le a b) : ¬ HRS.lt b a := by
  unfold HRS.le at h; unfold HRS.lt; omega

theorem HRS.le_antisymm (h1 : HRS.le a b) (h2 : HRS.le b a) : a = b := by
  rw [HRS.eq_iff]; unfold HRS.le at *; omega

end

theorem HRS.trichotomy (a b : HRS) : HRS.lt a b ∨ a = b ∨ HRS.lt b a := by
  rw [HRS.eq_iff]; unfold HRS.lt; omega

/-- the parameter order the model relies on when it calls the translation -/
theorem checkHRS_param_order :
    checkHRSParams = ["pv_LastHeight", "pv_LastRound", "pv_LastSignBytes_isNil", "pv_LastSignature_isNil", "pv_LastStep",
      "height", "round", "step"] := rfl

/-- **T1 lemma (regression)**: a request strictly below the record is refused with one of the three
regression errors, whatever the sign-bytes fields are. -/
theorem checkHRS_regression (lh lr ls h r s : Int) (bn sn : Bool)
    (hlt : h < lh ∨ (h = lh ∧ (r < lr ∨ (r = lr ∧ s < ls)))) :
    (checkHRS lh lr bn sn ls h r s).1 = false ∧ 1 ≤ (checkHRS lh lr bn sn ls h r s).2 ∧ (checkHRS lh lr bn sn ls h r s).2 ≤ 3 := by
  simp only [checkHRS, decide_eq_true_eq]
  rcases hlt with hh | ⟨rfl, hr | ⟨rfl, hs⟩⟩
  · rw [if_pos hh]; decide
  · rw [if_neg (Int.lt_irrefl h), if_pos rfl, if_pos hr]; decide
  · rw [if_neg (Int.lt_irrefl h), if_pos rfl, if_neg (Int.lt_irrefl r), if_pos rfl, if_pos hs]; decide

/-- **T1 lemma (fresh)**: a request strictly above the record passes the check as "not the same HRS". -/
theorem checkHRS_fresh (lh lr ls h r s : Int) (bn sn : Bool)
    (hlt : lh < h ∨ (lh = h ∧ (lr < r ∨ (lr = r ∧ ls < s)))) :
    checkHRS lh lr bn sn ls h r s = (false, 0) := by
  simp only [checkHRS, decide_eq_true_eq]
  rcases hlt with hh | ⟨rfl, hr | ⟨rfl, hs⟩⟩
  · rw [if_neg (Int.lt_asymm hh), if_neg (Int.ne_of_lt hh)]
  · rw [if_neg (Int.lt_irrefl lh), if_pos rfl, if_neg (Int.lt_asymm hr), if_neg (Int.ne_of_lt hr)]
  · rw [if_neg (Int.lt_irrefl lh), if_pos rfl, if_neg (Int.lt_irrefl lr), if_pos rfl, if_neg (Int.lt_asymm hs),
      if_neg (Int.ne_of_lt hs)]

/-- **T1 lemma (same HRS)**: at exactly the recorded HRS the answer depends only on the presence of the
sign-bytes / signature: replay allowed (true, nil), "No LastSignature found", or the panic. -/
theorem checkHRS_same (lh lr ls : Int) (bn sn : Bool) :
    checkHRS lh lr bn sn ls lh lr ls = (if bn then (false, 4) else if sn then (false, -1) else (true, 0)) := by
  unfold checkHRS
  cases bn <;> cases sn <;> simp

/-- the refusal codes 1 … 4 of `checkHRS` are positions in `errTexts`, which has that many entries -/
theorem errTexts_len : errTexts.length = 4 := rfl

theorem checkRec_regression (m : Rec) (q : HRS) (h : HRS.lt q m.hrs) :
    (checkRec m q).1 = false ∧ 1 ≤ (checkRec m q).2 ∧ (checkRec m q).2 ≤ 3 :=
  checkHRS_regression _ _ _ _ _ _ _ _ h

theorem checkRec_fresh (m : Rec) (q : HRS) (h : HRS.lt m.hrs q) : checkRec m q = (false, 0) :=
  checkHRS_fresh _ _ _ _ _ _ _ _ h

theorem checkRec_same (m : Rec) :
    checkRec m m.hrs = (if m.sb.isNone then (false, 4) else if m.sig.isNone then (false, -1) else (true, 0)) :=
  checkHRS_same _ _ _ _ _

theorem checkRec_pass (m : Rec) (q : HRS) (same : Bool) (h : checkRec m q = (same, 0)) :
    (same = true → m.hrs = q ∧ m.sb.isSome ∧ m.sig.isSome) ∧ (same = false → HRS.lt m.hrs q) := by
  rcases HRS.trichotomy m.hrs q with hlt | heq | hgt
  · rw [checkRec_fresh m q hlt] at h
    have : same = false := by simpa using (congrArg Prod.fst h).symm
    subst this; simp [hlt]
  · subst heq
    rw [checkRec_same] at h
    cases hsb : m.sb <;> cases hsg : m.sig <;> simp [hsb, hsg] at h
    subst h; simp
  · have := checkRec_regression m q hgt
    rw [h] at this; simp at this

/-- voteToStep: prevote -> stepPrevote, precommit -> stepPrecommit, anything else panics (-1);
proposals sign at stepPropose, below both -/
theorem voteToStep_spec (t : Int) :
    voteToStep t = (if t = VoteTypePrevote then stepPrevote else if t = VoteTypePrecommit then stepPrecommit else -1) := by
  unfold voteToStep VoteTypePrevote VoteTypePrecommit stepPrevote stepPrecommit
  split <;> simp_all

theorem steps_distinct : stepNone < stepPropose ∧ stepPropose < stepPrevote ∧ stepPrevote < stepPrecommit := by decide

/-- in an event list of a signing function: after the last `sign`, the signature variable is assigned to the
vote/proposal only after `saveSigned` (possibly guarded by the `save` flag) -/
def savesBeforeAssign : List String → Bool → Bool
  | [], _ => true
  | "sign" :: rest, _ => savesBeforeAssign rest false
  | "saveSigned" :: rest, _ => savesBeforeAssign rest true
  | "saveSigned?save" :: rest, _ => savesBeforeAssign rest true
  | "assign:sig" :: rest, saved => saved && savesBeforeAssign rest saved
  | _ :: rest, saved => savesBeforeAssign rest saved

/-- **T2**: `signVote` and `signProposal` call `saveSigned` before they store a fresh signature into the
vote/proposal, and sign only after `checkHRS`. -/
theorem signVote_saves_before_release :
    savesBeforeAssign signVoteEvents false = true ∧ signVoteEvents.head? = some "checkHRS" ∧ "assign:sig" ∈ signVoteEvents := by decide

theorem signProposal_saves_before_release :
    savesBeforeAssign signProposalEvents false = true ∧ signProposalEvents.head? = some "checkHRS" ∧ "assign:sig" ∈ signProposalEvents
      ∧ "saveSigned" ∈ signProposalEvents := by decide

/-- **T2**: nothing outside tests calls `SignVoteWithoutSave` -/
theorem signVoteWithoutSave_has_no_caller : signVoteWithoutSaveCallers = [] := rfl

example : savesBeforeAssign ["checkHRS", "sign", "assign:sig", "saveSigned"] false = false := by decide

/-- the events of a function body before its first synchronous call of `pv.pv.save` -/
def beforeSave : List String → List String
  | [] => []
  | e :: rest => if e = "call:pv.pv.save" then [] else e :: beforeSave rest

/-- **T2**: `saveSigned` assigns all five record fields of the object AND of the shadow copy `pv.pv` (the object that
is marshalled into the key file) from its parameters, and only then calls `pv.pv.save()` synchronously
(a `go`/`defer` of the save, or a field that is not copied into the shadow, breaks this). -/
theorem saveSigned_copies_record_before_save :
    (∀ f ∈ ["LastHeight=height", "LastRound=round", "LastStep=step", "LastSignature=sig", "LastSignBytes=signBytes"],
      ("pv." ++ f) ∈ beforeSave saveSignedEvents ∧ ("pv.pv." ++ f) ∈ beforeSave saveSignedEvents)
    ∧ "call:pv.pv.save" ∈ saveSignedEvents := by decide

example : ¬ ("pv.pv.LastStep=step" ∈ beforeSave ["pv.LastStep=step", "pv.pv.LastHeight=height", "call:pv.pv.save", "pv.pv.LastStep=step"]) := by decide

/-- the functions of the write path of a file: a dropped error of one of these loses data silently -/
def writePathFns : List String :=
  ["Write", "WriteString", "WriteAt", "WriteTo", "ReadFrom", "Copy", "Flush", "Sync", "Truncate", "Rename", "OpenFile", "Create", "WriteFile", "Link"]

/-- **T2**: in `cmn.WriteFileAtomic` the error of EVERY write-path call (open, write, flush, sync, rename) is tested
or returned: no such call is an expression statement, deferred, started as a goroutine, nested in another
expression, or assigned with `_` in the error position; opening, writing and renaming are among the tested
calls, and the only call whose result is dropped is the explicit `Close` before the rename (tolerated: the file
is opened O_SYNC, observed on the real system calls by the harness, so a write error surfaces at the write). -/
theorem writeFileAtomic_checks_every_write_path_error :
    (∀ c ∈ writeFileAtomicCalls, c.2.2 ∈ writePathFns → c.1 = "checked" ∨ c.1 = "returned")
    ∧ (∀ c ∈ writeFileAtomicCalls, c.1 = "unchecked" ∨ c.1 = "dropped" ∨ c.1 = "go" → c.2.2 = "Close")
    ∧ (∀ f ∈ ["OpenFile", "Write", "Rename"],
        f ∈ (writeFileAtomicCalls.filter (fun c => c.1 = "checked" ∨ c.1 = "returned")).map (fun c => c.2.2)) := by decide

example : ¬ (∀ c ∈ [("checked", "w", "Write"), ("unchecked", "w", "Flush"), ("returned", "os", "Rename")],
    c.2.2 ∈ writePathFns → c.1 = "checked" ∨ c.1 = "returned") := by decide

/-- **T2**: who reaches the methods of the signing interface that keep no height/round/step record.
`SignData` (signs caller-chosen bytes): only `MultiSignAccountTx.Sign` in types/tx_type_mst.go, which passes RLP bytes
(`Props.C04.multisign_ne_canonical`); `SignHeartbeat`: only the consensus heartbeat loop (`heartbeat_ne_vote`);
`UpdatePrikey`: nobody; `Reset` (erases the record, `operator_reset_breaks_C04`): only the CLI command
`unsafe_reset_priv_validator`.  A new caller breaks this obligation. -/
theorem unrecorded_methods_callers :
    signDataCallerFiles = ["types/tx_type_mst.go"] ∧ signHeartbeatCallerFiles = ["consensus/state.go"] ∧
    updatePrikeyCallerFiles = [] ∧ resetCallerFiles = ["cmd/commands/reset_priv_validator.go"] := ⟨rfl, rfl, rfl, rfl⟩

end Props.C04
