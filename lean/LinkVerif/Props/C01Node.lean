/-
C01, layer L-B: theorems about the executable node model `Model.Node` (the model that is compared step by step with the
real `consensus.ConsensusState`).

The statements are about `stepCore`/`step`/`run` of the model.  Two hypotheses appear:
* `W s` (well-formed state): `s.step ≤ 9` and, when locked, `lockedRound*16+6 ≤ round*16+step` (the lock was taken by
  `enterPrecommit` of a round the node has been through).  `W` holds initially and is preserved by every step (`step_W`).
* `WellTimed s i`: a timeout input for the node's height is for a round `≤ s.round`.  The real ticker only fires timeouts the node scheduled, and it
  schedules them for its current round; rounds never decrease.  WITHOUT this hypothesis the discipline is false of the model
  (and of the code): `enterPrevote`/`enterPrecommit(height, round)` sign with `cs.Round`, not with their `round` argument, so a
  timeout for a future round makes the node vote a second time in its current round — `votes_once_needs_timed` is the witness.
-/
import LinkVerif.Model.Node

namespace Props.C01Node
open Model.Node

section
variable {α : Type} {l : List (Nat × α)} {k k' : Nat} {a : α}

theorem alookup_aset_same : alookup (aset l k a) k = some a := by
  induction l with
  | nil => simp [aset, alookup]
  | cons x rest ih =>
    obtain ⟨k', a'⟩ := x
    simp only [aset]
    split
    · simp [alookup]
    · rename_i hne; simp [alookup, hne, ih]

theorem alookup_aset_other (h : k' ≠ k) : alookup (aset l k a) k' = alookup l k' := by
  induction l with
  | nil => simp [aset, alookup]; intro e; exact absurd e.symm h
  | cons x rest ih =>
    obtain ⟨k'', a'⟩ := x
    simp only [aset]
    split
    · rename_i he; subst he
      simp only [alookup]
      have : ¬ k'' = k' := fun e => h e.symm
      simp [this]
    · simp only [alookup]; split
      · rfl
      · exact ih

theorem alookup_mem : ∀ {l : List (Nat × α)}, alookup l k = some a → (k, a) ∈ l
  | [], h => by simp [alookup] at h
  | (k', a') :: rest, h => by
    simp only [alookup] at h
    split at h
    · rename_i e; cases h; subst e; simp
    · exact List.mem_cons_of_mem _ (alookup_mem h)

theorem alookup_append_getD {d : α} : (alookup (l ++ [(k, d)]) k').getD d = (alookup l k').getD d := by
  induction l with
  | nil => simp only [List.nil_append, alookup]; split <;> rfl
  | cons x rest ih =>
    obtain ⟨k'', a'⟩ := x
    simp only [List.cons_append, alookup]
    split
    · rfl
    · exact ih

end

/-- `(round, step)` as one number (steps are `≤ 9`) -/
def mu (s : St) : Nat := s.round * 16 + s.step

/-- the `(round, type)` slot of a vote as a number comparable with `mu`: prevote = step 4, precommit = step 6 -/
def stamp : Out → Option Nat
  | .vote t _ r _ => some (r * 16 + (if t = tPrevote then 4 else 6))
  | _ => none

/-- the vote slots of the outputs strictly increase from `m` and end at or below `m'` -/
def Chain : Nat → List Out → Nat → Prop
  | m, [], m' => m ≤ m'
  | m, o :: rest, m' =>
    match stamp o with
    | none => Chain m rest m'
    | some k => m < k ∧ Chain k rest m'

def W (s : St) : Prop := s.step ≤ 9 ∧ (s.lockedValue ≠ 0 → s.lockedRound * 16 + 6 ≤ mu s)

/-- the lock `(lv, lr)` is released by the prevote table `tbl`: a +2/3 majority for something else at a round in `(lr, R]` -/
def Released (tbl : Nat → VSet) (lv lr R : Nat) : Prop :=
  ∃ r' b, lr < r' ∧ r' ≤ R ∧ (tbl r').maj23 = some b ∧ b ≠ lv

/-- what the code does with the lock between two states: keep the block (the locked round may grow: relock), or there is a
releasing polka at a round in `(lockedRound, current round]` -/
def LockEv (tbl : Nat → VSet) (s s' : St) : Prop :=
  s.lockedValue ≠ 0 →
    (s'.lockedValue = s.lockedValue ∧ s.lockedRound ≤ s'.lockedRound) ∨ Released tbl s.lockedValue s.lockedRound s'.round

/-- justification of one output against the vote tables `pvs`/`pcs` and the state `s` the step started from -/
def Just (pvs pcs : Nat → VSet) (s : St) : Out → Prop
  | .vote t h r v =>
      h = s.height ∧ mu s < r * 16 + (if t = tPrevote then 4 else 6) ∧
      (t = tPrecommit → v ≠ 0 → (pvs r).maj23 = some v) ∧
      (t = tPrevote → s.lockedValue ≠ 0 → v = s.lockedValue ∨ Released pvs s.lockedValue s.lockedRound r)
  | .commit h r v => h = s.height ∧ v ≠ 0 ∧ (pcs r).maj23 = some v
  | _ => True

/-- a precommit for block `v` at round `r` is still HELD by the state: the node is locked on `v` at a round `≥ r`, or the
prevote table has a +2/3 majority for something else at a round in `(r, current round]` -/
def Held (tbl : Nat → VSet) (s : St) (v r : Nat) : Prop :=
  (s.lockedValue = v ∧ r ≤ s.lockedRound) ∨ Released tbl v r s.round

/-- within one list of outputs: a prevote emitted AFTER a precommit for block `v` at round `r` is for `v`, or the table has a
+2/3 majority for something else at a round in `(r, r']` -/
def D3C (tbl : Nat → VSet) : List Out → Prop
  | [] => True
  | o :: rest =>
    (∀ h r v, o = Out.vote tPrecommit h r v → v ≠ 0 →
        ∀ h' r' v', Out.vote tPrevote h' r' v' ∈ rest → v' = v ∨ Released tbl v r r') ∧ D3C tbl rest

def Resp (tbl : Nat → VSet) (o o' : Out) : Prop :=
  ∀ h r v, o = Out.vote tPrecommit h r v → v ≠ 0 → ∀ h' r' v', o' = Out.vote tPrevote h' r' v' → v' = v ∨ Released tbl v r r'

theorem D3C_iff {tbl : Nat → VSet} : ∀ {l : List Out}, D3C tbl l ↔ l.Pairwise (Resp tbl)
  | [] => by simp [D3C]
  | o :: rest => by
    simp only [D3C, List.pairwise_cons, D3C_iff]
    exact and_congr_left' ⟨fun H o' ho' h r v e hv h' r' v' e' => H h r v e hv h' r' v' (e' ▸ ho'),
      fun H h r v e hv h' r' v' hm => H _ hm h r v e hv h' r' v' rfl⟩

/-- the relation every internal transition of the model satisfies (vote tables untouched) -/
def G (s s' : St) : Prop :=
  W s → W s' ∧ s'.height = s.height ∧ (∀ q, s'.rv q = s.rv q) ∧ mu s ≤ mu s' ∧ LockEv s.pvs s s' ∧ s'.powers = s.powers ∧
    ∃ new, s'.out = s.out ++ new ∧ Chain (mu s) new (mu s') ∧ (∀ o ∈ new, Just s.pvs s.pcs s o) ∧
      (∀ h r v, Out.vote tPrecommit h r v ∈ new → v ≠ 0 → Held s.pvs s' v r) ∧ D3C s.pvs new ∧
      (∀ h r st, Out.timeout h r st ∈ new → h = s.height ∧ r ≤ s'.round)

theorem Chain_iff : ∀ {l : List Out} {a b : Nat},
    Chain a l b ↔ (l.filterMap stamp).Pairwise (· < ·) ∧ (∀ k ∈ l.filterMap stamp, a < k ∧ k ≤ b) ∧ a ≤ b
  | [], a, b => by simp [Chain]
  | o :: rest, a, b => by
    cases hs : stamp o with
    | none => simp only [Chain, hs, List.filterMap_cons, Chain_iff]
    | some k =>
      simp only [Chain, hs, List.filterMap_cons, Chain_iff, List.pairwise_cons, List.forall_mem_cons]
      constructor
      · rintro ⟨h1, p, m, hb⟩
        exact ⟨⟨fun x hx => (m x hx).1, p⟩, ⟨⟨h1, hb⟩, fun x hx => ⟨Nat.lt_trans h1 (m x hx).1, (m x hx).2⟩⟩, by omega⟩
      · rintro ⟨⟨l, p⟩, ⟨⟨h1, hb⟩, m⟩, _⟩
        exact ⟨h1, p, fun x hx => ⟨l x hx, (m x hx).2⟩, hb⟩

theorem Chain_append {l₁ l₂ : List Out} {a b c : Nat} (h1 : Chain a l₁ b) (h2 : Chain b l₂ c) : Chain a (l₁ ++ l₂) c := by
  rw [Chain_iff] at h1 h2 ⊢
  obtain ⟨p1, m1, _⟩ := h1
  obtain ⟨p2, m2, _⟩ := h2
  rw [List.filterMap_append, List.pairwise_append]
  refine ⟨⟨p1, p2, fun x hx y hy => ?_⟩, fun k hk => ?_, by omega⟩
  · have := m1 x hx; have := m2 y hy; omega
  · rcases List.mem_append.1 hk with hk | hk
    · have := m1 k hk; omega
    · have := m2 k hk; omega

theorem Chain_mem {l : List Out} {a b : Nat} (h : Chain a l b) {o : Out} (ho : o ∈ l) {k : Nat} (hk : stamp o = some k) : a < k ∧ k ≤ b :=
  (Chain_iff.1 h).2.1 k (List.mem_filterMap.2 ⟨o, ho, hk⟩)

theorem round_le_of_mu {s s' : St} (h : mu s ≤ mu s') (hw : s'.step ≤ 9) : s.round ≤ s'.round := by
  unfold mu at h; omega

theorem Released_mono {tbl : Nat → VSet} {lv lr lr' R R' : Nat} (h : Released tbl lv lr' R) (hl : lr ≤ lr') (hR : R ≤ R') :
    Released tbl lv lr R' := by
  rcases h with ⟨r', b, h1, h2, h3, h4⟩
  exact ⟨r', b, by omega, by omega, h3, h4⟩

/-- `Held` (`h1`) carried across `LockEv` (`h2`) -/
theorem held_chain {tbl : Nat → VSet} {v r lv lr y lr' R R' : Nat} (hv : v ≠ 0)
    (h1 : (lv = v ∧ r ≤ lr) ∨ Released tbl v r R) (h2 : lv ≠ 0 → (y = lv ∧ lr ≤ lr') ∨ Released tbl lv lr R') (hR : R ≤ R') :
    (y = v ∧ r ≤ lr') ∨ Released tbl v r R' := by
  rcases h1 with ⟨e1, e2⟩ | hrel
  · subst e1
    rcases h2 hv with ⟨f1, f2⟩ | hrel2
    · exact Or.inl ⟨f1, Nat.le_trans e2 f2⟩
    · exact Or.inr (Released_mono hrel2 e2 (Nat.le_refl _))
  · exact Or.inr (Released_mono hrel (Nat.le_refl _) hR)

theorem held_prevote {tbl : Nat → VSet} {v r lv lr y R R' : Nat} (hv : v ≠ 0)
    (h1 : (lv = v ∧ r ≤ lr) ∨ Released tbl v r R) (h2 : lv ≠ 0 → y = lv ∨ Released tbl lv lr R') (hR : R ≤ R') :
    y = v ∨ Released tbl v r R' :=
  (held_chain hv h1 (fun hl => (h2 hl).imp (fun e => ⟨e, Nat.le_refl lr⟩) id) hR).imp And.left id

theorem round_le_of_prevote {s : St} {r : Nat} (h : mu s < r * 16 + 4) : s.round ≤ r := by
  unfold mu at h; omega

theorem Chain_plain {l : List Out} {a b : Nat} (h : a ≤ b) (hn : ∀ o ∈ l, stamp o = none) : Chain a l b := by
  rw [Chain_iff, List.filterMap_eq_nil_iff.2 hn]
  simpa using h

theorem D3C_plain {tbl : Nat → VSet} {new : List Out} (hn : ∀ o ∈ new, stamp o = none) : D3C tbl new :=
  D3C_iff.2 (List.pairwise_of_forall_mem_list fun o ho _ _ h r v e => by have := hn o ho; rw [e] at this; cases this)

/-- a transition that emits no vote and touches the lock at most by the unlock rule -/
theorem G_quiet {s s' : St} (new : List Out) (hh : s'.height = s.height) (hrv : ∀ q, s'.rv q = s.rv q)
    (hmu : s.step ≤ 9 → mu s ≤ mu s') (hst : s.step ≤ 9 → s'.step ≤ 9) (hpow : s'.powers = s.powers) (hout : s'.out = s.out ++ new)
    (hnew : ∀ o ∈ new, stamp o = none ∧ Just s.pvs s.pcs s o)
    (htm : ∀ h r st, Out.timeout h r st ∈ new → h = s.height ∧ r ≤ s'.round)
    (hlock : (s'.lockedValue = s.lockedValue ∧ s'.lockedRound = s.lockedRound) ∨
      (s'.lockedValue = 0 ∧ Released s.pvs s.lockedValue s.lockedRound s'.round)) : G s s' := by
  intro hw
  have hmu := hmu hw.1
  refine ⟨⟨hst hw.1, fun hl => ?_⟩, hh, hrv, hmu, fun _ => hlock.imp (fun ⟨e1, e2⟩ => ⟨e1, Nat.le_of_eq e2.symm⟩) And.right, hpow, new, hout,
    Chain_plain hmu fun o ho => (hnew o ho).1, fun o ho => (hnew o ho).2, fun h r v hm => ?_, D3C_plain fun o ho => (hnew o ho).1, htm⟩
  · rcases hlock with ⟨e1, e2⟩ | ⟨e1, _⟩
    · rw [e1] at hl; rw [e2]; exact Nat.le_trans (hw.2 hl) hmu
    · exact absurd e1 hl
  · cases (hnew _ hm).1

theorem G_dead (s : St) (d : Bool) : G s { s with dead := d } :=
  G_quiet [] rfl (fun _ => rfl) (fun _ => Nat.le_refl _) id rfl (List.append_nil _).symm (by simp) (by simp) (Or.inl ⟨rfl, rfl⟩)

theorem G.refl (s : St) : G s s := G_dead s s.dead

theorem rv_of_rvs {s x : St} (h : x.rvs = s.rvs) (q : Nat) : x.rv q = s.rv q := by simp [St.rv, h]

theorem pvs_eq_of_rv {a b : St} (h : ∀ q, b.rv q = a.rv q) : b.pvs = a.pvs := by
  funext q; simp [St.pvs, h q]

theorem pcs_eq_of_rv {a b : St} (h : ∀ q, b.rv q = a.rv q) : b.pcs = a.pcs := by
  funext q; simp [St.pcs, h q]

theorem G.trans {a b c : St} (h1 : G a b) (h2 : G b c) : G a c := by
  intro hwa
  obtain ⟨hwb, hh1, hrv1, hmu1, hlev1, hp1, new1, hout1, hch1, hj1, hk1, hd1, ht1⟩ := h1 hwa
  obtain ⟨hwc, hh2, hrv2, hmu2, hlev2, hp2, new2, hout2, hch2, hj2, hk2, hd2, ht2⟩ := h2 hwb
  rw [pvs_eq_of_rv hrv1] at hlev2 hj2 hk2 hd2
  rw [pcs_eq_of_rv hrv1] at hj2
  have hrbc : b.round ≤ c.round := round_le_of_mu hmu2 hwc.1
  refine ⟨hwc, by rw [hh2, hh1], fun q => by rw [hrv2 q, hrv1 q], Nat.le_trans hmu1 hmu2, fun hlv => held_chain hlv (hlev1 hlv) hlev2 hrbc,
    by rw [hp2, hp1], new1 ++ new2, by rw [hout2, hout1, List.append_assoc], Chain_append hch1 hch2, ?_, ?_, ?_, ?_⟩
  · intro o ho
    rcases List.mem_append.1 ho with ho | ho
    · exact hj1 o ho
    · have hj := hj2 o ho
      cases o with
      | vote t h r v =>
        obtain ⟨j1, j2, j3, j4⟩ := hj
        refine ⟨by rw [j1, hh1], by omega, j3, fun ht hlv => ?_⟩
        subst ht
        exact held_prevote hlv (hlev1 hlv) (j4 rfl) (round_le_of_prevote j2)
      | commit h r v => exact ⟨by rw [hj.1, hh1], hj.2.1, hj.2.2⟩
      | _ => trivial
  · -- precommits stay held
    intro h r v hm hv
    rcases List.mem_append.1 hm with hm | hm
    · exact held_chain hv (hk1 h r v hm hv) hlev2 hrbc
    · exact hk2 h r v hm hv
  · -- a prevote after a precommit
    refine D3C_iff.2 (List.pairwise_append.2 ⟨D3C_iff.1 hd1, D3C_iff.1 hd2, ?_⟩)
    rintro _ hm _ hm' h r v rfl hv h' r' v' rfl
    obtain ⟨_, j2, _, j4⟩ := hj2 _ hm'
    exact held_prevote hv (hk1 h r v hm hv) (j4 rfl) (round_le_of_prevote j2)
  · -- scheduled timeouts
    intro h r st hm
    rcases List.mem_append.1 hm with hm | hm
    · have := ht1 h r st hm; exact ⟨this.1, Nat.le_trans this.2 hrbc⟩
    · have := ht2 h r st hm; exact ⟨by rw [this.1, hh1], this.2⟩

section
variable (s : St) (h r : Nat)

theorem G_die : G s (die s) := G_dead s true

/-- the test at the head of `enterPropose`, `enterPrevote(Wait)`, `enterPrecommit(Wait)` lets the node through: it is alive, at
height `h`, and `(r, K)` lies ahead of its `(round, step)` -/
structure Ahead (s : St) (h r K : Nat) : Prop where
  alive : s.dead = false
  height : s.height = h
  round : s.round ≤ r
  step : s.round = r → s.step < K

theorem enter_cases {P : St → Prop} {s body : St} {h r K : Nat} (h0 : P s) (hb : Ahead s h r K → P body) :
    P (if s.dead then s else if s.height ≠ h ∨ r < s.round ∨ (s.round = r ∧ K ≤ s.step) then s else body) :=
  -- `iteInduction`, here and below, where `split` would do: `split` simplifies the whole goal, and the goals carry 27-field `St` literals
  iteInduction (fun _ => h0) fun hd => iteInduction (fun _ => h0) fun hg =>
    hb ⟨Bool.eq_false_iff.2 hd, Decidable.of_not_not fun e => hg (Or.inl e), Nat.le_of_not_lt fun e => hg (Or.inr (Or.inl e)),
      fun e => Nat.lt_of_not_le fun e' => hg (Or.inr (Or.inr ⟨e, e'⟩))⟩

/-- what the callers establish before they call `enter*(h, r)`: the node is dead or in a round `≥ r` -/
def Reached (r : Nat) (s : St) : Prop := s.dead = true ∨ r ≤ s.round

theorem Ahead.eq_round {s : St} {h r K : Nat} (a : Ahead s h r K) (hr : Reached r s) : r = s.round :=
  Nat.le_antisymm (hr.resolve_left (by rw [a.alive]; exact Bool.false_ne_true)) a.round

theorem doPrevote_eq :
    ∃ v, doPrevote s = emit s (.vote tPrevote s.height s.round v) ∧ (s.lockedValue ≠ 0 → v = s.lockedValue) := by
  unfold doPrevote signAddVote
  by_cases hl : s.lockedValue ≠ 0
  · rw [if_pos hl]; exact ⟨_, rfl, fun _ => rfl⟩
  rw [if_neg hl]
  have nil : ∃ v, emit s (.vote tPrevote s.height s.round 0) = emit s (.vote tPrevote s.height s.round v) ∧ (s.lockedValue ≠ 0 → v = s.lockedValue) :=
    ⟨0, rfl, fun h => absurd h hl⟩
  split
  · exact nil
  split
  · exact nil
  split
  · exact nil
  · exact ⟨_, rfl, fun h => absurd h hl⟩

theorem enterPrevote_cases {P : St → Prop} (h0 : P s)
    (hv : Ahead s h r sPrevote → ∀ v, (s.lockedValue ≠ 0 → v = s.lockedValue) →
      P { emit s (.vote tPrevote s.height s.round v) with round := r, step := sPrevote }) : P (enterPrevote s h r) := by
  refine enter_cases h0 fun a => ?_
  obtain ⟨v, e, hl⟩ := doPrevote_eq s
  rw [e]; exact hv a v hl

theorem enterPrevote_G (hr : Reached r s) : G s (enterPrevote s h r) := by
  refine enterPrevote_cases s h r (G.refl s) fun a v hlk => ?_
  obtain rfl := a.eq_round hr
  have hst : s.step < 4 := a.step rfl
  intro hw
  refine ⟨?_, rfl, fun _ => rfl, ?_, ?_, rfl, [.vote tPrevote s.height s.round v], by simp [emit], ?_, ?_, ?_, by simp [D3C], by simp⟩
  · refine ⟨by simp [sPrevote], fun hl => ?_⟩
    have := hw.2 hl
    simp [emit, mu, sPrevote] at this ⊢; omega
  · simp [mu, sPrevote]; omega
  · intro hl; exact Or.inl ⟨rfl, Nat.le_refl _⟩
  · simp [Chain, stamp, tPrevote, mu, sPrevote]; omega
  · intro o ho
    simp at ho; subst ho
    refine ⟨rfl, ?_, ?_, fun _ hl => Or.inl (hlk hl)⟩
    · simp [tPrevote, mu]; omega
    · intro ht; simp [tPrevote, tPrecommit] at ht
  · intro h' r' v' hm; simp [tPrevote, tPrecommit] at hm

theorem decideProposal_cases :
    decideProposal s h r = s ∨ ∃ pol v, decideProposal s h r = emit s (.proposal h r pol v) := by
  unfold decideProposal
  generalize (if s.lockedValue ≠ 0 then s.lockedValue else if s.validValue ≠ 0 then s.validValue else s.fresh) = v
  by_cases hv : v = 0
  · left; simp [hv]
  · right; exact ⟨polInfo s, v, by simp [hv]⟩

theorem proposeCore_shape : ∃ new, (∀ o ∈ new, ∃ pol v, o = Out.proposal h r pol v) ∧
    proposeCore s h r = { s with round := r, step := sPropose, out := s.out ++ .timeout h r sPropose :: new } := by
  unfold proposeCore
  dsimp only
  split
  · rcases decideProposal_cases (emit s (.timeout h r sPropose)) h r with e | ⟨pol, v, e⟩
    · rw [e]; exact ⟨[], by simp, rfl⟩
    · rw [e]; exact ⟨[.proposal h r pol v], by simp, by simp [emit]⟩
  · exact ⟨[], by simp, rfl⟩

theorem proposeCore_G (hst : s.step < 3) (hh : s.height = h) : G s (proposeCore s h s.round) := by
  obtain ⟨new, hnew, e⟩ := proposeCore_shape s h s.round
  rw [e]
  refine G_quiet _ rfl (fun _ => rfl) (fun _ => ?_) (fun _ => (by decide : sPropose ≤ 9)) rfl rfl ?_ ?_ (Or.inl ⟨rfl, rfl⟩)
  · simp only [mu, sPropose]; omega
  · intro o ho
    rcases List.mem_cons.1 ho with rfl | ho
    · exact ⟨rfl, trivial⟩
    · obtain ⟨pol, v, rfl⟩ := hnew o ho; exact ⟨rfl, trivial⟩
  · intro h' r' st' hm
    rcases List.mem_cons.1 hm with e | hm
    · cases e; exact ⟨hh.symm, Nat.le_refl _⟩
    · obtain ⟨_, _, e⟩ := hnew _ hm; cases e

theorem enterPropose_G (hr : Reached r s) : G s (enterPropose s h r) := by
  refine enter_cases (G.refl s) fun a => ?_
  obtain rfl := a.eq_round hr
  have g := proposeCore_G s h (a.step rfl) a.height
  exact iteInduction (fun _ => G.trans g (enterPrevote_G _ _ _ (Or.inr (Nat.le_refl _)))) fun _ => g

theorem setRound_fold_rv (base q : Nat) : ∀ (l : List Nat) (acc : List (Nat × RV)),
    (alookup (l.foldl (fun acc k => match alookup acc (base + 1 + k) with
        | some _ => acc
        | none => acc ++ [(base + 1 + k, RV.empty)]) acc) q).getD RV.empty = (alookup acc q).getD RV.empty
  | [], acc => rfl
  | k :: rest, acc => by
    simp only [List.foldl_cons]
    rw [setRound_fold_rv base q rest]
    split
    · rfl
    · exact alookup_append_getD

/-- `SetRound` only adds empty rounds: every round's vote sets read the same before and after -/
theorem setRound_rv (q : Nat) : (setRound s r).rv q = s.rv q := by
  unfold setRound
  split
  · rfl
  · simp only [St.rv]
    exact setRound_fold_rv s.hround q _ s.rvs

theorem setRound_shape : ∃ rvs hr d, setRound s r = { s with rvs := rvs, hround := hr, dead := d } := by
  unfold setRound
  split
  · exact ⟨s.rvs, s.hround, true, rfl⟩
  · exact ⟨_, r, s.dead, rfl⟩

theorem setRound_G (s : St) (r : Nat) : G s (setRound s r) := by
  have hrv := setRound_rv s r
  obtain ⟨rvs, hr, d, e⟩ := setRound_shape s r
  rw [e] at hrv ⊢
  exact G_quiet [] rfl hrv (fun _ => Nat.le_refl _) id rfl (List.append_nil _).symm (by simp) (by simp) (Or.inl ⟨rfl, rfl⟩)

theorem newRoundCore_shape (vals : Model.ValSet.VS) : ∃ p b pp rvs hr d, newRoundCore s r vals =
    { s with round := r, step := sNewRound, vals := vals, proposal := p, pb := b, pbp := pp, rvs := rvs, hround := hr, dead := d } := by
  unfold newRoundCore
  dsimp only
  split
  · obtain ⟨rvs, hr, d, e⟩ := setRound_shape { s with round := r, step := sNewRound, vals := vals } (r + 1)
    exact ⟨s.proposal, s.pb, s.pbp, rvs, hr, d, e⟩
  · obtain ⟨rvs, hr, d, e⟩ := setRound_shape { s with round := r, step := sNewRound, vals := vals, proposal := none, pb := 0, pbp := none } (r + 1)
    exact ⟨none, 0, none, rvs, hr, d, e⟩

theorem newRoundCore_rv (vals : Model.ValSet.VS) (q : Nat) : (newRoundCore s r vals).rv q = s.rv q := by
  unfold newRoundCore
  rw [setRound_rv]
  split <;> rfl

theorem newRoundCore_G (vals : Model.ValSet.VS) (hg : s.round < r ∨ (s.round = r ∧ s.step = sNewHeight)) :
    G s (newRoundCore s r vals) := by
  have hrv := newRoundCore_rv s r vals
  obtain ⟨p, b, pp, rvs, hr, d, e⟩ := newRoundCore_shape s r vals
  rw [e] at hrv ⊢
  refine G_quiet [] rfl hrv (fun h9 => ?_) (fun _ => (by decide : sNewRound ≤ 9)) rfl (List.append_nil _).symm (by simp) (by simp)
    (Or.inl ⟨rfl, rfl⟩)
  simp only [mu, sNewRound, sNewHeight] at hg ⊢
  omega

theorem newRoundCore_reached (vals : Model.ValSet.VS) : Reached r (newRoundCore s r vals) := by
  obtain ⟨p, b, pp, rvs, hr, d, e⟩ := newRoundCore_shape s r vals
  rw [e]; exact Or.inr (Nat.le_refl _)

theorem enterNewRound_cases {P : St → Prop} (h0 : s.dead = true ∨ s.height ≠ h ∨ r ≤ s.round → P s) (hd : P (die s))
    (hv : s.round < r ∨ (s.round = r ∧ s.step = sNewHeight) → ∀ vals, P (enterPropose (newRoundCore s r vals) h r)) :
    P (enterNewRound s h r) := by
  unfold enterNewRound
  refine iteInduction (fun d => h0 (Or.inl d)) fun _ => iteInduction (fun hg => h0 (Or.inr ?_)) fun hg => ?_
  · rcases hg with e | e | e
    · exact Or.inl e
    · exact Or.inr (Nat.le_of_lt e)
    · exact Or.inr (Nat.le_of_eq e.1.symm)
  · have hg' : s.round < r ∨ (s.round = r ∧ s.step = sNewHeight) := by
      by_cases h1 : s.round = r
      · exact Or.inr ⟨h1, Decidable.of_not_not fun e => hg (Or.inr (Or.inr ⟨h1, e⟩))⟩
      · exact Or.inl (Nat.lt_of_le_of_ne (Nat.le_of_not_lt fun e => hg (Or.inr (Or.inl e))) h1)
    split
    · exact hd
    · exact hv hg' _

theorem enterNewRound_G : G s (enterNewRound s h r) :=
  enterNewRound_cases s h r (fun _ => G.refl s) (G_die s) fun hg vals =>
    G.trans (newRoundCore_G s r vals hg) (enterPropose_G _ h r (newRoundCore_reached s r vals))

theorem wait_G (K : Nat) (hst : s.step < K) (hK : K ≤ 9) (hh : s.height = h) :
    G s { emit s (.timeout h s.round K) with round := s.round, step := K } := by
  refine G_quiet [.timeout h s.round K] rfl (fun _ => rfl) (fun _ => ?_) (fun _ => hK) rfl rfl ?_ ?_ (Or.inl ⟨rfl, rfl⟩)
  · simp only [mu]; omega
  · intro o ho; rw [List.mem_singleton.1 ho]; exact ⟨rfl, trivial⟩
  · intro h' r' st' hm; cases List.mem_singleton.1 hm; exact ⟨hh.symm, Nat.le_refl _⟩

theorem enterPrevoteWait_G (hr : Reached r s) : G s (enterPrevoteWait s h r) := by
  refine enter_cases (G.refl s) fun a => iteInduction (fun _ => G_die s) fun _ => ?_
  obtain rfl := a.eq_round hr
  exact wait_G s h sPrevoteWait (a.step rfl) (by decide) a.height

theorem enterPrecommitWait_G (hr : Reached r s) : G s (enterPrecommitWait s h r) := by
  refine enter_cases (G.refl s) fun a => iteInduction (fun _ => G_die s) fun _ => ?_
  obtain rfl := a.eq_round hr
  exact wait_G s h sPrecommitWait (a.step rfl) (by decide) a.height

/-- the state `enterPrecommit` leaves behind at round `r` when it signs; the precommit is signed with the round `s` is in -/
def afterPrecommit (s : St) (r lv lr : Nat) (pb : Value) (pbp : Option Parts) (v : Value) : St :=
  { signAddVote { s with lockedValue := lv, lockedRound := lr, pb := pb, pbp := pbp } tPrecommit v with round := r, step := sPrecommit }

structure PrecommitRule (s : St) (r lv lr : Nat) (v : Value) : Prop where
  polka : v ≠ 0 → (s.pvs r).maj23 = some v ∧ lv = v ∧ lr = r
  lock : lv ≠ 0 → lr = r ∨ (lv = s.lockedValue ∧ lr = s.lockedRound)
  ev : (lv = s.lockedValue ∧ (lr = s.lockedRound ∨ lr = r)) ∨ ∃ b, (s.pvs r).maj23 = some b ∧ b ≠ s.lockedValue

theorem enterPrecommit_cases {P : St → Prop} (h0 : P s) (hd : P (die s))
    (hv : Ahead s h r sPrecommit → ∀ lv lr pb pbp v, PrecommitRule s r lv lr v → P (afterPrecommit s r lv lr pb pbp v)) :
    P (enterPrecommit s h r) := by
  refine enter_cases h0 fun a => ?_
  have hv := hv a
  have nil : P (afterPrecommit s r s.lockedValue s.lockedRound s.pb s.pbp 0) :=
    hv _ _ _ _ _ ⟨fun h => absurd rfl h, fun _ => Or.inr ⟨rfl, rfl⟩, Or.inl ⟨rfl, Or.inl rfl⟩⟩
  cases hm : (s.pvs r).maj23 with
  | none => exact nil
  | some v =>
    have un : v ≠ s.lockedValue → ∀ pb pbp, P (afterPrecommit s r 0 0 pb pbp 0) := fun hne pb pbp =>
      hv 0 0 pb pbp 0 ⟨fun h => absurd rfl h, fun h => absurd rfl h, Or.inr ⟨v, hm, hne⟩⟩
    refine iteInduction (fun _ => hd) fun _ => ?_
    refine iteInduction (fun hv0 => ?_) fun hv0 => ?_
    · -- nil polka: unlock, precommit nil
      by_cases hl : s.lockedValue = 0
      · rw [if_pos hl]; exact nil
      · rw [if_neg hl]; exact un (fun e => hl (e.symm.trans hv0)) _ _
    refine iteInduction (fun hlv => ?_) fun hlv => ?_
    · -- polka for the locked block: relock
      exact hv s.lockedValue r s.pb s.pbp v ⟨fun _ => ⟨hm, hlv, rfl⟩, fun _ => Or.inl rfl, Or.inl ⟨rfl, Or.inr rfl⟩⟩
    have hne : v ≠ s.lockedValue := fun e => hlv e.symm
    refine iteInduction (fun _ => ?_) fun _ => ?_
    · -- polka for the proposal block: lock
      refine iteInduction (fun _ => hd) fun _ => iteInduction (fun _ => hd) fun _ => ?_
      exact hv v r s.pb s.pbp v ⟨fun _ => ⟨hm, rfl, rfl⟩, fun _ => Or.inl rfl, Or.inr ⟨v, hm, hne⟩⟩
    -- polka for a block the node does not hold: unlock, precommit nil
    dsimp only
    by_cases hh : hasHeader (unlock s).pbp v = true
    · rw [if_pos hh]; exact un hne _ _
    · rw [if_neg hh]; exact un hne _ _

theorem afterPrecommit_G (lv lr : Nat) (pb : Value) (pbp : Option Parts) (v : Value) (hst : s.step < sPrecommit)
    (hr : PrecommitRule s s.round lv lr v) : G s (afterPrecommit s s.round lv lr pb pbp v) := by
  intro hw
  have hst : s.step < 6 := hst
  have hlt : s.lockedValue ≠ 0 → s.lockedRound < s.round := fun hl => by
    have := hw.2 hl; simp only [mu] at this; omega
  refine ⟨⟨(by decide : sPrecommit ≤ 9), fun hl => ?_⟩, rfl, fun _ => rfl, ?_, fun hl => ?_, rfl, [.vote tPrecommit s.height s.round v], rfl, ?_, ?_, ?_,
    by simp [D3C], by simp⟩
  · show lr * 16 + 6 ≤ s.round * 16 + sPrecommit
    rcases hr.lock hl with e | ⟨e1, e2⟩
    · rw [e]; exact Nat.le_refl _
    · have := hw.2 (by rw [← e1]; exact hl); simp only [mu, sPrecommit] at this ⊢; omega
  · simp only [mu, afterPrecommit, sPrecommit]; omega
  · show (lv = s.lockedValue ∧ s.lockedRound ≤ lr) ∨ Released s.pvs s.lockedValue s.lockedRound s.round
    rcases hr.ev with ⟨e1, e2⟩ | ⟨b, hb, hne⟩
    · exact Or.inl ⟨e1, by have := hlt hl; omega⟩
    · exact Or.inr ⟨s.round, b, hlt hl, Nat.le_refl _, hb, hne⟩
  · simp [Chain, stamp, tPrevote, tPrecommit, mu, afterPrecommit, sPrecommit]; omega
  · intro o ho
    simp at ho; subst ho
    refine ⟨rfl, ?_, fun _ hv0 => (hr.polka hv0).1, ?_⟩
    · simp [tPrevote, tPrecommit, mu]; omega
    · intro ht; simp [tPrevote, tPrecommit] at ht
  · intro h' r' v' hm hv'
    simp at hm
    obtain ⟨_, e2, e3⟩ := hm
    subst e2; subst e3
    obtain ⟨_, e4, e5⟩ := hr.polka hv'
    exact Or.inl ⟨e4, Nat.le_of_eq e5.symm⟩

theorem enterPrecommit_G (hr : Reached r s) : G s (enterPrecommit s h r) := by
  refine enterPrecommit_cases s h r (G.refl s) (G_die s) fun a lv lr pb pbp v hrule => ?_
  obtain rfl := a.eq_round hr
  exact afterPrecommit_G s lv lr pb pbp v (a.step rfl) hrule

theorem G_commit (v : Nat) (d : Bool) (hv : v ≠ 0) (hmaj : (s.pcs r).maj23 = some v) :
    G s { emit s (.commit s.height r v) with decided := d } := by
  refine G_quiet [.commit s.height r v] rfl (fun _ => rfl) (fun _ => Nat.le_refl _) id rfl rfl ?_ (by simp) (Or.inl ⟨rfl, rfl⟩)
  intro o ho; rw [List.mem_singleton.1 ho]; exact ⟨rfl, rfl, hv, hmaj⟩

theorem finalizeCommit_G (hv : ∀ v, (s.pcs s.commitRound.toNat).maj23 = some v → v ≠ 0) : G s (finalizeCommit s h) := by
  unfold finalizeCommit
  refine iteInduction (fun _ => G.refl s) fun hg => ?_
  obtain rfl : s.height = h := Decidable.of_not_not fun e => hg (Or.inl e)
  cases hm : (s.pcs s.commitRound.toNat).maj23 with
  | none => exact G_die s
  | some v =>
    refine iteInduction (fun _ => G_die s) fun _ => iteInduction (fun _ => G_die s) fun _ => iteInduction (fun _ => G_die s) fun _ => ?_
    exact iteInduction (fun _ => G_commit s _ v _ (hv v hm) hm) fun _ => G_commit s _ v true (hv v hm) hm

theorem tryFinalizeCommit_G : G s (tryFinalizeCommit s h) := by
  unfold tryFinalizeCommit
  refine iteInduction (fun _ => G.refl s) fun _ => iteInduction (fun _ => G_die s) fun _ => iteInduction (fun _ => G.refl s) fun _ => ?_
  cases hm : (s.pcs s.commitRound.toNat).maj23 with
  | none => exact G.refl s
  | some v =>
    refine iteInduction (fun _ => G.refl s) fun hv0 => iteInduction (fun _ => G.refl s) fun _ => ?_
    exact finalizeCommit_G s h fun v' hm' => by rw [hm] at hm'; cases hm'; exact hv0

theorem enterCommit_G (cr : Nat) : G s (enterCommit s h cr) := by
  unfold enterCommit
  refine iteInduction (fun _ => G.refl s) fun _ => iteInduction (fun _ => G.refl s) fun hg => ?_
  cases hm : (s.pcs cr).maj23 with
  | none => exact G_die s
  | some v =>
    -- only the proposal block is prepared for `v` and the step set to `Commit` before `tryFinalizeCommit` takes over
    dsimp -zeta only
    extract_lets s1 s2
    have e1 : ∃ pb pbp, s1 = { s with pb := pb, pbp := pbp } := by
      unfold s1; split
      · exact ⟨_, _, rfl⟩
      · exact ⟨s.pb, s.pbp, rfl⟩
    have e2 : ∃ pb pbp, s2 = { s with pb := pb, pbp := pbp } := by
      obtain ⟨pb, pbp, e⟩ := e1
      unfold s2; rw [e]; split
      · exact ⟨_, _, rfl⟩
      split
      · exact ⟨_, _, rfl⟩
      · exact ⟨_, _, rfl⟩
    obtain ⟨pb, pbp, e⟩ := e2
    rw [e]
    refine G.trans (?_ : G s { s with pb := pb, pbp := pbp, step := sCommit, commitRound := (cr : Int) }) (tryFinalizeCommit_G _ h)
    refine G_quiet [] rfl (fun _ => rfl) (fun _ => ?_) (fun _ => (by decide : sCommit ≤ 9)) rfl (List.append_nil _).symm (by simp) (by simp)
      (Or.inl ⟨rfl, rfl⟩)
    have : s.step < sCommit := Nat.lt_of_not_le fun e => hg (Or.inr e)
    simp only [mu, sCommit] at this ⊢; omega

end

section
variable {powers : List Nat} (s : VSet) (n total i p peer : Nat) (v : Value) (ok : Bool)

def powSum (powers : List Nat) (who : List Nat) : Nat := (who.map (fun i => powers.getD i 0)).sum

/-- a block's vote record is consistent: distinct validators of the set, `sum` is their power -/
def BVOK (powers : List Nat) (bv : BV) : Prop :=
  bv.who.Nodup ∧ bv.sum = powSum powers bv.who ∧ ∀ i ∈ bv.who, i < powers.length

/-- a vote set is consistent, and its `maj23` is backed by a quorum of recorded votes for that value -/
def VOK (powers : List Nat) (vs : VSet) : Prop :=
  (∀ v bv, alookup vs.byBlock v = some bv → BVOK powers bv) ∧
  (∀ v, vs.maj23 = some v → ∃ bv, alookup vs.byBlock v = some bv ∧ quorum powers.sum ≤ bv.sum)

theorem VOK_empty (powers : List Nat) : VOK powers VSet.empty := by
  constructor
  · intro v bv h; simp [VSet.empty, alookup] at h
  · intro v h; simp [VSet.empty] at h

theorem BVOK_empty (powers : List Nat) (pm : Bool) : BVOK powers { peerMaj := pm, who := [], sum := 0 } :=
  ⟨List.nodup_nil, rfl, fun _ h => absurd h List.not_mem_nil⟩

theorem BV_add_ok {bv : BV} (h : BVOK powers bv) (i : Nat) (hi : i < powers.length) :
    BVOK powers (bv.add i (powers.getD i 0)) ∧ bv.sum ≤ (bv.add i (powers.getD i 0)).sum := by
  unfold BV.add
  split
  · exact ⟨h, Nat.le_refl _⟩
  · rename_i hc
    refine ⟨⟨?_, ?_, ?_⟩, by simp⟩
    · simp only [List.nodup_cons]; exact ⟨by simpa using hc, h.1⟩
    · simp [powSum, h.2.1]; omega
    · intro j hj
      rcases List.mem_cons.1 hj with rfl | hj
      · exact hi
      · exact h.2.2 j hj

theorem tally_ok {s : VSet} (hs : VOK powers s) (i : Nat) (hi : i < powers.length) (v : Value) (bv : BV)
    (hbv : BVOK powers bv)
    (hlk : alookup s.byBlock v = some bv ∨ alookup s.byBlock v = none) :
    VOK powers (s.tally powers.sum i (powers.getD i 0) v bv) := by
  obtain ⟨hb', hle⟩ := BV_add_ok hbv i hi
  have part1 : ∀ v' bv'', alookup (aset s.byBlock v (bv.add i (powers.getD i 0))) v' = some bv'' → BVOK powers bv'' := by
    intro v' bv'' h
    by_cases e : v' = v
    · subst e; rw [alookup_aset_same] at h; cases h; exact hb'
    · rw [alookup_aset_other e] at h; exact hs.1 v' bv'' h
  have keep : ∀ v', s.maj23 = some v' → ∃ bv'', alookup (aset s.byBlock v (bv.add i (powers.getD i 0))) v' = some bv'' ∧ quorum powers.sum ≤ bv''.sum := by
    intro v' h
    obtain ⟨b0, h0, hq⟩ := hs.2 v' h
    by_cases e : v' = v
    · subst e
      rcases hlk with hlk | hlk
      · rw [hlk] at h0; cases h0
        exact ⟨_, alookup_aset_same, by omega⟩
      · rw [hlk] at h0; cases h0
    · exact ⟨b0, by rw [alookup_aset_other e]; exact h0, hq⟩
  unfold VSet.tally
  simp only
  split
  · rename_i hc
    refine ⟨part1, ?_⟩
    intro v' h
    simp at h; subst h
    exact ⟨_, alookup_aset_same, hc.2.1⟩
  · exact ⟨part1, keep⟩

theorem VSet_add_cases :
    s.add n total i p v ok = (s, false) ∨ (i < n ∧ ok = true ∧ s.add n total i p v ok = s.addVerified total i p v) := by
  unfold VSet.add
  split
  · exact Or.inl rfl
  rename_i hn
  split
  · exact Or.inl rfl
  split
  · exact Or.inl rfl
  · rename_i hok; exact Or.inr ⟨Nat.lt_of_not_le hn, by simpa using hok, rfl⟩

/-- `addVerifiedVote`: the primary votes and their power may change; the vote is counted for its block (`tally`), or not (a
conflicting vote for a block nobody claimed) -/
theorem addVerified_shape :
    ∃ vts sm, (s.addVerified total i p v).1 = { s with votes := vts, sum := sm } ∨
      ∃ bv, (alookup s.byBlock v = some bv ∨ alookup s.byBlock v = none ∧ bv = { peerMaj := false, who := [], sum := 0 }) ∧
        (s.addVerified total i p v).1 = ({ s with votes := vts, sum := sm } : VSet).tally total i p v bv := by
  unfold VSet.addVerified
  split
  · dsimp only
    have h1 : ∃ vts, (if s.maj23 = some v then { s with votes := aset s.votes i v } else s) = { s with votes := vts } := by
      split
      · exact ⟨_, rfl⟩
      · exact ⟨s.votes, rfl⟩
    obtain ⟨vts, e⟩ := h1
    rw [e]
    refine ⟨vts, s.sum, ?_⟩
    split
    · rename_i bv hb
      split
      · exact Or.inr ⟨bv, Or.inl hb, rfl⟩
      · exact Or.inl rfl
    · exact Or.inl rfl
  · dsimp only
    refine ⟨aset s.votes i v, s.sum + p, ?_⟩
    split
    · rename_i bv hb; exact Or.inr ⟨bv, Or.inl hb, rfl⟩
    · rename_i hb; exact Or.inr ⟨_, Or.inr ⟨hb, rfl⟩, rfl⟩

theorem VSet_add_ok {s : VSet} (hs : VOK powers s) (i : Nat) (v : Value) (ok : Bool) :
    VOK powers (s.add powers.length powers.sum i (powers.getD i 0) v ok).1 := by
  rcases VSet_add_cases s powers.length powers.sum i (powers.getD i 0) v ok with e | ⟨hi, _, e⟩
  · rw [e]; exact hs
  rw [e]
  obtain ⟨vts, sm, e | ⟨bv, hb, e⟩⟩ := addVerified_shape s powers.sum i (powers.getD i 0) v
  · rw [e]; exact hs
  · rw [e]
    have h1 : VOK powers { s with votes := vts, sum := sm } := hs
    rcases hb with hb | ⟨hb, rfl⟩
    · exact tally_ok h1 i hi v bv (hs.1 v bv hb) (Or.inl hb)
    · exact tally_ok h1 i hi v _ (BVOK_empty _ _) (Or.inr hb)

def flagged (s : VSet) (v : Value) : BV :=
  let bv := (alookup s.byBlock v).getD { peerMaj := false, who := [], sum := 0 }
  { bv with peerMaj := true }

theorem VSet_setPeerMaj_shape :
    s.setPeerMaj peer v = s ∨ s.setPeerMaj peer v = { s with peers := aset s.peers peer v } ∨
    s.setPeerMaj peer v = { s with peers := aset s.peers peer v, byBlock := aset s.byBlock v (flagged s v) } := by
  unfold VSet.setPeerMaj
  split
  · exact Or.inl rfl
  dsimp only
  split
  · rename_i bv hb
    split
    · exact Or.inr (Or.inl rfl)
    · exact Or.inr (Or.inr (by unfold flagged; rw [hb]; rfl))
  · rename_i hb
    exact Or.inr (Or.inr (by unfold flagged; rw [hb]; rfl))

theorem flagged_ok {s : VSet} (hs : VOK powers s) (v : Value) : BVOK powers (flagged s v) := by
  unfold flagged
  cases hb : alookup s.byBlock v with
  | none => exact BVOK_empty _ _
  | some bv => exact hs.1 v bv hb

theorem setPeerMaj_ok {s : VSet} (hs : VOK powers s) (peer : Nat) (v : Value) :
    VOK powers (s.setPeerMaj peer v) := by
  rcases VSet_setPeerMaj_shape s peer v with e | e | e
  · rw [e]; exact hs
  · rw [e]; exact hs
  rw [e]
  constructor
  · intro v' bv'' h
    by_cases e : v' = v
    · subst e; rw [alookup_aset_same] at h; cases h; exact flagged_ok hs v'
    · rw [alookup_aset_other e] at h; exact hs.1 v' bv'' h
  · intro v' h
    obtain ⟨b0, h0, hq⟩ := hs.2 v' h
    by_cases e : v' = v
    · subst e; exact ⟨_, alookup_aset_same, by unfold flagged; rw [h0]; exact hq⟩
    · exact ⟨b0, by rw [alookup_aset_other e]; exact h0, hq⟩

/-- **maj23_has_quorum**: in a consistent vote set a recorded +2/3 majority for `v` means that distinct validators holding MORE THAN
two thirds of the total power have a recorded vote for `v` -/
theorem maj23_has_quorum {vs : VSet} (h : VOK powers vs) {v : Value} (hm : vs.maj23 = some v) :
    ∃ who : List Nat, who.Nodup ∧ (∀ i ∈ who, i < powers.length) ∧ (∃ bv, alookup vs.byBlock v = some bv ∧ bv.who = who) ∧
      3 * powSum powers who > 2 * powers.sum := by
  obtain ⟨bv, hb, hq⟩ := h.2 v hm
  obtain ⟨hn, hsum, hlt⟩ := h.1 v bv hb
  refine ⟨bv.who, hn, hlt, ⟨bv, hb, rfl⟩, ?_⟩
  rw [← hsum]
  unfold quorum at hq
  omega

variable {s n total i p peer v ok}

theorem tally_keeps {bv : BV} {x : Value} (h : s.maj23 = some x) :
    (s.tally total i p v bv).maj23 = some x := by
  unfold VSet.tally
  simp only
  split
  · rename_i hc; rw [h] at hc; exact absurd hc.2.2 (by simp)
  · exact h

theorem VSet_add_keeps {x : Value} (h : s.maj23 = some x) :
    (s.add n total i p v ok).1.maj23 = some x := by
  rcases VSet_add_cases s n total i p v ok with e | ⟨_, _, e⟩
  · rw [e]; exact h
  rw [e]
  obtain ⟨vts, sm, e | ⟨bv, _, e⟩⟩ := addVerified_shape s total i p v
  · rw [e]; exact h
  · rw [e]; exact tally_keeps h

theorem setPeerMaj_maj : (s.setPeerMaj peer v).maj23 = s.maj23 := by
  rcases VSet_setPeerMaj_shape s peer v with e | e | e <;> rw [e]

theorem BV_add_who {bv : BV} {i p j : Nat} (h : j ∈ (bv.add i p).who) : j ∈ bv.who ∨ j = i := by
  unfold BV.add at h
  split at h
  · exact Or.inl h
  · rcases List.mem_cons.1 h with e | h'
    · exact Or.inr e
    · exact Or.inl h'

theorem tally_who {bv : BV} (hlk : alookup s.byBlock v = some bv ∨ bv.who = [])
    {v' : Value} {bv' : BV} {j : Nat} (h : alookup (s.tally total i p v bv).byBlock v' = some bv') (hj : j ∈ bv'.who) :
    (∃ bv0, alookup s.byBlock v' = some bv0 ∧ j ∈ bv0.who) ∨ (v' = v ∧ j = i) := by
  have hb : (s.tally total i p v bv).byBlock = aset s.byBlock v (bv.add i p) := by
    unfold VSet.tally; simp only; split <;> rfl
  rw [hb] at h
  by_cases e : v' = v
  · subst e
    rw [alookup_aset_same] at h; cases h
    rcases BV_add_who hj with h1 | h1
    · rcases hlk with hlk | hlk
      · exact Or.inl ⟨bv, hlk, h1⟩
      · rw [hlk] at h1; cases h1
    · exact Or.inr ⟨rfl, h1⟩
  · rw [alookup_aset_other e] at h
    exact Or.inl ⟨bv', h, hj⟩

theorem VSet_add_who {v' : Value} {bv' : BV} {j : Nat}
    (h : alookup (s.add n total i p v ok).1.byBlock v' = some bv') (hj : j ∈ bv'.who) :
    (∃ bv0, alookup s.byBlock v' = some bv0 ∧ j ∈ bv0.who) ∨ (v' = v ∧ j = i ∧ ok = true) := by
  rcases VSet_add_cases s n total i p v ok with e | ⟨_, hok, e⟩
  · rw [e] at h; exact Or.inl ⟨bv', h, hj⟩
  rw [e] at h
  obtain ⟨vts, sm, e | ⟨bv, hb, e⟩⟩ := addVerified_shape s total i p v
  · rw [e] at h; exact Or.inl ⟨bv', h, hj⟩
  · rw [e] at h
    have hlk : alookup ({ s with votes := vts, sum := sm } : VSet).byBlock v = some bv ∨ bv.who = [] :=
      hb.imp id fun hn => by rw [hn.2]
    exact (tally_who hlk h hj).imp id fun ⟨h0, h1⟩ => ⟨h0, h1, hok⟩

theorem setPeerMaj_who {v' : Value} {bv' : BV} {j : Nat}
    (h : alookup (s.setPeerMaj peer v).byBlock v' = some bv') (hj : j ∈ bv'.who) :
    ∃ bv0, alookup s.byBlock v' = some bv0 ∧ j ∈ bv0.who := by
  rcases VSet_setPeerMaj_shape s peer v with e | e | e
  · rw [e] at h; exact ⟨bv', h, hj⟩
  · rw [e] at h; exact ⟨bv', h, hj⟩
  rw [e] at h
  by_cases e : v' = v
  · subst e
    rw [alookup_aset_same] at h; cases h
    unfold flagged at hj
    cases hb : alookup s.byBlock v' with
    | none => rw [hb] at hj; cases hj
    | some bv => rw [hb] at hj; exact ⟨bv, rfl, hj⟩
  · rw [alookup_aset_other e] at h; exact ⟨bv', h, hj⟩

end

def vsOf (s : St) (t r : Nat) : VSet := if t = tPrevote then s.pvs r else s.pcs r

def TblOK (s : St) : Prop := ∀ q, VOK s.powers (s.pvs q) ∧ VOK s.powers (s.pcs q)

theorem TblOK_of_eq {x y : St} (hr : ∀ q, x.rv q = y.rv q) (hp : x.powers = y.powers) (h : TblOK y) : TblOK x := by
  intro q
  have := h q
  simp only [St.pvs, St.pcs, hr q, hp] at this ⊢
  exact this

theorem TblOK_rvs {x y : St} (hr : x.rvs = y.rvs) (hp : x.powers = y.powers) (h : TblOK y) : TblOK x :=
  TblOK_of_eq (rv_of_rvs hr) hp h

theorem TblOK.vsOf {s : St} (h : TblOK s) (t r : Nat) : VOK s.powers (vsOf s t r) := by
  unfold Props.C01Node.vsOf; split
  · exact (h r).1
  · exact (h r).2

theorem TblOK_of_vsOf {s a : St} (hp : a.powers = s.powers) (h : ∀ t r, VOK s.powers (vsOf a t r)) : TblOK a :=
  fun q => hp ▸ ⟨h tPrevote q, h tPrecommit q⟩

theorem putVS_rv (s : St) (r t : Nat) (vs : VSet) (q : Nat) :
    (putVS s r t vs).rv q = if q = r then (if t = tPrevote then { s.rv r with pv := vs } else { s.rv r with pc := vs }) else s.rv q := by
  unfold putVS
  simp only [St.rv]
  by_cases e : q = r
  · subst e; rw [alookup_aset_same]; simp
  · rw [alookup_aset_other e]; simp [e]

theorem vsOf_putVS (s : St) (r t : Nat) (vs : VSet) (t' r' : Nat) :
    vsOf (putVS s r t vs) t' r' = if r' = r ∧ (t' = tPrevote ↔ t = tPrevote) then vs else vsOf s t' r' := by
  unfold vsOf
  simp only [St.pvs, St.pcs, putVS_rv]
  by_cases hr : r' = r
  · subst hr; by_cases h1 : t' = tPrevote <;> by_cases h2 : t = tPrevote <;> simp [h1, h2]
  · simp [hr]

theorem putVS_vsOf (s : St) (r t q : Nat) : (putVS s r t (vsOf s t r)).rv q = s.rv q := by
  rw [putVS_rv]
  split
  · rename_i e; subst e
    unfold vsOf
    split <;> rfl
  · rfl

/-- a catch-up round is an empty round -/
theorem catchupRound_spec {s s1 : St} {r src : Nat} (h : catchupRound s r src = some s1) :
    (∃ rvs cu, s1 = { s with rvs := rvs, catchup := cu }) ∧ ∀ q, s1.rv q = s.rv q := by
  unfold catchupRound at h
  split at h
  · cases h; exact ⟨⟨s.rvs, s.catchup, rfl⟩, fun _ => rfl⟩
  · dsimp only at h
    split at h
    · cases h; exact ⟨⟨_, _, rfl⟩, fun _ => alookup_append_getD⟩
    · cases h

theorem recordVote_shape (s : St) (t r idx v src : Nat) (ok : Bool) :
    ∃ rvs cu, (recordVote s t r idx v src ok).1 = { s with rvs := rvs, catchup := cu } := by
  unfold recordVote
  split
  · exact ⟨s.rvs, s.catchup, rfl⟩
  · rename_i s1 h1
    obtain ⟨⟨rvs, cu, e⟩, _⟩ := catchupRound_spec h1
    rw [e]; exact ⟨_, _, rfl⟩

theorem setPeerMaj_shape (s : St) (r t src v : Nat) : ∃ rvs, setPeerMaj s r t src v = { s with rvs := rvs } := by
  unfold setPeerMaj
  split
  · exact ⟨s.rvs, rfl⟩
  split
  · exact ⟨s.rvs, rfl⟩
  · exact ⟨_, rfl⟩

/-- `HeightVoteSet.AddVote`: every vote set stays as it is, except the one of the vote's type and round, which gets the vote by
`VoteSet.addVote` -/
theorem recordVote_tables (s : St) (t r idx v src : Nat) (ok : Bool) (t' r' : Nat) :
    vsOf (recordVote s t r idx v src ok).1 t' r' = vsOf s t' r' ∨
    (r' = r ∧ (t' = tPrevote ↔ t = tPrevote) ∧
      vsOf (recordVote s t r idx v src ok).1 t' r' = ((vsOf s t' r').add s.n s.total idx (s.powerOf idx) v ok).1) := by
  unfold recordVote
  split
  · exact Or.inl rfl
  rename_i s1 h1
  obtain ⟨⟨rvs, cu, e⟩, hrv⟩ := catchupRound_spec h1
  have hv : ∀ t' r', vsOf s1 t' r' = vsOf s t' r' := fun t' r' => by simp only [vsOf, St.pvs, St.pcs, hrv]
  dsimp only
  rw [vsOf_putVS]
  split
  · rename_i hc
    obtain ⟨rfl, ht⟩ := hc
    refine Or.inr ⟨rfl, ht, ?_⟩
    have : (if t = tPrevote then s1.pvs r' else s1.pcs r') = vsOf s t' r' := by rw [← hv]; simp only [vsOf, ht]
    rw [this, e]
    rfl
  · exact Or.inl (hv t' r')

theorem setPeerMaj_tables (s : St) (r t src v : Nat) (t' r' : Nat) :
    vsOf (setPeerMaj s r t src v) t' r' = vsOf s t' r' ∨
    vsOf (setPeerMaj s r t src v) t' r' = (vsOf s t' r').setPeerMaj src v := by
  unfold setPeerMaj
  split
  · exact Or.inl rfl
  split
  · exact Or.inl rfl
  rename_i rv hrv
  have e : rv = s.rv r := by simp [St.rv, hrv]
  rw [vsOf_putVS]
  split
  · rename_i hc
    obtain ⟨rfl, ht⟩ := hc
    right
    rw [e]; simp only [vsOf, St.pvs, St.pcs, ht]
  · exact Or.inl rfl

theorem recordVote_tbl (s : St) (t r idx v src : Nat) (ok : Bool) (ht : TblOK s) : TblOK (recordVote s t r idx v src ok).1 := by
  have hp : (recordVote s t r idx v src ok).1.powers = s.powers := by
    obtain ⟨_, _, e⟩ := recordVote_shape s t r idx v src ok; rw [e]
  refine TblOK_of_vsOf hp fun t' r' => ?_
  rcases recordVote_tables s t r idx v src ok t' r' with e | ⟨_, _, e⟩ <;> rw [e]
  · exact ht.vsOf t' r'
  · exact VSet_add_ok (ht.vsOf t' r') _ _ _

theorem setPeerMaj_tbl (s : St) (r t src v : Nat) (ht : TblOK s) : TblOK (setPeerMaj s r t src v) := by
  have hp : (setPeerMaj s r t src v).powers = s.powers := by
    obtain ⟨_, e⟩ := setPeerMaj_shape s r t src v; rw [e]
  refine TblOK_of_vsOf hp fun t' r' => ?_
  rcases setPeerMaj_tables s r t src v t' r' with e | e <;> rw [e]
  · exact ht.vsOf t' r'
  · exact setPeerMaj_ok (ht.vsOf t' r') _ _

/-- a recorded +2/3 majority of prevotes is never replaced -/
def MajMono (s a : St) : Prop := ∀ q x, (s.pvs q).maj23 = some x → (a.pvs q).maj23 = some x

theorem MajMono_of_rv {s a : St} (hr : ∀ q, a.rv q = s.rv q) : MajMono s a := by
  intro q x h; simp only [St.pvs, hr q] at h ⊢; exact h

theorem MajMono_rvs {s a : St} (hr : a.rvs = s.rvs) : MajMono s a :=
  MajMono_of_rv (rv_of_rvs hr)

theorem Released.of_majMono {s a : St} (hm : MajMono s a) {v r R : Nat} (h : Released s.pvs v r R) : Released a.pvs v r R := by
  obtain ⟨r', x, h1, h2, h3, h4⟩ := h
  exact ⟨r', x, h1, h2, hm r' x h3, h4⟩

theorem MajMono.trans {a b c : St} (h1 : MajMono a b) (h2 : MajMono b c) : MajMono a c :=
  fun q x h => h2 q x (h1 q x h)

theorem recordVote_majmono (s : St) (t r idx v src : Nat) (ok : Bool) : MajMono s (recordVote s t r idx v src ok).1 := by
  intro q x hx
  rcases recordVote_tables s t r idx v src ok tPrevote q with e | ⟨_, _, e⟩
  · exact (congrArg VSet.maj23 e).trans hx
  · exact (congrArg VSet.maj23 e).trans (VSet_add_keeps hx)

theorem setPeerMaj_majmono (s : St) (r t src v : Nat) : MajMono s (setPeerMaj s r t src v) := by
  intro q x hx
  rcases setPeerMaj_tables s r t src v tPrevote q with e | e
  · exact (congrArg VSet.maj23 e).trans hx
  · exact (congrArg VSet.maj23 e).trans (setPeerMaj_maj.trans hx)

/-- every voter recorded in `a` was recorded in `s` already, or is the acceptable vote that is the input `i` (a vote for the node's
height): the node records a vote only when it handles it -/
def Grow (i : In) (s a : St) : Prop :=
  ∀ t r v bv j, (t = tPrevote ∨ t = tPrecommit) → alookup (vsOf a t r).byBlock v = some bv → j ∈ bv.who →
    (∃ bv0, alookup (vsOf s t r).byBlock v = some bv0 ∧ j ∈ bv0.who) ∨ (∃ tot src, i = .vote t s.height r j v tot src true)

theorem Grow_of_rv {i : In} {s a : St} (hr : ∀ q, a.rv q = s.rv q) : Grow i s a := by
  intro t r v bv j _ h hj
  left
  refine ⟨bv, ?_, hj⟩
  simpa [vsOf, St.pvs, St.pcs, hr r] using h

theorem Grow_rvs {i : In} {s a : St} (hr : a.rvs = s.rvs) : Grow i s a :=
  Grow_of_rv (rv_of_rvs hr)

theorem Grow_frame {i : In} {s s1 a a1 : St} (h : Grow i s1 a1) (hs : ∀ q, s1.rv q = s.rv q) (hh : s1.height = s.height)
    (ha : ∀ q, a.rv q = a1.rv q) : Grow i s a := by
  intro t r v bv j ht hb hj
  have hb' : alookup (vsOf a1 t r).byBlock v = some bv := by simpa [vsOf, St.pvs, St.pcs, ha r] using hb
  rcases h t r v bv j ht hb' hj with ⟨b0, h0, h1⟩ | ⟨tot, src, e⟩
  · exact Or.inl ⟨b0, by simpa [vsOf, St.pvs, St.pcs, hs r] using h0, h1⟩
  · exact Or.inr ⟨tot, src, by rw [← hh]; exact e⟩

theorem recordVote_grow (s : St) (t r idx v src : Nat) (ok : Bool) (tot : Nat) (ht : t = tPrevote ∨ t = tPrecommit) :
    Grow (.vote t s.height r idx v tot src ok) s (recordVote s t r idx v src ok).1 := by
  intro t' r' v' bv' j ht' hb hj
  rcases recordVote_tables s t r idx v src ok t' r' with e | ⟨rfl, htt, e⟩ <;> rw [e] at hb
  · exact Or.inl ⟨bv', hb, hj⟩
  · refine (VSet_add_who hb hj).imp id fun ⟨e1, e2, e3⟩ => ?_
    have : t' = t := by
      rcases ht' with rfl | rfl
      · exact (htt.1 rfl).symm
      · exact (ht.resolve_left fun e => absurd (htt.2 e) (by decide)).symm
    subst e1 e2 e3 this
    exact ⟨tot, src, rfl⟩

theorem setPeerMaj_grow (i : In) (s : St) (r t src v : Nat) : Grow i s (setPeerMaj s r t src v) := by
  intro t' r' v' bv' j _ hb hj
  rcases setPeerMaj_tables s r t src v t' r' with e | e <;> rw [e] at hb
  · exact Or.inl ⟨bv', hb, hj⟩
  · exact Or.inl (setPeerMaj_who hb hj)

/-- the ticker fires only timeouts the node scheduled: never for a round above the current one -/
def WellTimed (s : St) (i : In) : Prop := ∀ h r st, i = .timeout h r st → h = s.height → r ≤ s.round

structure Start (i : In) (s a : St) : Prop where
  height : a.height = s.height
  round : a.round = s.round
  step : a.step = s.step
  lockedValue : a.lockedValue = s.lockedValue
  lockedRound : a.lockedRound = s.lockedRound
  out : a.out = []
  powers : a.powers = s.powers
  tbl : TblOK s → TblOK a
  maj : MajMono s a
  grow : Grow i s a

/-- `stepCore s i` is an internal transition (`G`) from a state that has the lock of `s` and already the vote tables the step ends with -/
def Spec (i : In) (s s' : St) : Prop := ∃ a, Start i s a ∧ G a s'

/-- the start of every handler: outputs cleared -/
def base (s : St) : St := { s with out := [], decided := false }

/-- **stale_inputs_ignored**: a timeout below the node's current `(height, round, step)` changes nothing -/
theorem stale_inputs_ignored (s : St) (h r st : Nat) (hs : h ≠ s.height ∨ r < s.round ∨ (r = s.round ∧ st < s.step)) :
    handleTimeout s h r st = s := by
  unfold handleTimeout; simp [hs]

theorem handleTimeout_G (s : St) (h r st : Nat) (hr : h = s.height → r ≤ s.round) : G s (handleTimeout s h r st) := by
  unfold handleTimeout
  refine iteInduction (fun _ => G.refl s) fun h0 => ?_
  have hr := hr (Decidable.of_not_not fun e => h0 (Or.inl e))
  refine iteInduction (fun _ => enterNewRound_G s h 0) fun _ => ?_
  refine iteInduction (fun _ => enterPropose_G s h 0 (Or.inr (Nat.zero_le _))) fun _ => ?_
  refine iteInduction (fun _ => enterPrevote_G s h r (Or.inr hr)) fun _ => ?_
  refine iteInduction (fun _ => enterPrecommit_G s h r (Or.inr hr)) fun _ => ?_
  refine iteInduction (fun _ => enterNewRound_G s h (r + 1)) fun _ => ?_
  exact iteInduction (fun _ => enterNewRound_G s h (r + 1)) fun _ => G_die s

theorem learn_shape (s : St) (v t : Nat) : ∃ tl, learn s v t = { s with totals := tl } := by
  unfold learn
  split
  · exact ⟨s.totals, rfl⟩
  split
  · exact ⟨s.totals, rfl⟩
  · exact ⟨_, rfl⟩

theorem ite_or_same {α : Type} {c d : Prop} [Decidable c] [Decidable d] (a b : α) :
    (if c then a else if d then a else b) = if c ∨ d then a else b := by
  by_cases hc : c <;> by_cases hd : d <;> simp [hc, hd]

theorem setProposal_eq (s : St) (h r : Nat) (pol : Int) (v total : Nat) (signer : Int) (typ : Nat) :
    setProposal s h r pol v total signer typ =
      if s.proposal.isSome = true ∨ typ = 33 ∨ (h ≠ s.height ∨ r ≠ s.round) ∨ sCommit ≤ s.step ∨ (pol ≠ -1 ∧ (pol < 0 ∨ (r : Int) ≤ pol)) ∨
          (total = 0 ∨ s.maxParts < total) ∨ (Model.ValSet.getProposer s.vals).map (fun a => (a : Int)) ≠ some signer
      then s else { s with proposal := some pol, pb := 0, pbp := some { v := v, total := total, got := [] } } := by
  unfold setProposal
  simp only [ite_or_same]

theorem setProposal_shape (s : St) (h r : Nat) (pol : Int) (v total : Nat) (signer : Int) (typ : Nat) :
    ∃ p b pp, setProposal s h r pol v total signer typ = { s with proposal := p, pb := b, pbp := pp } := by
  rw [setProposal_eq]
  split
  · exact ⟨s.proposal, s.pb, s.pbp, rfl⟩
  · exact ⟨_, _, _, rfl⟩

theorem polkaUpdate_shape (s2 : St) (r : Nat) : ∃ lv lr vr vv,
    polkaUpdate s2 r (s2.pvs r) = { s2 with lockedValue := lv, lockedRound := lr, validRound := vr, validValue := vv } ∧
      ((lv = s2.lockedValue ∧ lr = s2.lockedRound) ∨ (lv = 0 ∧ Released s2.pvs s2.lockedValue s2.lockedRound s2.round)) := by
  unfold polkaUpdate
  split
  · rename_i b hb
    by_cases hc : s2.lockedValue ≠ 0 ∧ s2.lockedRound < r ∧ r ≤ s2.round ∧ s2.lockedValue ≠ b
    · rw [if_pos hc]
      have hrel : Released s2.pvs s2.lockedValue s2.lockedRound s2.round :=
        ⟨r, b, hc.2.1, hc.2.2.1, hb, fun e => hc.2.2.2 e.symm⟩
      dsimp only
      split
      · exact ⟨0, 0, _, _, rfl, Or.inr ⟨rfl, hrel⟩⟩
      · exact ⟨0, 0, s2.validRound, s2.validValue, rfl, Or.inr ⟨rfl, hrel⟩⟩
    · rw [if_neg hc]
      dsimp only
      split
      · exact ⟨s2.lockedValue, s2.lockedRound, _, _, rfl, Or.inl ⟨rfl, rfl⟩⟩
      · exact ⟨s2.lockedValue, s2.lockedRound, s2.validRound, s2.validValue, rfl, Or.inl ⟨rfl, rfl⟩⟩
  · exact ⟨s2.lockedValue, s2.lockedRound, s2.validRound, s2.validValue, rfl, Or.inl ⟨rfl, rfl⟩⟩

theorem validOnComplete_shape (s2 : St) : ∃ vr vv, validOnComplete s2 = { s2 with validRound := vr, validValue := vv } := by
  unfold validOnComplete
  split
  · split
    · exact ⟨_, _, rfl⟩
    · exact ⟨s2.validRound, s2.validValue, rfl⟩
  · exact ⟨s2.validRound, s2.validValue, rfl⟩

theorem addPart_cases {P : St → Prop} (s : St) (h pv idx : Nat) (dec : Bool) (h0 : P s)
    (h1 : ∀ ps, s.pbp = some ps → s.height = h → idx < ps.total → ps.got.contains idx = false → pv = ps.v →
      ((idx :: ps.got).length ≠ ps.total ∨ dec = false → P { s with pbp := some { ps with got := idx :: ps.got } }) ∧
      ((idx :: ps.got).length = ps.total → dec = true →
        P (blockCompleted (validOnComplete { s with pbp := some { ps with got := idx :: ps.got }, pb := ps.v }) h
          (s.pvs s.round).maj23.isSome))) :
    P (addPart s h pv idx dec) := by
  unfold addPart
  refine iteInduction (fun _ => h0) fun hh => ?_
  cases hp : s.pbp with
  | none => exact h0
  | some ps =>
    refine iteInduction (fun _ => h0) fun hi => iteInduction (fun _ => h0) fun hg => iteInduction (fun _ => h0) fun hv => ?_
    obtain ⟨hs, hc⟩ := h1 ps hp (Decidable.of_not_not hh) (Nat.lt_of_not_le hi) (Bool.eq_false_iff.2 hg) (Decidable.of_not_not hv)
    refine iteInduction (fun hl => hs (Or.inl hl)) fun hl => iteInduction (fun hd => hs (Or.inr (by simpa using hd))) fun hd => ?_
    exact hc (Decidable.of_not_not hl) (by simpa using hd)

theorem addVote_cases {P : St → Prop} (s : St) (t vh r idx v src : Nat) (ok : Bool) (h0 : P s)
    (h1 : vh = s.height → (t = tPrevote ∨ t = tPrecommit) → ∀ s2 added, recordVote s t r idx v src ok = (s2, added) →
      (added = false → P s2) ∧ (added = true → t = tPrevote → P (onPrevote (polkaUpdate s2 r (s2.pvs r)) r (s2.pvs r))) ∧
      (added = true → t = tPrecommit → P (onPrecommit s2 r (s2.pcs r)))) :
    P (addVote s t vh r idx v src ok) := by
  unfold addVote
  refine iteInduction (fun _ => h0) fun _ => iteInduction (fun _ => h0) fun hh => iteInduction (fun _ => h0) fun ht => ?_
  have ht : t = tPrevote ∨ t = tPrecommit := Decidable.or_iff_not_not_and_not.2 ht
  obtain ⟨hf, hpv, hpc⟩ := h1 (Decidable.of_not_not hh) ht (recordVote s t r idx v src ok).1 (recordVote s t r idx v src ok).2 rfl
  refine iteInduction (fun ha => hf (by simpa using ha)) fun ha => ?_
  have ha : (recordVote s t r idx v src ok).2 = true := by simpa using ha
  exact iteInduction (fun h4 => hpv ha h4) fun h4 => hpc ha (ht.resolve_left h4)

theorem enterPrevote_reached (s : St) (h r r' : Nat) (hr : Reached r s) (hrr : r ≤ r') :
    Reached r (enterPrevote s h r') :=
  enterPrevote_cases s h r' hr fun _ _ _ => Or.inr hrr

theorem enterPrecommit_reached (s : St) (h r r' : Nat) (hr : Reached r s) (hrr : r ≤ r') :
    Reached r (enterPrecommit s h r') :=
  enterPrecommit_cases s h r' hr (Or.inl rfl) fun _ _ _ _ _ _ _ => Or.inr hrr

theorem enterPropose_reached (s : St) (h r r' : Nat) (hr : Reached r s) (hrr : r ≤ r') :
    Reached r (enterPropose s h r') := by
  refine enter_cases hr fun _ => ?_
  have h3 : r ≤ (proposeCore s h r').round := by obtain ⟨_, _, e⟩ := proposeCore_shape s h r'; rw [e]; exact hrr
  exact iteInduction (fun _ => enterPrevote_reached _ h r _ (Or.inr h3) h3) fun _ => Or.inr h3

theorem enterNewRound_reached (s : St) (r : Nat) : Reached r (enterNewRound s s.height r) :=
  enterNewRound_cases s s.height r (fun c => c.imp_right fun c => c.resolve_left fun e => e rfl) (Or.inl rfl)
    fun _ vals => enterPropose_reached _ _ r r (newRoundCore_reached s r vals) (Nat.le_refl _)

theorem blockCompleted_G (s3 : St) (h : Nat) (hasMaj : Bool) : G s3 (blockCompleted s3 h hasMaj) := by
  unfold blockCompleted
  split
  · simp only
    split
    · exact G.trans (enterPrevote_G s3 h s3.round (Or.inr (Nat.le_refl _))) (enterPrecommit_G _ h _ (Or.inr (Nat.le_refl _)))
    · exact enterPrevote_G s3 h s3.round (Or.inr (Nat.le_refl _))
  split
  · exact tryFinalizeCommit_G s3 h
  · exact G.refl s3

theorem onPrevote_G (s3 : St) (r : Nat) (pv : VSet) : G s3 (onPrevote s3 r pv) := by
  unfold onPrevote
  simp only
  split
  · have g1 := enterNewRound_G s3 s3.height r
    have p1 := enterNewRound_reached s3 r
    split
    · exact G.trans g1 (enterPrecommit_G _ _ _ p1)
    · exact G.trans g1 (G.trans (enterPrevote_G _ _ _ p1) (enterPrevoteWait_G _ _ _ (enterPrevote_reached _ _ r r p1 (Nat.le_refl _))))
  · split
    · split
      · exact enterPrevote_G s3 _ s3.round (Or.inr (Nat.le_refl _))
      · exact G.refl s3
    · exact G.refl s3

theorem onPrecommit_G (s2 : St) (r : Nat) (pc : VSet) : G s2 (onPrecommit s2 r pc) := by
  unfold onPrecommit
  simp only
  have g1 := enterNewRound_G s2 s2.height r
  have p1 := enterNewRound_reached s2 r
  split
  · split
    · exact enterNewRound_G s2 s2.height (r + 1)
    · exact G.trans g1 (G.trans (enterPrecommit_G _ _ _ p1) (enterCommit_G _ _ _))
  · split
    · exact G.trans g1 (G.trans (enterPrecommit_G _ _ _ p1) (enterPrecommitWait_G _ _ _ (enterPrecommit_reached _ _ r r p1 (Nat.le_refl _))))
    · exact G.refl s2

theorem Start.of_rvs {i : In} {s x : St} (a : x.height = s.height) (b : x.round = s.round) (c : x.step = s.step)
    (d : x.lockedValue = s.lockedValue) (e : x.lockedRound = s.lockedRound) (f : x.out = []) (p : x.powers = s.powers)
    (hr : x.rvs = s.rvs) : Start i s x :=
  ⟨a, b, c, d, e, f, p, TblOK_rvs hr p, MajMono_rvs hr, Grow_rvs hr⟩

theorem Spec_of_G {i : In} {s a s' : St} (g : G a s') (st : Start i s a) : Spec i s s' := ⟨a, st, g⟩

theorem Spec_congr {i : In} {s s' x : St} (h : Spec i s' x) (a : s'.height = s.height) (b : s'.round = s.round) (c : s'.step = s.step)
    (d : s'.lockedValue = s.lockedValue) (e : s'.lockedRound = s.lockedRound) (p : s'.powers = s.powers) (hrvs : s'.rvs = s.rvs) :
    Spec i s x := by
  obtain ⟨y, st, g⟩ := h
  exact ⟨y, ⟨st.height.trans a, st.round.trans b, st.step.trans c, st.lockedValue.trans d, st.lockedRound.trans e, st.out, st.powers.trans p,
    fun ht => st.tbl (TblOK_rvs hrvs p ht), MajMono.trans (MajMono_rvs hrvs) st.maj, Grow_frame st.grow (rv_of_rvs hrvs) a (fun _ => rfl)⟩, g⟩

theorem addPart_Spec (i : In) (s : St) (h pv idx : Nat) (dec : Bool) (ho : s.out = []) : Spec i s (addPart s h pv idx dec) := by
  refine addPart_cases s h pv idx dec (Spec_of_G (G.refl _) (.of_rvs rfl rfl rfl rfl rfl ho rfl rfl)) fun ps _ _ _ _ _ =>
    ⟨fun _ => Spec_of_G (G.refl _) (.of_rvs rfl rfl rfl rfl rfl ho rfl rfl), fun _ _ => ?_⟩
  obtain ⟨vr, vv, e⟩ := validOnComplete_shape { s with pbp := some { ps with got := idx :: ps.got }, pb := ps.v }
  rw [e]
  exact Spec_of_G (blockCompleted_G _ h _) (.of_rvs rfl rfl rfl rfl rfl ho rfl rfl)

theorem addVote_Spec (s : St) (t vh r idx v src : Nat) (ok : Bool) (tot : Nat) (ho : s.out = []) :
    Spec (.vote t vh r idx v tot src ok) s (addVote s t vh r idx v src ok) := by
  refine addVote_cases s t vh r idx v src ok (Spec_of_G (G.refl _) (.of_rvs rfl rfl rfl rfl rfl ho rfl rfl)) fun hvh ht2 s2 added hrec => ?_
  subst hvh
  have hs2 : (recordVote s t r idx v src ok).1 = s2 := by rw [hrec]
  have ft := recordVote_tbl s t r idx v src ok
  have fm := recordVote_majmono s t r idx v src ok
  have fg := recordVote_grow s t r idx v src ok tot ht2
  obtain ⟨rvs, cu, esh⟩ := recordVote_shape s t r idx v src ok
  rw [hs2] at ft fm fg esh
  subst esh
  refine ⟨fun _ => Spec_of_G (G.refl _) ⟨rfl, rfl, rfl, rfl, rfl, ho, rfl, ft, fm, fg⟩, fun _ _ => ?_,
    fun _ _ => Spec_of_G (onPrecommit_G _ r _) ⟨rfl, rfl, rfl, rfl, rfl, ho, rfl, ft, fm, fg⟩⟩
  -- prevote: the state `G` starts from has the lock of `s`; the unlock by the new polka is part of the transition
  obtain ⟨lv, lr, vr, vv, em, hlock⟩ := polkaUpdate_shape { s with rvs := rvs, catchup := cu } r
  rw [em]
  refine Spec_of_G (G.trans (?_ : G { s with rvs := rvs, catchup := cu, validRound := vr, validValue := vv } _) (onPrevote_G _ r _))
    ⟨rfl, rfl, rfl, rfl, rfl, ho, rfl, fun h => TblOK_rvs rfl rfl (ft h), MajMono.trans fm (MajMono_rvs rfl),
      Grow_frame fg (fun _ => rfl) rfl (fun _ => rfl)⟩
  exact G_quiet [] rfl (fun _ => rfl) (fun _ => Nat.le_refl _) id rfl (List.append_nil _).symm (by simp) (by simp) hlock

theorem setPeerMaj_Spec (i : In) (s : St) (r t src v : Nat) (ho : s.out = []) : Spec i s (setPeerMaj s r t src v) := by
  have htb := setPeerMaj_tbl s r t src v
  have hmm := setPeerMaj_majmono s r t src v
  have hgr := setPeerMaj_grow i s r t src v
  obtain ⟨rvs, e⟩ := setPeerMaj_shape s r t src v
  rw [e] at htb hmm hgr ⊢
  exact Spec_of_G (G.refl _) ⟨rfl, rfl, rfl, rfl, rfl, ho, rfl, htb, hmm, hgr⟩

theorem stepCore_Spec (s : St) (i : In) (ht : WellTimed s i) : Spec i s (stepCore s i) := by
  unfold stepCore
  dsimp only
  split
  · exact Spec_of_G (G.refl _) (.of_rvs rfl rfl rfl rfl rfl rfl rfl rfl)
  cases i with
  | proposal h r pol v total signer typ =>
    dsimp only
    obtain ⟨p, b, pp, e2⟩ := setProposal_shape (learn { s with out := [], decided := false } v total) h r pol v total signer typ
    obtain ⟨tl, e1⟩ := learn_shape { s with out := [], decided := false } v total
    rw [e2, e1]
    exact Spec_of_G (G.refl _) (.of_rvs rfl rfl rfl rfl rfl rfl rfl rfl)
  | part h r pv idx vOK cOK dec =>
    exact Spec_congr (addPart_Spec _ _ h pv idx dec rfl) rfl rfl rfl rfl rfl rfl rfl
  | vote t h r idx v tot src ok =>
    dsimp only
    obtain ⟨tl, e1⟩ := learn_shape { s with out := [], decided := false } v tot
    rw [e1]
    exact Spec_congr (addVote_Spec _ t h r idx v src ok tot rfl) rfl rfl rfl rfl rfl rfl rfl
  | timeout h r st =>
    exact Spec_of_G (handleTimeout_G _ h r st (ht h r st rfl)) (.of_rvs rfl rfl rfl rfl rfl rfl rfl rfl)
  | txs =>
    exact Spec_of_G (enterPropose_G _ _ 0 (Or.inr (Nat.zero_le _))) (.of_rvs rfl rfl rfl rfl rfl rfl rfl rfl)
  | maj23 r t src v tot =>
    dsimp only
    obtain ⟨tl, e1⟩ := learn_shape { s with out := [], decided := false } v tot
    rw [e1]
    exact Spec_congr (setPeerMaj_Spec _ _ r t src v rfl) rfl rfl rfl rfl rfl rfl rfl

/-- what `stepCore` guarantees from a well-formed state `s`: the clauses of `G`, read on the vote tables of the end state `s'` and
the lock of `s` -/
structure StepFacts (i : In) (s s' : St) : Prop where
  wf : W s'
  height : s'.height = s.height
  powers : s'.powers = s.powers
  tbl : TblOK s → TblOK s'
  maj : MajMono s s'
  mu_le : mu s ≤ mu s'
  lock : LockEv s'.pvs s s'
  chain : Chain (mu s) s'.out (mu s')
  just : ∀ o ∈ s'.out, Just s'.pvs s'.pcs s o
  held : ∀ h r v, Out.vote tPrecommit h r v ∈ s'.out → v ≠ 0 → Held s'.pvs s' v r
  d3c : D3C s'.pvs s'.out
  grow : Grow i s s'
  timeouts : ∀ h r st, Out.timeout h r st ∈ s'.out → h = s.height ∧ r ≤ s'.round

theorem stepCore_facts (s : St) (i : In) (hw : W s) (ht : WellTimed s i) : StepFacts i s (stepCore s i) := by
  obtain ⟨a, st, g⟩ := stepCore_Spec s i ht
  generalize stepCore s i = s' at g ⊢
  have hmua : mu a = mu s := by simp [mu, st.round, st.step]
  have hwa : W a := by
    refine ⟨by rw [st.step]; exact hw.1, fun hl => ?_⟩
    rw [st.lockedValue] at hl; rw [st.lockedRound, hmua]; exact hw.2 hl
  obtain ⟨hw', hh, hrv, hmu, hlev, hpw, new, hout, hch, hj, hk, hd3, htm⟩ := g hwa
  have hpv : s'.pvs = a.pvs := pvs_eq_of_rv hrv
  have hpc : s'.pcs = a.pcs := pcs_eq_of_rv hrv
  have hout' : s'.out = new := by rw [hout, st.out]; rfl
  exact {
    wf := hw'
    height := hh.trans st.height
    powers := hpw.trans st.powers
    tbl := fun ht => TblOK_of_eq hrv hpw (st.tbl ht)
    maj := MajMono.trans st.maj (MajMono_of_rv hrv)
    mu_le := hmua ▸ hmu
    lock := fun hl => by
      have := hlev (by rw [st.lockedValue]; exact hl)
      rw [st.lockedValue, st.lockedRound] at this
      rw [hpv]; exact this
    chain := by rw [hout', ← hmua]; exact hch
    just := fun o ho => by
      have := hj o (hout' ▸ ho)
      rw [hpv, hpc]
      cases o with
      | vote t h r v => simp only [Just, st.height, st.lockedValue, st.lockedRound, hmua] at this ⊢; exact this
      | commit h r v => simp only [Just, st.height] at this ⊢; exact this
      | _ => trivial
    held := by rw [hout', hpv]; exact hk
    d3c := by rw [hout', hpv]; exact hd3
    grow := Grow_frame st.grow (fun _ => rfl) rfl hrv
    timeouts := fun h r st' hm => by rw [← st.height]; exact htm h r st' (hout' ▸ hm) }

/-- the state a height starts in (`updateToStatus` + `scheduleRound0` after the commit in `s`) -/
structure Fresh (s s' : St) : Prop where
  height : s'.height = s.height + 1
  round : s'.round = 0
  step : s'.step = sNewHeight
  unlocked : s'.lockedValue = 0
  rvs : s'.rvs = [(0, RV.empty)]
  powers : s'.powers = s.powers
  out : s'.out = s.out ++ [.timeout (s.height + 1) 0 sNewHeight]

/-- after `stepCore`: no height switch, or one that fails (no proposer: the node dies), or the next height starts -/
theorem step_cases (s : St) (i : In) :
    (∃ d, step s i = { stepCore s i with dead := d }) ∨ Fresh (stepCore s i) (step s i) := by
  unfold step
  dsimp only
  split
  · unfold newHeight
    split
    · exact Or.inl ⟨true, rfl⟩
    · exact Or.inr ⟨rfl, rfl, rfl, rfl, rfl, rfl, rfl⟩
  · exact Or.inl ⟨_, rfl⟩

theorem step_W (s : St) (i : In) (hw : W s) (ht : WellTimed s i) : W (step s i) := by
  rcases step_cases s i with ⟨d, e⟩ | f
  · rw [e]; exact (stepCore_facts s i hw ht).wf
  · exact ⟨by rw [f.step]; decide, fun hl => absurd f.unlocked hl⟩

theorem initSt_W (me : Nat) (powers : List Nat) (maxParts h : Nat) (vals : Model.ValSet.VS) : W (initSt me powers maxParts h vals) := by
  simp [W, initSt, sNewHeight]

/-- **node_precommit_needs_polka**: a precommit for a block `v` at `(h, r)` is emitted only when the node's own prevote table
of round `r` has a +2/3 majority recorded for `v` (`maj23`; `maj23_has_quorum` turns that into power `> 2/3`) -/
theorem node_precommit_needs_polka (s : St) (i : In) (hw : W s) (ht : WellTimed s i) (h r v : Nat)
    (hm : Out.vote tPrecommit h r v ∈ (stepCore s i).out) (hv : v ≠ 0) :
    h = s.height ∧ ((stepCore s i).pvs r).maj23 = some v := by
  obtain ⟨hh, _, hp, _⟩ := (stepCore_facts s i hw ht).just _ hm
  exact ⟨hh, hp rfl hv⟩

/-- **node_commit_needs_precommits**: a block is committed only with a +2/3 majority of precommits for it in the commit round -/
theorem node_commit_needs_precommits (s : St) (i : In) (hw : W s) (ht : WellTimed s i) (h r v : Nat)
    (hm : Out.commit h r v ∈ (stepCore s i).out) :
    h = s.height ∧ v ≠ 0 ∧ ((stepCore s i).pcs r).maj23 = some v :=
  (stepCore_facts s i hw ht).just _ hm

/-- **node_prevote_respects_lock** — the code's actual condition: a node that enters the step locked on `b` at round `lr`
prevotes `b`, unless its prevote table has a +2/3 majority for something else (another block or nil) at a round in
`(lr, r]`, `r` the round of the prevote (`addVote`'s unlock `LockedRound < vote.Round ≤ cs.Round`, `enterPrecommit`'s unlock/re-lock) -/
theorem node_prevote_respects_lock (s : St) (i : In) (hw : W s) (ht : WellTimed s i) (h r v : Nat)
    (hm : Out.vote tPrevote h r v ∈ (stepCore s i).out) (hl : s.lockedValue ≠ 0) :
    v = s.lockedValue ∨ Released (stepCore s i).pvs s.lockedValue s.lockedRound r :=
  ((stepCore_facts s i hw ht).just _ hm).2.2.2 rfl hl

/-- **node_lock_monotone** — what the code does with a lock within a height: the locked block stays and the locked round does
not decrease, except by a +2/3 prevote majority for something else at a LATER round (up to the current one).  (`LockedRound`
is reset to 0, not -1, on unlock: with the block gone that value is never compared.) -/
theorem node_lock_monotone (s : St) (i : In) (hw : W s) (ht : WellTimed s i) (hl : s.lockedValue ≠ 0) :
    ((stepCore s i).lockedValue = s.lockedValue ∧ s.lockedRound ≤ (stepCore s i).lockedRound) ∨
      Released (stepCore s i).pvs s.lockedValue s.lockedRound (stepCore s i).round :=
  (stepCore_facts s i hw ht).lock hl

theorem step_height (s : St) (i : In) (hw : W s) (ht : WellTimed s i) :
    ((step s i).height = s.height ∧ mu s ≤ mu (step s i)) ∨ (step s i).height = s.height + 1 := by
  have hs := stepCore_facts s i hw ht
  rcases step_cases s i with ⟨d, e⟩ | f
  · rw [e]; exact Or.inl ⟨hs.height, hs.mu_le⟩
  · rw [f.height, hs.height]; exact Or.inr rfl

def Good (s : St) : Prop := W s ∧ TblOK s

theorem rv_fresh {x : St} (hx : x.rvs = [(0, RV.empty)]) (q : Nat) : x.rv q = RV.empty := by
  simp only [St.rv, hx, alookup]; split <;> rfl

theorem TblOK_fresh (x : St) (hx : x.rvs = [(0, RV.empty)]) : TblOK x := by
  intro q
  simp only [St.pvs, St.pcs, rv_fresh hx]
  exact ⟨VOK_empty _, VOK_empty _⟩

theorem initSt_Good (me : Nat) (powers : List Nat) (maxParts h : Nat) (vals : Model.ValSet.VS) : Good (initSt me powers maxParts h vals) :=
  ⟨initSt_W _ _ _ _ _, TblOK_fresh _ rfl⟩

theorem step_Good (s : St) (i : In) (hg : Good s) (ht : WellTimed s i) : Good (step s i) := by
  refine ⟨step_W s i hg.1 ht, ?_⟩
  have ht' : TblOK (stepCore s i) := (stepCore_facts s i hg.1 ht).tbl hg.2
  rcases step_cases s i with ⟨d, e⟩ | f
  · rw [e]; exact ht'
  · exact TblOK_fresh _ f.rvs

theorem stepCore_tables (s : St) (i : In) (hg : Good s) (ht : WellTimed s i) (q : Nat) :
    VOK s.powers ((stepCore s i).pvs q) ∧ VOK s.powers ((stepCore s i).pcs q) := by
  have hs := stepCore_facts s i hg.1 ht
  rw [← hs.powers]; exact hs.tbl hg.2 q

/-- **node_precommit_needs_polka, full strength**: in a reachable state, a precommit for block `v` at `(h, r)` is emitted only when
the node's own prevote table of round `r` holds votes for `v` from distinct validators with MORE THAN two thirds of the power -/
theorem node_precommit_has_two_thirds (s : St) (i : In) (hg : Good s) (ht : WellTimed s i) (h r v : Nat)
    (hm : Out.vote tPrecommit h r v ∈ (stepCore s i).out) (hv : v ≠ 0) :
    ∃ who : List Nat, who.Nodup ∧ (∀ j ∈ who, j < s.powers.length) ∧
      (∃ bv, alookup ((stepCore s i).pvs r).byBlock v = some bv ∧ bv.who = who) ∧ 3 * powSum s.powers who > 2 * s.powers.sum :=
  maj23_has_quorum (stepCore_tables s i hg ht r).1 (node_precommit_needs_polka s i hg.1 ht h r v hm hv).2

/-- **node_commit_needs_precommits, full strength**: a block is committed only when the node's own precommit table of the commit
round holds precommits for it from distinct validators with more than two thirds of the power -/
theorem node_commit_has_two_thirds (s : St) (i : In) (hg : Good s) (ht : WellTimed s i) (h r v : Nat)
    (hm : Out.commit h r v ∈ (stepCore s i).out) :
    v ≠ 0 ∧ ∃ who : List Nat, who.Nodup ∧ (∀ j ∈ who, j < s.powers.length) ∧
      (∃ bv, alookup ((stepCore s i).pcs r).byBlock v = some bv ∧ bv.who = who) ∧ 3 * powSum s.powers who > 2 * s.powers.sum := by
  obtain ⟨_, hv, hmaj⟩ := node_commit_needs_precommits s i hg.1 ht h r v hm
  exact ⟨hv, maj23_has_quorum (stepCore_tables s i hg ht r).2 hmaj⟩

/-- the L-A rules (`Model.Protocol.eventOk`: d0/d1 slot discipline, d2 polka before precommit, d3 lock, d4 quorum before decide)
restated for ONE node against its OWN state: `s` = state the step starts from, `pvs`/`pcs` = its vote tables when the step ends -/
def Allowed (s : St) (pvs pcs : Nat → VSet) : Out → Prop
  | .vote t h r v =>
      h = s.height ∧
      -- d0 + d1: the vote's slot is strictly above everything the node has been through
      mu s < r * 16 + (if t = tPrevote then 4 else 6) ∧
      -- d2
      (t = tPrecommit → v ≠ 0 → (pvs r).maj23 = some v) ∧
      -- d3 (against the lock the node holds; the lock is what remembers its earlier precommit)
      (t = tPrevote → s.lockedValue ≠ 0 → v = s.lockedValue ∨ Released pvs s.lockedValue s.lockedRound r)
  | .commit h r v => h = s.height ∧ v ≠ 0 ∧ (pcs r).maj23 = some v   -- d4
  | _ => True

/-- **node_refines_protocol** (node-local form): every output of a step is allowed by the protocol rules evaluated on the node's
own vote tables, the slots of the votes of one step strictly increase, and the lock evolves only by the unlock rule.  Together with
`node_votes_once` (d0/d1 along runs), `node_prevote_respects_precommits` (d3 against the node's own earlier precommits) and
`node_precommit_has_two_thirds` / `node_commit_has_two_thirds` (d2/d4 with real power sums) this is the discipline of L-A read on the
node's own tables; the link to `Model.Protocol.disciplined` over a GLOBAL history is `node_models_disciplined` (Props/C01System). -/
theorem node_refines_protocol (s : St) (i : In) (hw : W s) (ht : WellTimed s i) :
    (∀ o ∈ (stepCore s i).out, Allowed s (stepCore s i).pvs (stepCore s i).pcs o) ∧
    Chain (mu s) (stepCore s i).out (mu (stepCore s i)) ∧
    (s.lockedValue ≠ 0 → ((stepCore s i).lockedValue = s.lockedValue ∧ s.lockedRound ≤ (stepCore s i).lockedRound) ∨
        Released (stepCore s i).pvs s.lockedValue s.lockedRound (stepCore s i).round) := by
  have hs := stepCore_facts s i hw ht
  refine ⟨fun o ho => ?_, hs.chain, hs.lock⟩
  have := hs.just o ho
  cases o <;> exact this

def outs (s : St) : List In → List Out
  | [] => []
  | i :: rest => (step s i).out ++ outs (step s i) rest

def Timed (s : St) : List In → Prop
  | [] => True
  | i :: rest => WellTimed s i ∧ Timed (step s i) rest

/-- at most one value per vote slot `(type, height, round)` -/
def Once (hist : List Out) : Prop :=
  ∀ t h r v v', Out.vote t h r v ∈ hist → Out.vote t h r v' ∈ hist → v = v'

/-- all votes so far are below the node's current `(height, round, step)` -/
def Below (s : St) (hist : List Out) : Prop :=
  ∀ t h r v, Out.vote t h r v ∈ hist → h < s.height ∨ (h = s.height ∧ r * 16 + (if t = tPrevote then 4 else 6) ≤ mu s)

/-- every own precommit for a block at the current height is still held (`Held`) by the state -/
def PrecommitsHeld (s : St) (hist : List Out) : Prop :=
  ∀ h r b, Out.vote tPrecommit h r b ∈ hist → b ≠ 0 → h = s.height → Held s.pvs s b r

/-- every timeout the node has scheduled is for a height it has reached and, at its current height, for a round it has reached -/
def TimeoutsOK (s : St) (log : List Out) : Prop :=
  ∀ h r st, Out.timeout h r st ∈ log → h < s.height ∨ (h = s.height ∧ r ≤ s.round)

theorem Chain_inj {l : List Out} {a b : Nat} (hc : Chain a l b) {o o' : Out} {k : Nat} (ho : o ∈ l) (ho' : o' ∈ l)
    (hk : stamp o = some k) (hk' : stamp o' = some k) : o = o' := by
  have hp := List.pairwise_filterMap.1 (Chain_iff.1 hc).1
  exact List.Pairwise.forall_of_forall_of_flip (R := fun x y => ∀ k, stamp x = some k → stamp y = some k → x = y) (fun _ _ _ _ _ => rfl)
    (hp.imp fun h k h1 h2 => absurd (h k h1 k h2) (Nat.lt_irrefl k)) (hp.imp fun h k h1 h2 => absurd (h k h2 k h1) (Nat.lt_irrefl k))
    ho ho' k hk hk'

/-- what a node's outputs so far (`log`) say about its state: the invariant of the runs -/
structure LogOK (s : St) (log : List Out) : Prop where
  wf : W s
  below : Below s log
  once : Once log
  held : PrecommitsHeld s log
  tmo : TimeoutsOK s log

theorem LogOK.nil {s : St} (hw : W s) : LogOK s [] :=
  ⟨hw, fun _ _ _ _ hm => absurd hm List.not_mem_nil, fun _ _ _ _ _ hm => absurd hm List.not_mem_nil, fun _ _ _ hm => absurd hm List.not_mem_nil,
    fun _ _ _ hm => absurd hm List.not_mem_nil⟩

theorem LogOK.core {s : St} {log : List Out} (p : LogOK s log) {i : In} (ht : WellTimed s i) :
    LogOK (stepCore s i) (log ++ (stepCore s i).out) := by
  have f := stepCore_facts s i p.wf ht
  have hh := f.height
  have hmu := f.mu_le
  have hr : s.round ≤ (stepCore s i).round := round_le_of_mu hmu f.wf.1
  have hnew : ∀ t h r v, Out.vote t h r v ∈ (stepCore s i).out →
      h = s.height ∧ mu s < r * 16 + (if t = tPrevote then 4 else 6) ∧ r * 16 + (if t = tPrevote then 4 else 6) ≤ mu (stepCore s i) :=
    fun t h r v hm => ⟨(f.just _ hm).1, (f.just _ hm).2.1, (Chain_mem f.chain hm rfl).2⟩
  refine ⟨f.wf, fun t h r v hm => ?_, fun t h r v v' h1 h2 => ?_, fun h r b hm hb0 hh' => ?_, fun h r st hm => ?_⟩
  · rcases List.mem_append.1 hm with hm | hm
    · have := p.below _ _ _ _ hm; omega
    · have := hnew _ _ _ _ hm; omega
  · rcases List.mem_append.1 h1 with h1 | h1 <;> rcases List.mem_append.1 h2 with h2 | h2
    · exact p.once t h r v v' h1 h2
    · have := hnew _ _ _ _ h2; have := p.below _ _ _ _ h1; omega
    · have := hnew _ _ _ _ h1; have := p.below _ _ _ _ h2; omega
    · cases Chain_inj f.chain h1 h2 (k := r * 16 + (if t = tPrevote then 4 else 6)) rfl rfl
      rfl
  · rcases List.mem_append.1 hm with hm | hm
    · exact held_chain hb0 ((p.held h r b hm hb0 (hh'.trans hh)).imp id (Released.of_majMono f.maj)) f.lock hr
    · exact f.held h r b hm hb0
  · rcases List.mem_append.1 hm with hm | hm
    · have := p.tmo h r st hm; omega
    · have := f.timeouts h r st hm; omega

theorem LogOK.of_step {s : St} {log : List Out} (p : LogOK s log) {i : In} (ht : WellTimed s i) :
    LogOK (step s i) (log ++ (step s i).out) := by
  have c := p.core ht
  rcases step_cases s i with ⟨d, e⟩ | f
  · rw [e]; exact ⟨c.wf, c.below, c.once, c.held, c.tmo⟩
  -- a new height: no vote so far is for it
  have e := f.height
  have hv : ∀ {t h r v}, Out.vote t h r v ∈ log ++ (step s i).out → Out.vote t h r v ∈ log ++ (stepCore s i).out := fun hm => by
    rw [f.out] at hm; simpa using hm
  refine ⟨step_W s i p.wf ht, fun t h r v hm => ?_, fun t h r v v' h1 h2 => c.once t h r v v' (hv h1) (hv h2), fun h r b hm _ hh' => ?_,
    fun h r st hm => ?_⟩
  · have := c.below _ _ _ _ (hv hm); omega
  · have := c.below _ _ _ _ (hv hm); omega
  · rw [f.out, ← List.append_assoc] at hm
    rcases List.mem_append.1 hm with hm | hm
    · have := c.tmo h r st hm; omega
    · cases List.mem_singleton.1 hm; exact Or.inr ⟨e.symm, Nat.zero_le _⟩

theorem LogOK.of_run : ∀ (is : List In) {s : St} {log : List Out}, LogOK s log → Timed s is → LogOK (run s is) (log ++ outs s is)
  | [], _, _, p, _ => by simpa [outs, run] using p
  | i :: rest, _, _, p, ht => by simpa [outs, run, List.append_assoc] using LogOK.of_run rest (p.of_step ht.1) ht.2

theorem run_Good : ∀ (is : List In) (s : St), Good s → Timed s is → Good (run s is)
  | [], _, hg, _ => hg
  | i :: rest, s, hg, ht => run_Good rest (step s i) (step_Good s i hg ht.1) ht.2

/-- **node_votes_once**: along any run (timeouts well-timed) from a well-formed state that has not voted yet, the node never
emits two different prevotes, or two different precommits, for the same height and round -/
theorem node_votes_once (s : St) (is : List In) (hw : W s) (ht : Timed s is) (t h r v v' : Nat)
    (h1 : Out.vote t h r v ∈ outs s is) (h2 : Out.vote t h r v' ∈ outs s is) : v = v' :=
  ((LogOK.nil hw).of_run is ht).once t h r v v' (List.mem_append_right _ h1) (List.mem_append_right _ h2)

/-- d3 in state form: the invariant `PrecommitsHeld` is all that is needed of the past -/
theorem prevote_respects_held (s : St) (i : In) (hw : W s) (ht : WellTimed s i) (log : List Out) (hheld : PrecommitsHeld s log)
    (h r0 b r' v : Nat) (hpc : Out.vote tPrecommit h r0 b ∈ log) (hb0 : b ≠ 0)
    (hpv : Out.vote tPrevote h r' v ∈ (stepCore s i).out) : v = b ∨ Released (stepCore s i).pvs b r0 r' := by
  have hs := stepCore_facts s i hw ht
  obtain ⟨hh, hst, _, hlk⟩ := hs.just _ hpv
  exact held_prevote hb0 ((hheld h r0 b hpc hb0 hh).imp id (Released.of_majMono hs.maj)) (hlk rfl) (round_le_of_prevote hst)

/-- **node_prevote_respects_precommits** (d3 as L-A states it, on the node's own tables): after a run from a well-formed state that
has not voted yet, if the node has precommitted block `b` at `(h, r0)` and now prevotes `v` at `(h, r')`, then `v = b`, or its
prevote table holds a +2/3 majority for something other than `b` at a round in `(r0, r']` -/
theorem node_prevote_respects_precommits (s0 : St) (is : List In) (i : In) (hw : W s0) (ht : Timed s0 is)
    (hti : WellTimed (run s0 is) i) (h r0 b r' v : Nat)
    (hpc : Out.vote tPrecommit h r0 b ∈ outs s0 is) (hb0 : b ≠ 0)
    (hpv : Out.vote tPrevote h r' v ∈ (stepCore (run s0 is) i).out) :
    v = b ∨ Released (stepCore (run s0 is) i).pvs b r0 r' := by
  have p := (LogOK.nil hw).of_run is ht
  exact prevote_respects_held _ i p.wf hti _ p.held h r0 b r' v (List.mem_append_right _ hpc) hb0 hpv

def wellTimedB (s : St) : In → Bool
  | .timeout h r _ => decide (h ≠ s.height ∨ r ≤ s.round)
  | _ => true

def timedB (s : St) : List In → Bool
  | [] => true
  | i :: rest => wellTimedB s i && timedB (step s i) rest

theorem wellTimed_of_B {s : St} {i : In} (h : wellTimedB s i = true) : WellTimed s i := by
  intro h' r st e hh; subst e
  simp only [wellTimedB, decide_eq_true_eq] at h
  rcases h with h | h
  · exact absurd hh h
  · exact h

theorem timed_of_B : ∀ (is : List In) (s : St), timedB s is = true → Timed s is
  | [], _, _ => trivial
  | i :: rest, s, h => by
    simp only [timedB, Bool.and_eq_true] at h
    exact ⟨wellTimed_of_B h.1, timed_of_B rest _ h.2⟩

/-- four validators of power 1 (validator 1 proposes round 0 of height 1), the node is validator 0 -/
def exVals : Model.ValSet.VS :=
  { vals := [⟨0, 1, 1⟩, ⟨1, 1, -3⟩, ⟨2, 1, 1⟩, ⟨3, 1, 1⟩], proposer := some 1 }

def exInit : St := initSt 0 [1, 1, 1, 1] 673 1 exVals

/-- height 1, happy path: proposal for block 7 by validator 1, its single part, three prevotes, three precommits -/
def exRun : List In :=
  [ .timeout 1 0 sNewHeight,
    .proposal 1 0 (-1) 7 1 1 32,
    .part 1 0 7 0 true true true,
    .vote tPrevote 1 0 0 7 1 0 true, .vote tPrevote 1 0 1 7 1 1 true, .vote tPrevote 1 0 2 7 1 2 true,
    .vote tPrecommit 1 0 0 7 1 0 true, .vote tPrecommit 1 0 1 7 1 1 true, .vote tPrecommit 1 0 2 7 1 2 true ]

/-- non-vacuity: a concrete 4-validator run through the model prevotes, locks, precommits and commits block 7 and moves to height 2;
its hypotheses `W`, `Timed` hold -/
theorem exRun_outs : outs exInit exRun =
    [ .timeout 1 0 sPropose, .vote tPrevote 1 0 7, .vote tPrecommit 1 0 7, .commit 1 0 7, .timeout 2 0 sNewHeight ] := by decide

theorem exRun_final : (run exInit exRun).height = 2 ∧ (run exInit exRun).step = sNewHeight ∧ (run exInit exRun).lockedValue = 0 := by decide

theorem exRun_timed : W exInit ∧ Timed exInit exRun := ⟨initSt_W _ _ _ _ _, timed_of_B _ _ (by decide)⟩

example : ∃ s is, W s ∧ Timed s is ∧ Out.vote tPrecommit 1 0 7 ∈ outs s is ∧ Out.commit 1 0 7 ∈ outs s is :=
  ⟨exInit, exRun, exRun_timed.1, exRun_timed.2, by rw [exRun_outs]; decide, by rw [exRun_outs]; decide⟩

/-- lock carried into the next round: after the polka and its own precommit for 7 at round 0 the node sees +2/3 nil precommits,
moves to round 1 and, on the propose timeout, prevotes the block it is locked on -/
def exLockRun : List In :=
  [ .timeout 1 0 sNewHeight,
    .proposal 1 0 (-1) 7 1 1 32,
    .part 1 0 7 0 true true true,
    .vote tPrevote 1 0 0 7 1 0 true, .vote tPrevote 1 0 1 7 1 1 true, .vote tPrevote 1 0 2 7 1 2 true,
    .vote tPrecommit 1 0 1 0 0 1 true, .vote tPrecommit 1 0 2 0 0 2 true, .vote tPrecommit 1 0 3 0 0 3 true,
    .timeout 1 1 sPropose ]

theorem exLockRun_votes : (outs exInit exLockRun).filter (fun o => match o with | .vote .. => true | _ => false) =
    [ .vote tPrevote 1 0 7, .vote tPrecommit 1 0 7, .vote tPrevote 1 1 7 ] := by decide

theorem exLockRun_lock : (run exInit exLockRun).lockedValue = 7 ∧ (run exInit exLockRun).lockedRound = 0 ∧ (run exInit exLockRun).round = 1 := by decide

example : ∃ s0 is i h r0 b r' v, W s0 ∧ Timed s0 is ∧ WellTimed (run s0 is) i ∧ Out.vote tPrecommit h r0 b ∈ outs s0 is ∧ b ≠ 0 ∧
    Out.vote tPrevote h r' v ∈ (stepCore (run s0 is) i).out ∧ r0 < r' :=
  ⟨exInit, exLockRun.take 9, .timeout 1 1 sPropose, 1, 0, 7, 1, 7, initSt_W _ _ _ _ _, timed_of_B _ _ (by decide),
    wellTimed_of_B (by decide), by decide, by decide, by decide, by decide⟩

/-- the discipline WITHOUT the timing hypothesis, as a statement -/
def node_votes_once_untimed_statement : Prop := ∀ (s : St) (is : List In), W s → Once (outs s is)

/-- a timeout for a FUTURE round (which the real ticker never produces) makes the node prevote twice in its current round:
`enterPrevote(height, round)` signs with `cs.Round`, not with `round`.  Round 0: prevote nil on the propose timeout, then the block
arrives, then a propose timeout "of round 1" -/
def exUntimed : List In :=
  [ .timeout 1 0 sNewHeight, .timeout 1 0 sPropose, .proposal 1 0 (-1) 7 1 1 32, .part 1 0 7 0 true true true, .timeout 1 1 sPropose ]

theorem votes_once_needs_timed : ¬ node_votes_once_untimed_statement := by
  intro h
  have := h exInit exUntimed (initSt_W _ _ _ _ _) tPrevote 1 0 0 7 (by decide) (by decide)
  exact absurd this (by decide)

end Props.C01Node
