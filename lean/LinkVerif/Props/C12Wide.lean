/-
C12: the API around identity and reassembly that the widened streams drive.
 * every leaf the reflection sweep visits in `types.Header` is classified (regenerated field lists),
 * `Commit.ValidateBasic` accepts only homogeneous precommit sets,
 * a valid `TxProof` pins the transaction hash at its index (from `verify_sound`),
 * the reassembly sites of fast sync, consensus and the block store are the vetted ones (T2),
 * why the part key needs its separator (kernel-checked collision of the separator-free format).
-/
import LinkVerif.Model.BlockApi
import LinkVerif.Props.C12Merkle

namespace Props.C12
open Model.Merkle Model.PartSet Model.BlockId Model.BlockApi

/-- every leaf of `types.Header` (nested `LastBlockID` fields included) is hashed, or vetted parts-only, or
vetted local-only; a new or renamed field makes the expected effect `"??"` and breaks this -/
theorem header_leaves_classified :
    ∀ l ∈ headerLeaves, leafEffect l.1 = "11" ∨ (leafEffect l.1 = "01" ∧ l = ("Recover", [])) ∨ (leafEffect l.1 = "00" ∧ l = ("bloom", [])) := by decide +kernel

/-- the sweep visits 21 leaves today: 17 hashed fields (LastBlockID counted through its 3 leaves), Recover, bloom -/
example : headerLeaves.length = 21 ∧ (headerLeaves.filter (fun l => leafEffect l.1 == "11")).length = 19 := by decide +kernel

theorem commitValid_go_ok {h r : Nat} {vs : List (Option SVote)} (hok : commitValid.go h r vs = "ok") :
    ∀ sv, some sv ∈ vs → sv.isPrecommit = true ∧ sv.height = h ∧ sv.round = r := by
  intro sv hm
  induction vs with
  | nil => cases hm
  | cons v rest ih =>
    cases v with
    | none =>
      rcases List.mem_cons.mp hm with h1 | h1
      · cases h1
      · exact ih hok h1
    | some w =>
      simp only [commitValid.go] at hok
      by_cases h1 : (!w.isPrecommit) = true
      · rw [if_pos h1] at hok
        simp at hok
      by_cases h2 : w.height ≠ h
      · rw [if_neg h1, if_pos h2] at hok
        simp at hok
      by_cases h3 : w.round ≠ r
      · rw [if_neg h1, if_neg h2, if_pos h3] at hok
        simp at hok
      rw [if_neg h1, if_neg h2, if_neg h3] at hok
      rcases List.mem_cons.mp hm with e | e
      · cases e
        exact ⟨by simpa using h1, Decidable.not_not.mp h2, Decidable.not_not.mp h3⟩
      · exact ih hok e

/-- a commit that `ValidateBasic` accepts is for a block, is not empty, and all its present votes are
precommits of ONE height and ONE round (those of the first present vote) -/
theorem commitValid_ok (zero : Bool) (vs : List (Option SVote)) (h : commitValid zero vs = "ok") :
    zero = false ∧ vs ≠ [] ∧ ∀ sv, some sv ∈ vs → sv.isPrecommit = true ∧ sv.height = commitHeight vs ∧ sv.round = commitRound vs := by
  unfold commitValid at h
  split at h
  · simp at h
  · rename_i hz
    split at h
    · simp at h
    · rename_i he
      exact ⟨by simpa using hz, fun e => he (List.isEmpty_iff.mpr e), commitValid_go_ok h⟩

example : commitValid false [none, some ⟨true, 4, 0⟩, some ⟨true, 4, 0⟩] = "ok" ∧
    commitValid false [some ⟨true, 4, 0⟩, some ⟨false, 4, 0⟩] = "type" ∧
    commitValid false [some ⟨true, 4, 0⟩, some ⟨true, 5, 0⟩] = "height" ∧
    commitValid false [none, some ⟨true, 4, 1⟩, some ⟨true, 4, 0⟩] = "round" ∧
    commitValid true [some ⟨true, 4, 0⟩] = "nilblock" ∧ commitValid false [] = "noprecommits" ∧
    commitValid false [none, none] = "ok" := by decide +kernel

/-- a proof that `TxProof.Validate(dataHash)` accepts, whose claimed total is the real number of
transactions, pins the transaction hash at the claimed index of the list `dataHash` is the root of.
(For a claimed total different from the real one the statement is outside `verify_sound`; such proofs are
compared with the model only.) -/
theorem txproof_sound (hinj : Inj2 h2K) (txHashes : List Bytes) (index : Int) (leafHash : Bytes) (aunts : List Bytes)
    (h : txProofValid (root h2K txHashes) (root h2K txHashes) index txHashes.length leafHash aunts = "ok") :
    0 ≤ index ∧ txHashes[index.toNat]? = some leafHash := by
  unfold txProofValid at h
  rw [if_neg (by simp)] at h
  split at h
  · simp at h
  · split at h
    · simp at h
    · split at h
      · rename_i hv
        exact verify_sound h2K hinj txHashes index leafHash aunts hv
      · simp at h

/-- fast sync rebuilds the part set of the downloaded block itself and checks the NEXT block's `LastCommit`
against `BlockID{first.Hash(), firstParts.Header()}`; consensus decodes the proposal block only from a part set
that just became complete; the store keys a part by height AND index with a separator, loads exactly
`PartsHeader.Total` parts and saves only complete sets. -/
theorem reassembly_sites_vetted :
    Gen.BlockId.reassemblySites =
      [("fastsync.firstParts", "firstParts := first.MakePartSet(status.ConsensusParams.BlockPartSizeBytes)"),
       ("fastsync.firstPartsHeader", "firstPartsHeader := firstParts.Header()"),
       ("fastsync.firstID", "firstID := types.BlockID{first.Hash(), firstPartsHeader}"),
       ("fastsync.VerifyCommit", "status.Validators.VerifyCommit(chainID, firstID, first.Height, second.LastCommit)"),
       ("consensus.decodeWhen", "added && cs.ProposalBlockParts.IsComplete()"),
       ("consensus.decodeFrom", "ser.DecodeReader(cs.ProposalBlockParts.GetReader(), &cs.ProposalBlock, int64(cs.status.ConsensusParams.BlockSize.MaxBytes))"),
       ("store.partKey", "fmt.Sprintf(\"BP:%v:%v\", height, partIndex)"),
       ("store.loadBlockLoop", "i < blockMeta.BlockID.PartsHeader.Total"),
       ("store.saveLoop", "i < blockParts.Total()"),
       ("store.saveComplete", "!blockParts.IsComplete()")] := rfl

/-- decimal rendering, as `%v` of an integer -/
def dec (n : Nat) : List Char := (Nat.toDigits 10 n)

/-- the part key without its separator is NOT injective: (height 1, part 11) and (height 11, part 1) collide;
this is the seeded defect `blockpart-key-no-separator` that the store stream (heights 1..13+, 13+ parts each)
exists for -/
theorem partkey_without_separator_collides : dec 1 ++ dec 11 = dec 11 ++ dec 1 ∧ (1, 11) ≠ (11, 1) := by decide

example : dec 1 ++ [':'] ++ dec 11 ≠ dec 11 ++ [':'] ++ dec 1 := by decide

end Props.C12
