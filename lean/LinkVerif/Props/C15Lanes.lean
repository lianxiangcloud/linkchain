import LinkVerif.Props.C15Cache

/-!
# C15 — part 6: the special lane, queue caps, eviction and timeouts (the removal steps around the core pool functions)

* `capAccount_inv`, `capAll_inv`, `evictAll_inv`: the per-account cap of `promoteExecutables` (RemoveFutureTx) and the
  eviction tick only remove queued entries: the pool invariant (hence every clause about what is OFFERED) is untouched —
  eviction cannot open a nonce gap in what is offered;
* `update_dropTimedOut_inv`: `filterTxs` dropping every pending transaction older than GoodTxDropTime, followed by the rest of
  Update, re-establishes the invariant;
* `specRecheck_run`: what `recheckSpecTxs` keeps in the special lane executes in order from the committed multi-sign nonce;
  `specRun_append_due`: appending the due nonce keeps the lane executable (admission);
* `reapS_nil`: with an empty special lane `Reap` is the two-lane `reap` all other theorems are about; `reapS_shape`: the lanes
  are offered in the order good ++ utxo ++ special, each as a prefix.
-/
namespace Props.C15
open Model.Ledger Model.Mempool

theorem capAccount_inv {p : Pool} (a k : Nat) (h : Inv p) : Inv (capAccount p a k) ∧ (capAccount p a k).good = p.good ∧
    (capAccount p a k).utxo = p.utxo ∧ (∀ e ∈ (capAccount p a k).fut, e ∈ p.fut) ∧
    (∀ e ∈ p.fut, e.t.from_ ≠ a → e ∈ (capAccount p a k).fut) := by
  unfold capAccount
  simp only []
  refine ⟨⟨h.path, h.gkind, fun e he => h.fkind e (List.mem_filter.mp he).1, h.ukind, h.imgs, h.nodup, h.fresh, h.good.1,
    fun e he => h.good.2 e (List.mem_filter.mp he).1⟩, trivial, trivial, fun e he => (List.mem_filter.mp he).1, ?_⟩
  intro e he hne
  refine List.mem_filter.mpr ⟨he, ?_⟩
  have : (e.t.from_ == a) = false := by simpa using hne
  simp [this]

theorem capAll_inv {p : Pool} (k : Nat) (h : Inv p) : ∀ n, Inv (capAll p k n) ∧ (capAll p k n).good = p.good ∧ (capAll p k n).utxo = p.utxo := by
  intro n
  induction n with
  | zero => exact ⟨h, rfl, rfl⟩
  | succ n ih =>
    unfold capAll
    obtain ⟨hi, hg, hu, _⟩ := capAccount_inv n k ih.1
    exact ⟨hi, hg.trans ih.2.1, hu.trans ih.2.2⟩

theorem evictAll_inv {p : Pool} (h : Inv p) : Inv (evictAll p) ∧ (evictAll p).good = p.good ∧ (evictAll p).utxo = p.utxo :=
  ⟨⟨h.path, h.gkind, List.forall_mem_nil _, h.ukind, h.imgs, h.nodup, h.fresh, h.good.1, List.forall_mem_nil _⟩, rfl, rfl⟩

/-- what is offered is untouched by the cap (and by the eviction: `evictAll` changes the queue and the cache only,
`evictAll_inv`) -/
theorem reap_capAll {p : Pool} (k n max : Nat) (h : Inv p) : reap (capAll p k n) max = reap p max := by
  have := capAll_inv k h n
  have hcfg : ∀ n, (capAll p k n).cfg = p.cfg := by
    intro n; induction n with
    | zero => rfl
    | succ n ih => unfold capAll capAccount; exact ih
  unfold reap
  rw [this.2.1, this.2.2, hcfg]

/-- `filterTxs` with every pending transaction timed out, then the rest of Update: the invariant holds again -/
theorem update_dropTimedOut_inv {p : Pool} (h : Inv p) (c' : St) (ids : List Nat) : Inv (update (dropTimedOut p ids) c' ids) := by
  refine (update_inv_of ?_ ?_ ?_ c' ids).1
  · intro e he; have := (List.mem_filter.mp he).1; exact ⟨h.gkind e this, h.good.1 e this⟩
  · intro e he; exact h.ukind e (List.mem_filter.mp he).1
  · intro e he; exact ⟨h.fkind e he, h.good.2 e he⟩

/-! ## the special lane -/

/-- what `recheckSpecTxs` keeps executes, in order, from the committed multi-sign nonce -/
theorem specRecheck_run : ∀ (l : List E) (n : Nat), specRun n ((specRecheck n l).1.map (·.t)) = some (specRecheck n l).2 := by
  intro l
  induction l with
  | nil => intro n; rfl
  | cons e r ih =>
    intro n
    unfold specRecheck
    split
    · rename_i hn
      simp only [List.map_cons]
      unfold specRun
      simp [hn, ih (n + 1)]
    · exact ih n

theorem specRun_append (n : Nat) (l₁ l₂ : List TxRec) : specRun n (l₁ ++ l₂) = (specRun n l₁).bind (specRun · l₂) := by
  induction l₁ generalizing n with
  | nil => rfl
  | cons x r ih =>
    rw [List.cons_append, specRun, specRun, ih]
    split <;> rfl

/-- admission to the lane: the due nonce extends an executable lane -/
theorem specRun_append_due : ∀ (l : List TxRec) (n m : Nat) (t : TxRec), specRun n l = some m → t.nonce = m →
    specRun n (l ++ [t]) = some (m + 1) := by
  intro l n m t h ht
  rw [specRun_append, h]
  exact if_pos ht

theorem specRun_take {l : List TxRec} {n m : Nat} (h : specRun n l = some m) (k : Nat) : ∃ m', specRun n (l.take k) = some m' := by
  rw [← List.take_append_drop k l, specRun_append] at h
  obtain ⟨m', h1, _⟩ := Option.bind_eq_some_iff.mp h
  exact ⟨m', h1⟩

theorem collect_nil (u m c : Nat) : collect u [] m c = [] := by unfold collect; rfl

/-- with an empty special lane `Reap` is the two-lane `reap` -/
theorem reapS_nil (p : Pool) (k max : Nat) : reapS p [] k max = reap p max := by
  unfold reapS reap
  simp only [collect_nil, List.length_nil, Nat.sub_zero, List.append_nil]

/-- the lanes are offered in the order good ++ utxo ++ special, each as a prefix -/
theorem reapS_shape (p : Pool) (spec : List E) (ss max : Nat) :
    ∃ k j i, reapS p spec ss max = p.good.take k ++ p.utxo.take j ++ spec.take i := by
  unfold reapS
  by_cases h0 : max = 0
  · rw [if_pos h0]; exact ⟨0, 0, 0, rfl⟩
  · rw [if_neg h0]
    simp only []
    obtain ⟨j, hj⟩ := collect_prefix p.cfg.utxoSize p.utxo p.cfg.utxoSize 0
    obtain ⟨i, hi⟩ := collect_prefix p.cfg.utxoSize spec ss 0
    obtain ⟨k, hk⟩ := collect_prefix p.cfg.utxoSize p.good
      ((if max > p.cfg.maxReap then p.cfg.maxReap else max) - (collect p.cfg.utxoSize spec ss 0).length -
        (collect p.cfg.utxoSize p.utxo p.cfg.utxoSize 0).length) 0
    exact ⟨k, j, i, by rw [hk, hj, hi]⟩

/-- **the offered special lane executes**: if the lane is executable from the committed multi-sign nonce (true after every
admission — `specRun_append_due` — and after every Update — `specRecheck_run`), so is every prefix `Reap` takes of it -/
theorem reapS_lane_executes (p : Pool) (spec : List E) (ss max n m : Nat) (h : specRun n (spec.map (·.t)) = some m) :
    ∃ k j i m', reapS p spec ss max = p.good.take k ++ p.utxo.take j ++ spec.take i ∧ specRun n ((spec.take i).map (·.t)) = some m' := by
  obtain ⟨k, j, i, hs⟩ := reapS_shape p spec ss max
  obtain ⟨m', hm'⟩ := specRun_take h i
  exact ⟨k, j, i, m', hs, by rw [List.map_take]; exact hm'⟩

/-- non-vacuity: a lane with nonces 2, 3, 5 and committed nonce 2 keeps 2, 3 and drops 5 -/
example : ((specRecheck 2 [⟨0, { kind := .xfer, nonce := 2 }⟩, ⟨1, { kind := .xfer, nonce := 3 }⟩, ⟨2, { kind := .xfer, nonce := 5 }⟩]).1.map (·.id)) = [0, 1] ∧
    (specRecheck 2 [⟨0, { kind := .xfer, nonce := 2 }⟩, ⟨1, { kind := .xfer, nonce := 3 }⟩, ⟨2, { kind := .xfer, nonce := 5 }⟩]).2 = 4 := by decide

end Props.C15
