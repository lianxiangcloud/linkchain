/-
C12 — Block identity commits to its content; part sets reassemble only the original.

Property theorems about `Model.PartSet` (types/part_set.go as it is: index check of fix 22a07c6; the header total is bounded by the callers, fix 1b2bd5e),
`Model.BlockId` and the facts regenerated from the Go source (`Gen.BlockId`).
The Merkle-tree theorems (`verify_sound`, `verify_complete`, `root_inj_same_length`) are in `C12Merkle`.
Cryptographic laws are hypotheses: `Inj2 H2` (two-hash) and `Function.Injective LH` (part hash).
-/
import LinkVerif.Model.PartSet
import LinkVerif.Model.BlockId
import LinkVerif.Gen.BlockId
import LinkVerif.Props.C12Merkle

namespace Props.C12
open Model.Merkle Model.PartSet

/-- FULL STATEMENT: on a well-formed part set (`len(parts) = total`) `AddPart` never panics, whatever
part a peer sends (any index incl. negative, any bytes, any proof). -/
def C12_addpart_total_statement : Prop :=
  ∀ (D : Type) [DecidableEq D] (H2 : D → D → D) (LH : Bytes → D) (ps : PS D) (p : Part D),
    (ps.parts.length : Int) = ps.total → ∃ r, addPart H2 LH ps p = .ok r

theorem addPart_cases {D : Type} [DecidableEq D] (H2 : D → D → D) (LH : Bytes → D) (ps : PS D) (p : Part D)
    (hwf : (ps.parts.length : Int) = ps.total) :
    (∃ e, addPart H2 LH ps p = .ok (ps, false, e)) ∨
    (0 ≤ p.index ∧ ps.parts[p.index.toNat]? = some none ∧
      verify H2 p.index ps.total (LH p.bytes) p.aunts ps.hash = true ∧
      addPart H2 LH ps p =
        .ok ({ ps with parts := ps.parts.set p.index.toNat (some p.bytes), count := ps.count + 1 }, true, .none)) := by
  unfold addPart
  by_cases hr : p.index < 0 ∨ p.index ≥ ps.total
  · rw [if_pos hr]
    exact Or.inl ⟨_, rfl⟩
  have hi : p.index.toNat < ps.parts.length := by omega
  rw [if_neg hr, List.getElem?_eq_getElem hi]
  cases ps.parts[p.index.toNat] with
  | some b => exact Or.inl ⟨_, rfl⟩
  | none =>
    by_cases hv : verify H2 p.index ps.total (LH p.bytes) p.aunts ps.hash = true
    · exact Or.inr ⟨by omega, rfl, hv, if_pos hv⟩
    · exact Or.inl ⟨_, if_neg hv⟩

/-- holds for the repaired `AddPart` (`part.Index < 0 || part.Index >= ps.total`); before the repair
`Index = -1` was a counterexample (`ps.parts[-1]`).  The guard itself is tied to the source by
`addPart_guards_vetted`. -/
theorem C12_addpart_total : C12_addpart_total_statement := by
  intro D _ H2 LH ps p hwf
  rcases addPart_cases H2 LH ps p hwf with ⟨e, h⟩ | ⟨_, _, _, h⟩
  · exact ⟨_, h⟩
  · exact ⟨_, h⟩

/-- a negative index is answered with `ErrPartSetUnexpectedIndex` and changes nothing -/
theorem addPart_negative_index {D : Type} [DecidableEq D] (H2 : D → D → D) (LH : Bytes → D) (ps : PS D) (p : Part D)
    (h : p.index < 0) : addPart H2 LH ps p = .ok (ps, false, .unexpectedIndex) := by
  unfold addPart
  rw [if_pos (Or.inl h)]

/-- the guard fix 1b2bd5e put at BOTH entry points that take a part-set header from a peer
(`ConsensusState.defaultSetProposal`, before the signature check, and `ConsensusReactor.Receive`, before
`PeerState.SetHasProposal`): `Total <= 0 || Total > maxBlockParts()` rejects the proposal -/
def totalGuardOK (total maxParts : Int) : Bool := !(decide (total ≤ 0) || decide (total > maxParts))

/-- `ConsensusState.maxBlockParts`: `BlockSize.MaxBytes / BlockPartSizeBytes + 1` (0 for a non-positive part size) -/
def maxBlockParts (maxBytes partSize : Int) : Int := if partSize ≤ 0 then 0 else maxBytes / partSize + 1

/-- `types.MaxBlockSizeBytes` (ConsensusParams.Validate rejects a larger `BlockSize.MaxBytes`) -/
def maxBlockSizeBytes : Int := 104857600

/-- FULL STATEMENT: a part-set header that passed the entry-point guard never makes `NewPartSetFromHeader`
panic (for validated consensus parameters: `MaxBytes ≤ 100 MB`). -/
def C12_header_total_statement : Prop :=
  ∀ (D : Type) (total maxBytes partSize : Int) (hash : D), maxBytes ≤ maxBlockSizeBytes →
    totalGuardOK total (maxBlockParts maxBytes partSize) = true →
    newFromHeader total hash = .ok (emptyPS total hash)

theorem maxBlockParts_le (maxBytes partSize : Int) :
    maxBlockParts maxBytes partSize ≤ maxBytes + 1 ∨ maxBlockParts maxBytes partSize ≤ 0 := by
  unfold maxBlockParts
  by_cases hp : partSize ≤ 0
  · rw [if_pos hp]
    exact Or.inr (Int.le_refl 0)
  rw [if_neg hp]
  by_cases h0 : 0 ≤ maxBytes
  · exact Or.inl (Int.add_le_add_right (Int.ediv_le_self partSize h0) 1)
  · exact Or.inr (Int.ediv_neg_of_neg_of_pos (by omega) (by omega))

theorem C12_header_total : C12_header_total_statement := by
  intro D total maxBytes partSize hash hmax hg
  simp only [totalGuardOK, Bool.not_eq_true', Bool.or_eq_false_iff, decide_eq_false_iff_not] at hg
  have hle := maxBlockParts_le maxBytes partSize
  unfold maxBlockSizeBytes at hmax
  unfold newFromHeader maxSliceLen
  rw [if_neg (by omega)]

/-- the bare function keeps its precondition (function-level partiality, NOT a finding since 1b2bd5e:
no caller passes a peer-supplied total that did not go through the guard): outside `0 ≤ Total ≤ 2^45`
`make([]*Part, Total)` panics -/
theorem newFromHeader_precondition {D : Type} (total : Int) (hash : D) :
    (0 ≤ total ∧ total ≤ maxSliceLen → newFromHeader total hash = .ok (emptyPS total hash)) ∧
    (total < 0 ∨ total > maxSliceLen → newFromHeader total hash = .error .makeSlice) := by
  unfold newFromHeader
  constructor
  · intro h; rw [if_neg (by omega)]
  · intro h; rw [if_pos h]

/-- T2: in the CURRENT source both entry points compare `BlockPartsHeader.Total` with 0 and with the bound
before the sized operation, and the bound is `MaxBytes / BlockPartSizeBytes + 1`.  Reverting fix 1b2bd5e
(or weakening either comparison) breaks this obligation. -/
theorem parts_total_guards_vetted :
    Gen.BlockId.partsTotalGuards =
      [("defaultSetProposal", true, ["proposal.BlockPartsHeader.Total <= 0", "proposal.BlockPartsHeader.Total > cs.maxBlockParts()"]),
       ("ConsensusReactor.Receive", true, ["msg.Proposal.BlockPartsHeader.Total <= 0", "msg.Proposal.BlockPartsHeader.Total > maxParts"])] ∧
    Gen.BlockId.maxBlockPartsReturns =
      ["return 0", "return params.BlockSize.MaxBytes/params.BlockGossip.BlockPartSizeBytes + 1"] := ⟨rfl, rfl⟩

/-- non-vacuity: the default parameters (21 MB blocks, 32 kB parts) admit totals 1..673 and nothing else -/
example : totalGuardOK 673 (maxBlockParts 22020096 32768) = true ∧ totalGuardOK 674 (maxBlockParts 22020096 32768) = false ∧
    totalGuardOK 0 (maxBlockParts 22020096 32768) = false ∧ totalGuardOK (-1) (maxBlockParts 22020096 32768) = false := by decide

/-- the invariant of a receiving part set for the proposer's chunk list `orig` -/
structure Inv {D : Type} [Inhabited D] (H2 : D → D → D) (LH : Bytes → D) (orig : List Bytes) (ps : PS D) : Prop where
  total : ps.total = orig.length
  hash : ps.hash = root H2 (orig.map LH)
  len : ps.parts.length = orig.length
  stored : ∀ (i : Nat) (b : Bytes), ps.parts[i]? = some (some b) → orig[i]? = some b
  count : ps.count = (ps.parts.countP Option.isSome : Nat)

section
variable {D : Type} [Inhabited D] {H2 : D → D → D} {LH : Bytes → D} {orig : List Bytes} {ps : PS D}

variable (H2 LH orig) in
theorem inv_empty : Inv H2 LH orig (emptyPS orig.length (root H2 (orig.map LH))) := by
  refine ⟨rfl, rfl, by simp [emptyPS], ?_, ?_⟩
  · intro i b h
    simp [emptyPS, List.getElem?_replicate] at h
  · simp [emptyPS, List.countP_replicate]

theorem countP_set_some {α : Type} {l : List (Option α)} {i : Nat} (b : α) (h : l[i]? = some none) :
    (l.set i (some b)).countP Option.isSome = l.countP Option.isSome + 1 := by
  obtain ⟨hi, hv⟩ := List.getElem?_eq_some_iff.mp h
  rw [List.countP_set hi, hv]
  rfl

theorem Inv.store (hinv : Inv H2 LH orig ps) {i : Nat} {b : Bytes} (hslot : ps.parts[i]? = some none)
    (horig : orig[i]? = some b) :
    Inv H2 LH orig { ps with parts := ps.parts.set i (some b), count := ps.count + 1 } := by
  refine ⟨hinv.total, hinv.hash, by rw [List.length_set]; exact hinv.len, ?_, ?_⟩
  · intro j c hj
    by_cases hij : i = j
    · subst hij
      rw [List.getElem?_set_self (List.getElem?_eq_some_iff.mp hslot).1] at hj
      cases hj
      exact horig
    · rw [List.getElem?_set_ne hij] at hj
      exact hinv.stored j c hj
  · show ps.count + 1 = _
    rw [countP_set_some _ hslot, hinv.count]
    rfl

/-- soundness of the tree pins the part hash, the part hash pins the bytes -/
theorem Inv.original_of_verify [DecidableEq D] (hinv : Inv H2 LH orig ps) (hinj : Inj2 H2) (hleaf : Function.Injective LH)
    {p : Part D} (hv : verify H2 p.index ps.total (LH p.bytes) p.aunts ps.hash = true) :
    orig[p.index.toNat]? = some p.bytes := by
  rw [hinv.total, hinv.hash, ← List.length_map (f := LH)] at hv
  have hs := (verify_sound H2 hinj _ _ _ _ hv).2
  rw [List.getElem?_map, Option.map_eq_some_iff] at hs
  obtain ⟨b', ho, hb'⟩ := hs
  rw [ho, hleaf hb']

theorem addPart_step [DecidableEq D] (hinj : Inj2 H2) (hleaf : Function.Injective LH) (p : Part D)
    (hinv : Inv H2 LH orig ps) : ∃ ps' r, addPart H2 LH ps p = .ok (ps', r) ∧ Inv H2 LH orig ps' := by
  rcases addPart_cases H2 LH ps p (by rw [hinv.len, hinv.total]) with ⟨e, h⟩ | ⟨_, hslot, hv, h⟩
  · exact ⟨ps, _, h, hinv⟩
  · exact ⟨_, _, h, hinv.store hslot (hinv.original_of_verify hinj hleaf hv)⟩

theorem addAll_inv [DecidableEq D] (hinj : Inj2 H2) (hleaf : Function.Injective LH) (seq : List (Part D))
    (hinv : Inv H2 LH orig ps) : ∃ ps', addAll H2 LH ps seq = .ok ps' ∧ Inv H2 LH orig ps' := by
  induction seq generalizing ps with
  | nil => exact ⟨ps, rfl, hinv⟩
  | cons p rest ih =>
    obtain ⟨ps1, ⟨a, e⟩, h1, hinv1⟩ := addPart_step hinj hleaf p hinv
    simp only [addAll, h1]
    exact ih hinv1

theorem allBytes_map_some (bs : List Bytes) : allBytes (bs.map some) = some bs := by
  induction bs with
  | nil => rfl
  | cons b rest ih => simp [allBytes, ih]

theorem Inv.complete_iff (hinv : Inv H2 LH orig ps) : isComplete ps = true ↔ ps.parts = orig.map some := by
  -- `count` is the number of filled slots and `total` the number of slots: complete = every slot is filled
  rw [isComplete, decide_eq_true_eq, hinv.count, hinv.total, ← hinv.len, Int.natCast_inj, List.countP_eq_length]
  constructor
  · intro hall
    apply List.ext_getElem (by rw [List.length_map]; exact hinv.len)
    intro i hi _
    obtain ⟨b, hb⟩ := Option.isSome_iff_exists.mp (hall _ (List.getElem_mem hi))
    have := hinv.stored i b (by rw [List.getElem?_eq_getElem hi, hb])
    rw [List.getElem_map, hb, (List.getElem?_eq_some_iff.mp this).2]
  · intro hp a ha
    rw [hp] at ha
    obtain ⟨b, _, rfl⟩ := List.mem_map.mp ha
    rfl

omit [Inhabited D] in
/-- the reader refuses an incomplete set (`PanicSanity`; the callers test `IsComplete` first) -/
theorem assemble_incomplete (hc : isComplete ps = false) : assemble ps = .error .sanity := by
  unfold assemble
  rw [if_pos (by simp [hc])]

omit [Inhabited D] in
theorem assemble_of_parts {bs : List Bytes} (hne : bs ≠ []) (hc : isComplete ps = true) (hp : ps.parts = bs.map some) :
    assemble ps = .ok bs.flatten := by
  unfold assemble
  rw [if_neg (by simp [hc]), hp, if_neg (by simpa using hne), allBytes_map_some]

theorem assemble_complete (hne : orig ≠ []) (hinv : Inv H2 LH orig ps) (hc : isComplete ps = true) :
    assemble ps = .ok orig.flatten :=
  assemble_of_parts hne hc (hinv.complete_iff.mp hc)

end

/-- **reassembly**: start from the signed header of the proposer's chunk list `orig`; feed ANY sequence
of parts.  Nothing panics; every stored part is the original one; and if the
set becomes complete the reader yields the proposer's bytes exactly — otherwise it yields nothing. -/
theorem reassembly {D : Type} [Inhabited D] [DecidableEq D] (H2 : D → D → D) (LH : Bytes → D)
    (hinj : Inj2 H2) (hleaf : Function.Injective LH) (orig : List Bytes) (hne : orig ≠ [])
    (seq : List (Part D)) :
    ∃ ps, addAll H2 LH (emptyPS orig.length (root H2 (orig.map LH))) seq = .ok ps ∧
      (∀ (i : Nat) (b : Bytes), ps.parts[i]? = some (some b) → orig[i]? = some b) ∧
      (isComplete ps = true → assemble ps = .ok orig.flatten) ∧
      (isComplete ps = false → assemble ps = .error .sanity) := by
  obtain ⟨ps, hrun, hinv⟩ := addAll_inv hinj hleaf seq (inv_empty H2 LH orig)
  exact ⟨ps, hrun, hinv.stored, assemble_complete hne hinv, assemble_incomplete⟩

/-- a forged part (bytes different from the original chunk of its index) is never stored -/
theorem forgery_rejected {D : Type} [Inhabited D] [DecidableEq D] (H2 : D → D → D) (LH : Bytes → D)
    (hinj : Inj2 H2) (hleaf : Function.Injective LH) (orig : List Bytes) (ps : PS D) (p : Part D)
    (hinv : Inv H2 LH orig ps) (hforged : orig[p.index.toNat]? ≠ some p.bytes) :
    ∃ e, addPart H2 LH ps p = .ok (ps, false, e) := by
  rcases addPart_cases H2 LH ps p (by rw [hinv.len, hinv.total]) with h | ⟨_, _, hv, _⟩
  · exact h
  · exact absurd (hinv.original_of_verify hinj hleaf hv) hforged

/-- liveness side: whatever was received before, the honest part of a missing index is admitted -/
theorem honest_accepted {D : Type} [Inhabited D] [DecidableEq D] (H2 : D → D → D) (LH : Bytes → D)
    (orig : List Bytes) (ps : PS D) (hinv : Inv H2 LH orig ps) (i : Nat) (hi : i < orig.length)
    (hmiss : ps.parts[i]? = some none) (pr : List D) (hpr : (proofs H2 (orig.map LH))[i]? = some pr) :
    addPart H2 LH ps { index := (i : Int), bytes := orig[i], aunts := pr } =
      .ok ({ ps with parts := ps.parts.set i (some orig[i]), count := ps.count + 1 }, true, .none) := by
  -- the proof the library made verifies (completeness); then the three guards of `AddPart` in turn
  have hv := verify_complete H2 (orig.map LH) i (by rw [List.length_map]; exact hi) pr hpr
  simp only [List.length_map, List.getElem_map] at hv
  rw [← hinv.total, ← hinv.hash] at hv
  unfold addPart
  simp only
  rw [if_neg (by have := hinv.total; omega)]
  simp only [Int.toNat_natCast, hmiss]
  exact if_pos hv

theorem chunks_of_ne {sz : Nat} (hsz : 0 < sz) {data : Bytes} (hd : data ≠ []) :
    chunks sz data = data.take sz :: chunks sz (data.drop sz) := by
  rw [chunks, dif_neg (fun h => h.elim (by omega) hd)]

theorem chunks_ne_nil {sz : Nat} (hsz : 0 < sz) {data : Bytes} (hd : data ≠ []) : chunks sz data ≠ [] := by
  rw [chunks_of_ne hsz hd]
  exact List.cons_ne_nil _ _

theorem chunks_flatten (sz : Nat) (hsz : 0 < sz) (data : Bytes) : (chunks sz data).flatten = data := by
  induction data using chunks.induct sz with
  | case1 data h =>
    rw [chunks, dif_pos h]
    rcases h with h | h
    · omega
    · rw [h]; rfl
  | case2 data h ih => rw [chunks, dif_neg h, List.flatten_cons, ih, List.take_append_drop]

theorem newFromData_eq_ok {D : Type} [Inhabited D] {H2 : D → D → D} {LH : Bytes → D} {d : Bytes} {sz : Int} {ps : PS D} :
    newFromData H2 LH d sz = .ok ps ↔ 0 < sz.toNat ∧ d ≠ [] ∧
      ps = { total := (chunks sz.toNat d).length, hash := root H2 ((chunks sz.toNat d).map LH),
             parts := (chunks sz.toNat d).map some, count := (chunks sz.toNat d).length } := by
  unfold newFromData
  by_cases h0 : sz = 0
  · rw [if_pos h0]
    exact ⟨nofun, fun h => by omega⟩
  by_cases h1 : sz < 0
  · rw [if_neg h0, if_pos h1]
    exact ⟨nofun, fun h => by omega⟩
  by_cases hd : d = []
  · rw [if_neg h0, if_neg h1, if_pos hd]
    exact ⟨nofun, fun h => absurd hd h.2.1⟩
  rw [if_neg h0, if_neg h1, if_neg hd]
  exact ⟨fun h => ⟨by omega, hd, (Except.ok.inj h).symm⟩, fun h => by rw [h.2.2]⟩

/-- two byte strings cut with the same part size whose part-set headers (total, root) are equal are the
same byte string: `BlockID.PartsHeader` commits to `ser(block)`, hence (ser being injective) to every
serialised field of the block, `Recover`, the ordered transactions, the evidence and the last commit. -/
theorem partset_header_commits {D : Type} [Inhabited D] (H2 : D → D → D) (LH : Bytes → D)
    (hinj : Inj2 H2) (hleaf : Function.Injective LH) (d1 d2 : Bytes) (sz : Int) (ps1 ps2 : PS D)
    (h1 : newFromData H2 LH d1 sz = .ok ps1) (h2 : newFromData H2 LH d2 sz = .ok ps2)
    (hh : ps1.header = ps2.header) : d1 = d2 := by
  obtain ⟨hsz, _, rfl⟩ := newFromData_eq_ok.mp h1
  obtain ⟨_, _, rfl⟩ := newFromData_eq_ok.mp h2
  simp only [PS.header, Header.mk.injEq] at hh
  obtain ⟨ht, hr⟩ := hh
  have hm := root_inj_same_length hinj (by rw [List.length_map, List.length_map]; omega) hr
  have hc := (List.map_inj_right fun _ _ h => hleaf h).mp hm
  rw [← chunks_flatten sz.toNat hsz d1, ← chunks_flatten sz.toNat hsz d2, hc]

/-- the map literal of `Header.Hash` in the source is exactly the vetted list: same keys, each key hashes
the field of the same name -/
theorem hash_keys_match_source :
    Gen.BlockId.headerHashKeys = Model.BlockId.hashedFields.map (fun kf => (kf.1, kf.1)) := rfl

/-- **id_covers**: every field of struct `Header` is classified: it is a key of the `Header.Hash` map
(hashing that very field), or it is vetted as parts-only AND serialised (covered by the part-set hash),
or it is vetted as local-only AND not serialised (never leaves the node).  Removing a key from the map,
or adding a header field without classifying it, breaks this theorem. -/
theorem id_covers :
    ∀ f ∈ Gen.BlockId.headerFields,
      ((f.1, f.1) ∈ Gen.BlockId.headerHashKeys ∧ f.2 = true)
      ∨ (f.1 ∈ Model.BlockId.partsOnlyFields ∧ f.2 = true ∧ (f.1, f.1) ∉ Gen.BlockId.headerHashKeys)
      ∨ (f.1 ∈ Model.BlockId.localOnlyFields ∧ f.2 = false) := by decide +kernel

/-- no key of the map is hashed twice or refers to a missing field -/
theorem hash_keys_nodup_and_real :
    (Gen.BlockId.headerHashKeys.map (·.1)).Nodup ∧
    ∀ k ∈ Gen.BlockId.headerHashKeys, (k.2, true) ∈ Gen.BlockId.headerFields := by decide +kernel

/-- the block parts that carry content are serialised (so `partset_header_commits` covers them); the
unserialised fields of Block/Data/Commit/EvidenceData are the vetted caches -/
theorem block_content_serialised :
    Gen.BlockId.blockFields.filter (·.2) = [("Header", true), ("Data", true), ("Evidence", true), ("LastCommit", true)] ∧
    Gen.BlockId.blockFields.filter (! ·.2) = [("mtx", false), ("hash", false)] ∧
    Gen.BlockId.dataFields = [("Txs", true), ("hash", false)] ∧
    Gen.BlockId.commitFields.filter (·.2) = [("BlockID", true), ("Precommits", true)] ∧
    Gen.BlockId.evidenceDataFields = [("Evidence", true), ("hash", false)] ∧
    Gen.BlockId.partSetHeaderFields = [("Total", true), ("Hash", true)] ∧
    Gen.BlockId.blockIDFields = [("Hash", true), ("PartsHeader", true)] := ⟨rfl, rfl, rfl, rfl, rfl, rfl, rfl⟩

/-- the guards of `PartSet.AddPart` in the source are the ones the model has, in this order: both index
bounds (removing the lower one again re-opens the negative-index panic), duplicate, Merkle proof -/
theorem addPart_guards_vetted :
    Gen.BlockId.addPartGuards =
      [("part.Index < 0 || part.Index >= ps.total", "return false, ErrPartSetUnexpectedIndex"),
       ("ps.parts[part.Index] != nil", "return false, nil"),
       ("!part.Proof.Verify(part.Index, ps.total, part.Hash(), ps.Hash())", "return false, ErrPartSetInvalidProof")] := rfl

/-- a concrete model of the hypotheses: trees as digests, `LH b = leaf |b|` on chunks of distinct length -/
example : Inj2 Tree.node := tree_inj2

example : ∃ ps, addAll Tree.node (fun b => Tree.leaf b.length) (emptyPS 2 (Tree.node (.leaf 1) (.leaf 2)))
    [⟨1, [7, 7], [.leaf 1]⟩, ⟨0, [9, 9], [.leaf 2]⟩, ⟨5, [], []⟩, ⟨-1, [9], [.leaf 2]⟩, ⟨0, [9], [.leaf 2]⟩, ⟨1, [7, 7], [.leaf 1]⟩] = .ok ps
    ∧ isComplete ps = true ∧ assemble ps = .ok [9, 7, 7] := by
  exact ⟨_, rfl, by decide, rfl⟩

example : (chunks 2 [1, 2, 3, 4, 5]) = [[1, 2], [3, 4], [5]] := by
  simp [chunks]

end Props.C12
