/-
C10: canonical form — two normal-form tries with the same lookups are the same tree (no hash assumption).
-/
import LinkVerif.Props.C10Basic

namespace Props.C10
open Model.Trie

def SameAt (v : Bool) (a b : Node) : Prop := ∀ key, KeyAt v key → Model.Trie.get a key = Model.Trie.get b key

theorem not_sameAt_full_short {c : Nib → Node} (hf : WF (.full c)) (x : Nib) (xr : List Nib) (c2 : Node) :
    ¬ SameAt false (.full c) (.short (x :: xr) c2) := by
  intro hs
  obtain ⟨hall, i, j, hij, hi, hj⟩ := hf
  have : ∃ m, m ≠ x ∧ (c m).isNil = false := by
    by_cases h : i = x
    · exact ⟨j, by rw [← h]; exact fun e => hij e.symm, hj⟩
    · exact ⟨i, h, hi⟩
  obtain ⟨m, hmx, hm⟩ := this
  obtain ⟨hw, hv⟩ := (hall m).resolve_left (ne_true_of_eq_false hm)
  obtain ⟨key, hka, hg⟩ := exists_key _ hw
  have h1 := hs (m :: key) (keyAt_cons hv hka)
  rw [get_short_of_strip_none c2 (strip_cons_ne (Ne.symm hmx) xr key)] at h1
  simp only [Model.Trie.get] at h1
  rw [h1] at hg; cases hg

theorem not_sameAt_short_ext {c1 : Node} {k1 : List Nib} (hw : WF c1) (hs : c1.isShort = false) (hk : KeyOK c1.isValue k1)
    {w : Bool} (y : Nib) (r : List Nib) (hk2 : KeyOK w (k1 ++ y :: r)) (c2 : Node) :
    ¬ SameAt c1.isValue c1 (.short (y :: r) c2) := by
  cases c1 with
  | nil => exact absurd hw (by simp [WF])
  | value v => exact absurd hk2 (keyOK_true_no_ext y r hk)
  | short k c => simp [Node.isShort] at hs
  | full c => exact not_sameAt_full_short hw y r c2

theorem not_sameAt_nil {n : Node} (hw : WF n) : ¬ SameAt n.isValue n .nil := by
  intro hs
  obtain ⟨key, hka, hg⟩ := exists_key n hw
  rw [hs key hka] at hg
  cases hg

theorem sameAt_symm {v : Bool} {a b : Node} (h : SameAt v a b) : SameAt v b a := fun key hk => (h key hk).symm

theorem sameAt_short {k : List Nib} {c b : Node} (hk : KeyOK c.isValue k) (hs : SameAt false (.short k c) b)
    (key : List Nib) (h : KeyAt c.isValue key) : Model.Trie.get c key = Model.Trie.get b (k ++ key) := by
  rw [← hs (k ++ key) (keyAt_append hk h), get_short_append]

/-- CANONICAL FORM (positional): positions of the same kind with the same lookups are equal -/
theorem canon {v : Bool} {a : Node} (ha : Pos v a) : ∀ b, Pos v b → SameAt v a b → a = b := by
  induction v, a, ha using pos_induction with
  | nil v =>
    intro b hb hs
    rcases hb with h0 | ⟨hw, hv⟩
    · exact (isNil_eq h0).symm
    · exact absurd (sameAt_symm (hv ▸ hs)) (not_sameAt_nil hw)
  | value w =>
    intro b hb hs
    have h0 := hs [] (keyAt_true.mpr rfl)
    rcases pos_true_cases hb with rfl | ⟨w', rfl⟩
    · cases h0
    · exact congrArg Node.value (Option.some.inj h0)
  | short k1 c1 hk1 hs1 hw1 ih =>
    intro b hb hs
    have ha : WF (.short k1 c1) := ⟨hk1, hs1, hw1⟩
    rcases hb with h0 | ⟨hb, hvb⟩
    · rw [isNil_eq h0] at hs; exact absurd hs (not_sameAt_nil ha)
    cases b with
    | nil => exact hb.elim
    | value w => exact Bool.noConfusion hvb
    | full d =>
      cases k1 with
      | nil => exact hk1.elim
      | cons x xr => exact absurd (sameAt_symm hs) (not_sameAt_full_short hb x xr c1)
    | short k2 c2 =>
      obtain ⟨hk2, hs2, hw2⟩ := hb
      rcases split_cases k1 k2 with ⟨h, _⟩ | ⟨y, r, h, _⟩ | ⟨x, r, h, _⟩ | ⟨p, x, y, r1, r2, hxy, h1, h2, _⟩
      · subst h
        have hvv : c1.isValue = c2.isValue := keyOK_unique hk1 hk2
        rw [ih c2 (hvv ▸ pos_of_wf hw2) fun key hk => by rw [sameAt_short hk1 hs key hk, get_short_append]]
      · subst h
        refine absurd (fun key hk => ?_) (not_sameAt_short_ext hw1 hs1 hk1 y r hk2 c2)
        rw [sameAt_short hk1 hs key hk, get_short_append_append]
      · subst h
        refine absurd (fun key hk => ?_) (not_sameAt_short_ext hw2 hs2 hk2 x r hk1 c1)
        rw [sameAt_short hk2 (sameAt_symm hs) key hk, get_short_append_append]
      · exfalso
        obtain ⟨key, hka, hg⟩ := exists_key c1 hw1
        have := sameAt_short hk1 hs key hka
        rw [h1, h2, List.append_assoc, List.cons_append] at this
        rw [get_short_of_strip_none c2 (strip_diverge p (Ne.symm hxy) r2 (r1 ++ key))] at this
        rw [this] at hg; cases hg
  | full c ha ih =>
    intro b hb hs
    rcases hb with h0 | ⟨hb, hvb⟩
    · rw [isNil_eq h0] at hs; exact absurd hs (not_sameAt_nil ha)
    cases b with
    | nil => exact hb.elim
    | value w => exact Bool.noConfusion hvb
    | short k2 c2 =>
      cases k2 with
      | nil => exact hb.1.elim
      | cons x xr => exact absurd hs (not_sameAt_full_short ha x xr c2)
    | full d =>
      exact congrArg Node.full (funext fun i => ih i (d i) (pos_child hb i) fun key hk =>
        hs (i :: key) (keyAt_cons (by rw [decide_eq_true_iff]) hk))

end Props.C10
