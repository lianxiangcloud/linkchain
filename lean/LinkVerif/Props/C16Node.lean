/-
C16 at model level (L-B node model `Model.Node`, the model that is compared step by step with the real `ConsensusState`):
"whatever a peer sends, the node at most rejects the message; its consensus routine keeps running and its state is unaffected by
invalid input".

* `invalid_input_leaves_state`: for EVERY state (not only reachable ones) and every input the node rejects (`Rejected`, the classes
  are enumerated from the input type `In`), `Node.step` emits nothing (no vote, no proposal, no commit, not even a timeout), does not
  panic, and leaves every field equal (`SameCore`) except book-keeping: the output buffer and `decided` flag (reset at the start of
  every handler), the model's tables of part counts / block verdicts (`totals`, `okv`: what the message itself says about a block id), the given
  block of a proposer (`fresh`, which no handler writes), and — for votes of an untracked round — one EMPTY catch-up round (`rvs`, `catchup`), after which every round's vote sets still read
  the same (`rv`).
* `claims_do_not_vote`: a peer's +2/3 claim (`maj23`) is recorded (`peers`, the `peerMaj` flag, possibly a new EMPTY block entry) and
  nothing else: no output, no panic, same core state, and in every vote set the recorded votes, their powers, the tally per block and
  `maj23` are untouched (`SameVotes`).  A claim therefore never counts as a vote; a majority needs recorded votes of distinct
  validators (`Props.C01Node.maj23_has_quorum`, preserved by every step: `step_Good`).
* totality: `Node.step` is a total function; Go panics are explicit outcomes (`dead := true`, set by `die`).
  The sites represented are listed at `panic_sites` below.  Proved for ANY state: rejected inputs, claims and proposals never panic
  (`rejected_never_panics`, `claims_never_panic`, `proposal_never_panics`), and the vote containers' `PanicSanity` sites are
  unreachable (`addVerified_not_duplicate`, `catchupRound_new_round_only`).  NOT proved at model level: that an ACCEPTED block part or
  vote never reaches one of the sanity sites from a reachable state — those sites stay explicit `panic` answers that the
  correspondence run compares (a real panic where the model has none, or the reverse, is a disagreement).
-/
import LinkVerif.Props.C01Node

namespace Props.C16Node
open Model.Node Props.C01Node

/-- every field that decides how the node acts is equal; not compared: `out`, `decided`, `totals`, `okv`, `fresh`, and the vote
book-keeping `rvs`/`catchup` (compared separately, through `St.rv`) -/
def SameCore (s s' : St) : Prop :=
  s'.me = s.me ∧ s'.powers = s.powers ∧ s'.maxParts = s.maxParts ∧ s'.height = s.height ∧ s'.round = s.round ∧ s'.step = s.step ∧
  s'.lockedRound = s.lockedRound ∧ s'.lockedValue = s.lockedValue ∧ s'.validRound = s.validRound ∧ s'.validValue = s.validValue ∧
  s'.proposal = s.proposal ∧ s'.pb = s.pb ∧ s'.pbp = s.pbp ∧ s'.commitRound = s.commitRound ∧ s'.hround = s.hround ∧
  s'.vals = s.vals ∧ s'.svals = s.svals ∧ s'.dead = s.dead

/-- the inputs the node rejects, by class -/
def Rejected (s : St) : In → Prop
  -- a vote: for another height; of an unknown type; with an unacceptable signature / validator-set size / address (`ok = false`);
  -- naming a validator index outside the set
  | .vote t h _ idx _ _ _ ok => h + 1 = s.height ∨ h ≠ s.height ∨ (t ≠ tPrevote ∧ t ≠ tPrecommit) ∨ ok = false ∨ s.n ≤ idx
  -- a proposal: when one is already held; a recover proposal; for another height or round; after the commit step; with a POL round
  -- outside `-1, 0..r-1`; with a part count outside `1..maxParts`; not signed by the round's proposer
  | .proposal h r pol _ total signer typ =>
      s.proposal.isSome ∨ typ = 33 ∨ h ≠ s.height ∨ r ≠ s.round ∨ sCommit ≤ s.step ∨ (pol ≠ -1 ∧ (pol < 0 ∨ (r : Int) ≤ pol)) ∨
      total = 0 ∨ s.maxParts < total ∨ (Model.ValSet.getProposer s.vals).map (fun a => (a : Int)) ≠ some signer
  -- a block part: for another height; when no part set is expected; with an index outside the set; already present; not belonging to
  -- the expected part set (its proof does not verify against the header)
  | .part h _ pv idx _ _ _ =>
      h ≠ s.height ∨ s.pbp = none ∨ ∃ ps, s.pbp = some ps ∧ (ps.total ≤ idx ∨ ps.got.contains idx = true ∨ pv ≠ ps.v)
  -- a +2/3 claim: of an unknown vote type, or for a round the node does not track
  | .maj23 r t _ _ _ => (t ≠ tPrevote ∧ t ≠ tPrecommit) ∨ alookup s.rvs r = none
  -- a timeout below the node's `(height, round, step)` (not a peer input; listed for completeness)
  | .timeout h r st => h ≠ s.height ∨ r < s.round ∨ (r = s.round ∧ st < s.step)
  | .txs => False

theorem step_of_not_decided {s : St} {i : In} (h : (stepCore s i).decided = false) : step s i = stepCore s i := by
  unfold step; simp [h]

theorem SameCore.of_bookkeeping (s : St) (rvs : List (Nat × RV)) (cu : List (Nat × List Nat)) (tl : List (Nat × Nat))
    (okv : List (Nat × (Bool × Bool))) (out : List Out) (dec : Bool) :
    SameCore s { s with rvs := rvs, catchup := cu, totals := tl, okv := okv, out := out, decided := dec } :=
  ⟨rfl, rfl, rfl, rfl, rfl, rfl, rfl, rfl, rfl, rfl, rfl, rfl, rfl, rfl, rfl, rfl, rfl, rfl⟩

theorem SameCore.dead {s s' : St} (h : SameCore s s') : s'.dead = s.dead := h.2.2.2.2.2.2.2.2.2.2.2.2.2.2.2.2.2

structure Quiet (s x : St) : Prop where
  core : SameCore s x
  rv : ∀ q, x.rv q = s.rv q
  out : x.out = []
  dec : x.decided = false

theorem setProposal_rejected (b : St) (h r : Nat) (pol : Int) (v total : Nat) (signer : Int) (typ : Nat)
    (hr : Rejected b (.proposal h r pol v total signer typ)) : setProposal b h r pol v total signer typ = b := by
  rw [setProposal_eq, if_pos]
  simpa only [Rejected, or_assoc] using hr

theorem addPart_rejected (b : St) (h pv idx : Nat) (dec : Bool) (r : Nat) (vOK cOK : Bool)
    (hr : Rejected b (.part h r pv idx vOK cOK dec)) : addPart b h pv idx dec = b := by
  refine addPart_cases (P := (· = b)) b h pv idx dec rfl fun ps hps hh h1 h2 h3 => False.elim ?_
  rcases hr with hr | hr | ⟨ps', e, hr⟩
  · exact hr hh.symm
  · rw [hps] at hr; cases hr
  · rw [hps] at e; cases e
    rcases hr with hr | hr | hr
    · exact Nat.lt_irrefl _ (Nat.lt_of_lt_of_le h1 hr)
    · rw [h2] at hr; cases hr
    · exact hr h3

theorem VSet_add_rejected (vs : VSet) (n total i p : Nat) (v : Value) (ok : Bool) (h : ok = false ∨ n ≤ i) :
    vs.add n total i p v ok = (vs, false) := by
  rcases VSet_add_cases vs n total i p v ok with e | ⟨hi, hok, _⟩
  · exact e
  · rcases h with h | h
    · rw [h] at hok; cases hok
    · exact absurd hi (Nat.not_lt.2 h)

/-- recording a rejected vote: at most an empty catch-up round is opened -/
theorem recordVote_rejected (b : St) (t r idx v src : Nat) (ok : Bool) (h : ok = false ∨ b.n ≤ idx) :
    (recordVote b t r idx v src ok).2 = false ∧ ∀ q, (recordVote b t r idx v src ok).1.rv q = b.rv q := by
  unfold recordVote
  split
  · exact ⟨rfl, fun _ => rfl⟩
  rename_i s1 h1
  obtain ⟨⟨rvs, cu, e⟩, hrv⟩ := catchupRound_spec h1
  dsimp only
  rw [VSet_add_rejected _ _ _ _ _ _ _ (by rw [e]; exact h)]
  exact ⟨rfl, fun q => (putVS_vsOf s1 r t q).trans (hrv q)⟩

theorem addVote_rejected (b : St) (t h r idx v src tot : Nat) (ok : Bool) (hr : Rejected b (.vote t h r idx v tot src ok)) :
    (∃ rvs cu, addVote b t h r idx v src ok = { b with rvs := rvs, catchup := cu }) ∧ ∀ q, (addVote b t h r idx v src ok).rv q = b.rv q := by
  refine addVote_cases (P := fun x => (∃ rvs cu, x = { b with rvs := rvs, catchup := cu }) ∧ ∀ q, x.rv q = b.rv q) b t h r idx v src ok
    ⟨⟨b.rvs, b.catchup, rfl⟩, fun _ => rfl⟩ fun hh ht s2 added hrec => ?_
  have hok : ok = false ∨ b.n ≤ idx := by
    rcases hr with h1 | h1 | h1 | h1 | h1
    · rw [hh] at h1; exact absurd h1 (Nat.succ_ne_self _)
    · exact absurd hh h1
    · exact (ht.elim h1.1 h1.2).elim
    · exact Or.inl h1
    · exact Or.inr h1
  obtain ⟨r1, r2⟩ := recordVote_rejected b t r idx v src ok hok
  obtain ⟨rvs, cu, esh⟩ := recordVote_shape b t r idx v src ok
  rw [hrec] at r1 r2 esh
  have hadd : added ≠ true := fun ha => by rw [ha] at r1; cases r1
  exact ⟨fun _ => ⟨⟨rvs, cu, esh⟩, r2⟩, fun ha _ => absurd ha hadd, fun ha _ => absurd ha hadd⟩

theorem setPeerMaj_rejected (b : St) (r t src v tot : Nat) (hr : Rejected b (.maj23 r t src v tot)) : setPeerMaj b r t src v = b := by
  unfold setPeerMaj
  simp only [Rejected] at hr
  split
  · rfl
  rename_i h1
  split
  · rfl
  · rename_i rv h2
    rcases hr with h | h
    · exact absurd h h1
    · rw [h] at h2; cases h2

/-- a rejected input (or any input to a node whose routine has ended) is handled quietly.  `Rejected` only reads fields of the core
and `rvs`, so it holds of the state the handler is called with (outputs cleared, the block id's part count learned) as well -/
theorem stepCore_quiet (s : St) (i : In) (hr : s.dead = true ∨ Rejected s i) : Quiet s (stepCore s i) := by
  unfold stepCore
  dsimp only
  split
  · exact ⟨SameCore.of_bookkeeping .., fun _ => rfl, rfl, rfl⟩
  rename_i hd
  have hr := hr.resolve_left hd
  cases i with
  | proposal h r pol v total signer typ =>
    dsimp only
    obtain ⟨tl, e⟩ := learn_shape { s with out := [], decided := false } v total
    rw [e, setProposal_rejected]
    · exact ⟨SameCore.of_bookkeeping .., fun _ => rfl, rfl, rfl⟩
    · exact hr
  | part h r pv idx vOK cOK dec =>
    dsimp only
    rw [addPart_rejected (r := r) (vOK := vOK) (cOK := cOK)]
    · exact ⟨SameCore.of_bookkeeping .., fun _ => rfl, rfl, rfl⟩
    · exact hr
  | vote t h r idx v tot src ok =>
    dsimp only
    obtain ⟨tl, e⟩ := learn_shape { s with out := [], decided := false } v tot
    rw [e]
    obtain ⟨⟨rvs, cu, e2⟩, hrv⟩ := addVote_rejected { s with out := [], decided := false, totals := tl } t h r idx v src tot ok hr
    rw [e2] at hrv ⊢
    exact ⟨SameCore.of_bookkeeping .., hrv, rfl, rfl⟩
  | timeout h r st =>
    dsimp only
    rw [stale_inputs_ignored]
    · exact ⟨SameCore.of_bookkeeping .., fun _ => rfl, rfl, rfl⟩
    · exact hr
  | txs => exact absurd hr (by simp [Rejected])
  | maj23 r t src v tot =>
    dsimp only
    obtain ⟨tl, e⟩ := learn_shape { s with out := [], decided := false } v tot
    rw [e, setPeerMaj_rejected (tot := tot)]
    · exact ⟨SameCore.of_bookkeeping .., fun _ => rfl, rfl, rfl⟩
    · exact hr

/-- **invalid_input_leaves_state**: for EVERY state and every rejected input (`Rejected`), the step leaves the core of the state as it
is, every round's vote sets read the same, and nothing is emitted: no vote, no proposal, no commit, no timeout; in particular the
node does not panic (`SameCore` includes `dead`) -/
theorem invalid_input_leaves_state (s : St) (i : In) (hr : Rejected s i) :
    SameCore s (step s i) ∧ (∀ q, (step s i).rv q = s.rv q) ∧ (step s i).out = [] := by
  have hq := stepCore_quiet s i (Or.inr hr)
  rw [step_of_not_decided hq.dec]
  exact ⟨hq.core, hq.rv, hq.out⟩

/-- the same for any input at all once the node's routine has ended -/
theorem dead_node_ignores_input (s : St) (i : In) (hd : s.dead = true) :
    SameCore s (step s i) ∧ (∀ q, (step s i).rv q = s.rv q) ∧ (step s i).out = [] := by
  have hq := stepCore_quiet s i (Or.inl hd)
  rw [step_of_not_decided hq.dec]
  exact ⟨hq.core, hq.rv, hq.out⟩

/-- non-vacuity: every class of `Rejected` is inhabited at the initial state of the example (a vote with a bad signature, a proposal
signed by the wrong validator, a part nobody expects, a claim for an untracked round, a stale timeout, messages for height 9) -/
example : Rejected exInit (.vote tPrevote 1 0 1 7 1 1 false) ∧ Rejected exInit (.vote tPrevote 1 0 9 7 1 1 true) ∧
    Rejected exInit (.vote tPrecommit 9 0 1 7 1 1 true) ∧ Rejected exInit (.proposal 1 0 (-1) 7 1 2 32) ∧
    Rejected exInit (.proposal 1 0 5 7 1 1 32) ∧ Rejected exInit (.proposal 1 0 (-1) 7 0 1 32) ∧
    Rejected exInit (.part 1 0 7 0 true true true) ∧ Rejected exInit (.maj23 5 tPrevote 1 7 1) ∧ Rejected exInit (.timeout 1 0 0) := by
  refine ⟨?_, ?_, ?_, ?_, ?_, ?_, ?_, ?_, ?_⟩ <;> simp [Rejected, exInit, initSt, St.n, tPrevote, tPrecommit, sNewHeight, alookup]
  all_goals decide

def tallyOf (vs : VSet) (v : Value) : List Nat × Nat :=
  match alookup vs.byBlock v with
  | some bv => (bv.who, bv.sum)
  | none => ([], 0)

/-- two vote sets hold the same votes: primary votes, their power, the tally of every block, the recorded majority -/
def SameVotes (a b : VSet) : Prop :=
  b.votes = a.votes ∧ b.sum = a.sum ∧ b.maj23 = a.maj23 ∧ ∀ v, tallyOf b v = tallyOf a v

theorem SameVotes.refl (a : VSet) : SameVotes a a := ⟨rfl, rfl, rfl, fun _ => rfl⟩

theorem setPeerMaj_votes (vs : VSet) (peer : Nat) (v : Value) : SameVotes vs (vs.setPeerMaj peer v) := by
  rcases VSet_setPeerMaj_shape vs peer v with e | e | e
  · rw [e]; exact SameVotes.refl vs
  · rw [e]; exact ⟨rfl, rfl, rfl, fun _ => rfl⟩
  rw [e]
  refine ⟨rfl, rfl, rfl, fun v' => ?_⟩
  unfold tallyOf
  dsimp only
  by_cases e : v' = v
  · subst e; rw [alookup_aset_same]; unfold flagged; cases alookup vs.byBlock v' <;> rfl
  · rw [alookup_aset_other e]

theorem setPeerMaj_sameVotes (b : St) (r t src v : Nat) (q : Nat) :
    SameVotes (b.pvs q) ((setPeerMaj b r t src v).pvs q) ∧ SameVotes (b.pcs q) ((setPeerMaj b r t src v).pcs q) := by
  have key : ∀ t', SameVotes (vsOf b t' q) (vsOf (setPeerMaj b r t src v) t' q) := fun t' => by
    rcases setPeerMaj_tables b r t src v t' q with e | e <;> rw [e]
    · exact SameVotes.refl _
    · exact setPeerMaj_votes _ _ _
  exact ⟨key tPrevote, key tPrecommit⟩

/-- **claims_do_not_vote**: whatever +2/3 claim a peer sends and whatever the state, the step emits nothing, does not panic, leaves the
core of the state alone, and in every vote set the recorded votes, their power, every block's tally and the recorded majority are as
before: only `peers`, `peerMaj` flags and EMPTY block entries can appear.  A claim never counts as a vote; majorities are made of
recorded votes (`Props.C01Node.maj23_has_quorum`) -/
theorem claims_do_not_vote (s : St) (r t src v tot : Nat) :
    let s' := step s (.maj23 r t src v tot)
    SameCore s s' ∧ s'.out = [] ∧ ∀ q, SameVotes (s.pvs q) (s'.pvs q) ∧ SameVotes (s.pcs q) (s'.pcs q) := by
  have key : SameCore s (stepCore s (.maj23 r t src v tot)) ∧ (stepCore s (.maj23 r t src v tot)).out = [] ∧
      (stepCore s (.maj23 r t src v tot)).decided = false ∧
      ∀ q, SameVotes (s.pvs q) ((stepCore s (.maj23 r t src v tot)).pvs q) ∧ SameVotes (s.pcs q) ((stepCore s (.maj23 r t src v tot)).pcs q) := by
    unfold stepCore
    dsimp only
    split
    · exact ⟨SameCore.of_bookkeeping .., rfl, rfl, fun q => ⟨SameVotes.refl _, SameVotes.refl _⟩⟩
    obtain ⟨tl, e1⟩ := learn_shape { s with out := [], decided := false } v tot
    rw [e1]
    have hv := setPeerMaj_sameVotes { s with out := [], decided := false, totals := tl } r t src v
    obtain ⟨rvs, e2⟩ := setPeerMaj_shape { s with out := [], decided := false, totals := tl } r t src v
    rw [e2] at hv ⊢
    exact ⟨SameCore.of_bookkeeping .., rfl, rfl, hv⟩
  obtain ⟨hcore, hout, hdec, hvotes⟩ := key
  simp only
  rw [step_of_not_decided hdec]
  exact ⟨hcore, hout, hvotes⟩

/-- the Go panics the model represents as explicit outcomes (`dead := true`); every other path of `Node.step` is an ordinary value
(`Node.step` is a total Lean function) -/
def panic_sites : List String :=
  [ "HeightVoteSet.SetRound: PanicSanity(SetRound() must increment hvs.round)                     — setRound",
    "enterNewRound: IncrementAccum on an empty validator set (nil proposer)                        — enterNewRound / newHeight",
    "enterPrevoteWait / enterPrecommitWait: PanicSanity(... does not have any +2/3 votes)           — enterPrevoteWait / enterPrecommitWait",
    "enterPrecommit: PanicSanity(This POLRound should be ...)                                      — enterPrecommit",
    "enterPrecommit: PanicConsensus(+2/3 prevoted for an invalid block / evidence)                 — enterPrecommit",
    "enterCommit: PanicSanity(RunActionCommit() expects +2/3 precommits)                           — enterCommit",
    "tryFinalizeCommit: PanicSanity(cs.Height vs height)                                           — tryFinalizeCommit",
    "finalizeCommit: PanicSanity(no +2/3 / parts header / block hash), PanicConsensus(invalid block) — finalizeCommit",
    "handleTimeout: panic(Invalid timeout step)                                                   — handleTimeout" ]

theorem rejected_never_panics (s : St) (i : In) (hr : Rejected s i) : (step s i).dead = s.dead :=
  (invalid_input_leaves_state s i hr).1.dead

theorem claims_never_panic (s : St) (r t src v tot : Nat) : (step s (.maj23 r t src v tot)).dead = s.dead :=
  (claims_do_not_vote s r t src v tot).1.dead

theorem step_silent {s : St} {i : In} (h : (stepCore s i).dead = s.dead ∧ (stepCore s i).out = [] ∧ (stepCore s i).decided = false) :
    (step s i).dead = s.dead ∧ (step s i).out = [] := by
  rw [step_of_not_decided h.2.2]; exact ⟨h.1, h.2.1⟩

theorem proposal_never_panics (s : St) (h r : Nat) (pol : Int) (v total : Nat) (signer : Int) (typ : Nat) :
    (step s (.proposal h r pol v total signer typ)).dead = s.dead ∧ (step s (.proposal h r pol v total signer typ)).out = [] := by
  apply step_silent
  unfold stepCore
  dsimp only
  split
  · exact ⟨rfl, rfl, rfl⟩
  obtain ⟨p, b, pp, e2⟩ := setProposal_shape (learn { s with out := [], decided := false } v total) h r pol v total signer typ
  obtain ⟨tl, e1⟩ := learn_shape { s with out := [], decided := false } v total
  rw [e2, e1]
  exact ⟨rfl, rfl, rfl⟩

/-- `VoteSet.addVerifiedVote`'s `PanicSanity("addVerifiedVote does not expect duplicate votes")` is unreachable: the model (like the
code) calls it only for a vote that is not known, and then the validator's primary vote is not for the same block -/
theorem addVerified_not_duplicate (vs : VSet) (i : Nat) (v : Value) (h : vs.known i v = false) : alookup vs.votes i ≠ some v := by
  unfold VSet.known at h
  intro e
  simp [e] at h

/-- `HeightVoteSet.addRound`'s `PanicSanity("addRound() for an existing round")` is unreachable: a catch-up round is added only for a
round without vote sets -/
theorem catchupRound_new_round_only {s s1 : St} {r src : Nat} (h : catchupRound s r src = some s1) :
    s1.rvs = s.rvs ∨ (alookup s.rvs r = none ∧ s1.rvs = s.rvs ++ [(r, RV.empty)]) := by
  unfold catchupRound at h
  split at h
  · cases h; exact Or.inl rfl
  · rename_i hn
    simp only at h
    split at h
    · cases h; exact Or.inr ⟨hn, rfl⟩
    · cases h

/-- an accepted block part that does not complete the part set (or completes one that does not decode) only stores the part: no panic,
no output, from any state -/
theorem incomplete_part_never_panics (s : St) (h r pv idx : Nat) (vOK cOK dec : Bool)
    (hinc : ∀ ps, s.pbp = some ps → (idx :: ps.got).length ≠ ps.total ∨ dec = false) :
    (step s (.part h r pv idx vOK cOK dec)).dead = s.dead ∧ (step s (.part h r pv idx vOK cOK dec)).out = [] := by
  apply step_silent
  unfold stepCore
  dsimp only
  split
  · exact ⟨rfl, rfl, rfl⟩
  refine addPart_cases (P := fun x => x.dead = s.dead ∧ x.out = [] ∧ x.decided = false) _ h pv idx dec ⟨rfl, rfl, rfl⟩
    fun ps hps _ _ _ _ => ⟨fun _ => ⟨rfl, rfl, rfl⟩, fun hlen hdec => ?_⟩
  rcases hinc ps hps with h1 | h1
  · exact absurd hlen h1
  · rw [h1] at hdec; cases hdec

theorem polkaUpdate_idle {s : St} {r : Nat} (h1 : (s.pvs r).maj23 = none) : polkaUpdate s r (s.pvs r) = s := by
  unfold polkaUpdate; rw [h1]

theorem onPrevote_idle {s : St} {r : Nat} (h1 : (s.pvs r).maj23 = none) (h2 : (s.pvs r).hasAny s.total = false) :
    onPrevote s r (s.pvs r) = s := by
  unfold onPrevote
  dsimp only
  rw [if_neg (fun hc => by rw [h2] at hc; exact Bool.false_ne_true hc.2)]
  split
  · rename_i pol hpol
    rw [if_neg]
    rintro ⟨_, c2, c3⟩
    unfold isProposalComplete at c3
    rw [hpol] at c3
    dsimp only at c3
    split at c3
    · cases c3
    · split at c3
      · omega
      · subst c2; simp [h1] at c3
  · rfl

theorem onPrecommit_idle {s : St} {r : Nat} (h3 : (s.pcs r).maj23 = none) (h4 : (s.pcs r).hasAny s.total = false) :
    onPrecommit s r (s.pcs r) = s := by
  unfold onPrecommit
  dsimp only
  rw [h3]
  dsimp only
  rw [if_neg (fun hc => by rw [h4] at hc; exact Bool.false_ne_true hc.2)]

theorem vote_below_thresholds (s : St) (t h r idx v tot src : Nat) (ok : Bool)
    (hsub : ∀ b : St, b = learn { s with out := [], decided := false } v tot →
      (vsOf (recordVote b t r idx v src ok).1 t r).maj23 = none ∧ (vsOf (recordVote b t r idx v src ok).1 t r).hasAny b.total = false) :
    (step s (.vote t h r idx v tot src ok)).dead = s.dead ∧ (step s (.vote t h r idx v tot src ok)).out = [] := by
  apply step_silent
  unfold stepCore
  dsimp only
  split
  · exact ⟨rfl, rfl, rfl⟩
  obtain ⟨h1, h2⟩ := hsub _ rfl
  obtain ⟨tl, e1⟩ := learn_shape { s with out := [], decided := false } v tot
  rw [e1] at h1 h2 ⊢
  refine addVote_cases (P := fun x => x.dead = s.dead ∧ x.out = [] ∧ x.decided = false) _ t h r idx v src ok ⟨rfl, rfl, rfl⟩
    fun _ _ s2 added hrec => ?_
  obtain ⟨rvs, cu, esh⟩ := recordVote_shape { s with out := [], decided := false, totals := tl } t r idx v src ok
  rw [hrec] at h1 h2 esh
  dsimp only at h1 h2 esh
  have hq : s2.dead = s.dead ∧ s2.out = [] ∧ s2.decided = false := by rw [esh]; exact ⟨rfl, rfl, rfl⟩
  have h2 : (vsOf s2 t r).hasAny s2.total = false := by
    have : s2.total = s.total := by rw [esh]; rfl
    rw [this]; exact h2
  refine ⟨fun _ => hq, fun _ ht => ?_, fun _ ht => ?_⟩
  · subst ht; rw [polkaUpdate_idle h1, onPrevote_idle h1 h2]; exact hq
  · subst ht; rw [onPrecommit_idle h1 h2]; exact hq

/-- an accepted vote that crosses no threshold — after recording it neither the prevote nor the precommit set of its round has a +2/3
majority or +2/3 of any votes (`vote_below_thresholds` asks this of the set of the vote's own type only) — is only recorded: no panic,
no output, from any state.  (Only threshold-crossing votes and block-completing parts run the `enter*` functions, where all panic
sites of `panic_sites` live.) -/
theorem subthreshold_vote_never_panics (s : St) (t h r idx v tot src : Nat) (ok : Bool)
    (hsub : ∀ b : St, b = learn { s with out := [], decided := false } v tot →
      ((recordVote b t r idx v src ok).1.pvs r).maj23 = none ∧ ((recordVote b t r idx v src ok).1.pvs r).hasAny b.total = false ∧
      ((recordVote b t r idx v src ok).1.pcs r).maj23 = none ∧ ((recordVote b t r idx v src ok).1.pcs r).hasAny b.total = false) :
    (step s (.vote t h r idx v tot src ok)).dead = s.dead ∧ (step s (.vote t h r idx v tot src ok)).out = [] := by
  refine vote_below_thresholds s t h r idx v tot src ok fun b hb => ?_
  obtain ⟨h1, h2, h3, h4⟩ := hsub b hb
  unfold vsOf
  split
  · exact ⟨h1, h2⟩
  · exact ⟨h3, h4⟩

/-- "unreachable from ANY state" is too strong for the sanity sites: from a state no run produces (round 3 while the vote book-keeping
still tracks round 0 only) the third prevote of round 3 reaches `PanicSanity("This POLRound should be ...")` in `enterPrecommit`.  The
statement for all states, kept as a definition: -/
def accepted_input_never_panics_any_state : Prop := ∀ (s : St) (i : In), s.dead = false → (step s i).dead = false

def exOddPv : VSet := ((VSet.empty.add 4 4 0 1 0 true).1.add 4 4 1 1 0 true).1

def exOdd : St :=
  { exInit with round := 3, step := sPrevote, hround := 0, out := [], rvs := [(3, ⟨exOddPv, VSet.empty⟩)] }

theorem accepted_input_can_panic_from_unreachable_state : ¬ accepted_input_never_panics_any_state := by
  intro h
  have := h exOdd (.vote tPrevote 1 3 2 0 0 2 true) (by decide)
  exact absurd this (by decide)

end Props.C16Node
