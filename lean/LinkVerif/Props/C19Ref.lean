/-
C19: the reference ordered map, batches, and `MemDB` refines the reference (`Refines`: related stores answer
every operation alike and writes keep them related, hence any op sequence: `Refines.run`).
-/
import LinkVerif.Model.KV
import LinkVerif.Props.C19Order

namespace Props.C19
open Model.KV

/-- strictly ascending keys -/
def Sorted (m : Ref) : Prop := m.Pairwise (fun a b => blt a.1 b.1 = true)

theorem Ref.get_cons (k0 v0 : Bytes) (rest : Ref) (k : Bytes) :
    Ref.get ((k0, v0) :: rest) k = if k0 = k then some v0 else Ref.get rest k := by
  simp only [Ref.get, beq_iff_eq]

theorem Ref.set_cons (k0 v0 : Bytes) (rest : Ref) (k v : Bytes) :
    (blt k k0 = true ∧ Ref.set ((k0, v0) :: rest) k v = (k, v) :: (k0, v0) :: rest) ∨
    (blt k0 k = true ∧ Ref.set ((k0, v0) :: rest) k v = (k0, v0) :: Ref.set rest k v) ∨
    (k = k0 ∧ Ref.set ((k0, v0) :: rest) k v = (k, v) :: rest) := by
  rw [Ref.set]
  rcases blt_total k k0 with h | h | h
  · exact Or.inl ⟨h, if_pos h⟩
  · subst h
    exact Or.inr (Or.inr ⟨rfl, by rw [if_neg (Bool.eq_false_iff.mp (blt_irrefl k)), if_neg (Bool.eq_false_iff.mp (blt_irrefl k))]⟩)
  · exact Or.inr (Or.inl ⟨h, by rw [if_neg (Bool.eq_false_iff.mp (blt_asymm h)), if_pos h]⟩)

theorem Ref.get_set (m : Ref) (k v k' : Bytes) :
    Ref.get (Ref.set m k v) k' = if k = k' then some v else Ref.get m k' := by
  induction m with
  | nil => exact Ref.get_cons k v [] k'
  | cons x rest ih =>
    obtain ⟨k0, v0⟩ := x
    rcases Ref.set_cons k0 v0 rest k v with ⟨_, e⟩ | ⟨h, e⟩ | ⟨rfl, e⟩ <;> rw [e]
    · exact Ref.get_cons k v _ k'
    · rw [Ref.get_cons, ih, Ref.get_cons]
      by_cases hk : k = k'
      · simp only [if_pos hk, if_neg (hk ▸ blt_ne h)]
      · simp only [if_neg hk]
    · rw [Ref.get_cons, Ref.get_cons]
      by_cases hk : k = k'
      · simp only [if_pos hk]
      · simp only [if_neg hk]

theorem get_filter_ne (l : List KV) (k k' : Bytes) :
    Ref.get (l.filter (fun kv => !(kv.1 == k))) k' = if k = k' then none else Ref.get l k' := by
  induction l with
  | nil => exact (ite_self _).symm
  | cons x rest ih =>
    obtain ⟨k0, v0⟩ := x
    rw [List.filter_cons]
    by_cases h0 : k0 = k
    · subst h0
      rw [if_neg (by simp), ih, Ref.get_cons]
      by_cases hk : k0 = k'
      · simp only [if_pos hk]
      · simp only [if_neg hk]
    · rw [if_pos (by simp [h0]), Ref.get_cons, ih, Ref.get_cons]
      by_cases hk : k = k'
      · simp only [if_pos hk, if_neg (hk ▸ h0)]
      · simp only [if_neg hk]

theorem Ref.get_del (m : Ref) (k k' : Bytes) :
    Ref.get (Ref.del m k) k' = if k = k' then none else Ref.get m k' := get_filter_ne m k k'

theorem Ref.mem_set {m : Ref} {k v : Bytes} {x : KV} (h : x ∈ Ref.set m k v) : x = (k, v) ∨ x ∈ m := by
  induction m with
  | nil => exact Or.inl (List.mem_singleton.mp h)
  | cons y rest ih =>
    obtain ⟨k0, v0⟩ := y
    rcases Ref.set_cons k0 v0 rest k v with ⟨_, e⟩ | ⟨_, e⟩ | ⟨_, e⟩ <;> rw [e] at h
    · exact List.mem_cons.mp h
    · rcases List.mem_cons.mp h with h | h
      · exact Or.inr (h ▸ List.mem_cons_self)
      · exact (ih h).imp_right (List.mem_cons_of_mem _)
    · exact (List.mem_cons.mp h).imp_right (List.mem_cons_of_mem _)

theorem Ref.set_sorted {m : Ref} (hs : Sorted m) (k v : Bytes) : Sorted (Ref.set m k v) := by
  induction m with
  | nil => exact List.pairwise_singleton _ _
  | cons y rest ih =>
    obtain ⟨k0, v0⟩ := y
    obtain ⟨h0, hrest⟩ := List.pairwise_cons.mp hs
    rcases Ref.set_cons k0 v0 rest k v with ⟨h, e⟩ | ⟨h, e⟩ | ⟨rfl, e⟩ <;> rw [e]
    · refine List.pairwise_cons.mpr ⟨fun a ha => ?_, hs⟩
      rcases List.mem_cons.mp ha with rfl | ha
      · exact h
      · exact blt_trans h (h0 a ha)
    · refine List.pairwise_cons.mpr ⟨fun a ha => ?_, ih hrest⟩
      rcases Ref.mem_set ha with rfl | ha
      · exact h
      · exact h0 a ha
    · exact List.pairwise_cons.mpr ⟨h0, hrest⟩

theorem Ref.del_sorted {m : Ref} (hs : Sorted m) (k : Bytes) : Sorted (Ref.del m k) :=
  List.Pairwise.filter _ hs

theorem Ref.get_of_mem {m : Ref} (hs : Sorted m) {k v : Bytes} (h : (k, v) ∈ m) : Ref.get m k = some v := by
  induction m with
  | nil => cases h
  | cons y rest ih =>
    obtain ⟨k0, v0⟩ := y
    rw [Ref.get_cons]
    rcases List.mem_cons.mp h with h | h
    · obtain ⟨rfl, rfl⟩ := Prod.mk.inj h
      rw [if_pos rfl]
    · rw [if_neg (blt_ne ((List.pairwise_cons.mp hs).1 (k, v) h))]
      exact ih (List.pairwise_cons.mp hs).2 h

theorem Ref.mem_of_get {m : Ref} {k v : Bytes} (h : Ref.get m k = some v) : (k, v) ∈ m := by
  induction m with
  | nil => cases h
  | cons y rest ih =>
    obtain ⟨k0, v0⟩ := y
    rw [Ref.get_cons] at h
    by_cases hk : k0 = k
    · rw [if_pos hk] at h
      rw [← hk, ← Option.some.inj h]
      exact List.mem_cons_self
    · rw [if_neg hk] at h
      exact List.mem_cons_of_mem _ (ih h)

theorem Ref.mem_iff_get {m : Ref} (hs : Sorted m) {k v : Bytes} : (k, v) ∈ m ↔ Ref.get m k = some v :=
  ⟨Ref.get_of_mem hs, Ref.mem_of_get⟩

/-- ITERATOR SPEC (reference): a forward iteration lists, in strictly ascending key order, exactly the
stored pairs with `start <= key < end`; a reverse iteration the pairs with `end < key <= start`, descending -/
theorem Ref.iter_spec {m : Ref} (hs : Sorted m) (s e : Bound) :
    Sorted (Ref.iter m s e) ∧
    ∀ k v, (k, v) ∈ Ref.iter m s e ↔ (Ref.get m k = some v ∧ inFwd k s e = true) := by
  refine ⟨List.Pairwise.filter _ hs, fun k v => ?_⟩
  rw [Ref.iter, List.mem_filter, Ref.mem_iff_get hs]

theorem Ref.riter_spec {m : Ref} (hs : Sorted m) (s e : Bound) :
    Sorted (Ref.riter m s e).reverse ∧
    ∀ k v, (k, v) ∈ Ref.riter m s e ↔ (Ref.get m k = some v ∧ inRev k s e = true) := by
  refine ⟨by rw [Ref.riter, List.reverse_reverse]; exact List.Pairwise.filter _ hs, fun k v => ?_⟩
  rw [Ref.riter, List.mem_reverse, List.mem_filter, Ref.mem_iff_get hs]

/-- what a batch does to one key: the last operation on that key wins, otherwise the old value stays -/
def batchEffect (ops : List BOp) (k : Bytes) (old : Option Bytes) : Option Bytes :=
  ops.foldl (fun cur op => match op with
    | .set k' v => if k' = k then some v else cur
    | .del k' => if k' = k then none else cur) old

theorem Ref.get_writeBatch (m : Ref) (ops : List BOp) (k : Bytes) :
    Ref.get (writeBatch refI m ops) k = batchEffect ops k (Ref.get m k) := by
  refine List.foldl_rel (r := fun st cur => Ref.get st k = cur) rfl fun op _ st cur h => ?_
  cases op with
  | set k' v => simp [applyBOp, refI, Ref.get_set, h]
  | del k' => simp [applyBOp, refI, Ref.get_del, h]

/-- BATCH, ATOMIC AND ORDERED: `Write` is the fold of the recorded operations in their own order, and on the
reference map that means: every key ends with the value of the LAST operation of the batch on it -/
theorem batch_atomic_ordered (m : Ref) (ops : List BOp) (k : Bytes) :
    writeBatch refI m ops = ops.foldl (applyBOp refI) m ∧
    Ref.get (writeBatch refI m ops) k = batchEffect ops k (Ref.get m k) :=
  ⟨rfl, Ref.get_writeBatch m ops k⟩

theorem writeBatch_rel {σ τ : Type} {I : DBI σ} {J : DBI τ} {R : σ → τ → Prop}
    (hset : ∀ {a b} (k v : Bytes), R a b → R (I.set a k v) (J.set b k v))
    (hdel : ∀ {a b} (k : Bytes), R a b → R (I.del a k) (J.del b k)) (ops : List BOp) :
    ∀ {a b}, R a b → R (writeBatch I a ops) (writeBatch J b ops) := fun hab =>
  List.foldl_rel hab fun op _ _ _ h => by
    cases op with
    | set k v => exact hset k v h
    | del k => exact hdel k h

theorem writeBatch_sorted {m : Ref} (hs : Sorted m) (ops : List BOp) : Sorted (writeBatch refI m ops) :=
  writeBatch_rel (I := refI) (J := refI) (R := fun a _ => Sorted a) (fun k v h => Ref.set_sorted h k v)
    (fun k h => Ref.del_sorted h k) ops (b := m) hs

/-- RESET ABANDONS: writing a reset (empty) batch changes nothing, on every backend model -/
theorem reset_abandons {σ : Type} (I : DBI σ) (db : σ) : writeBatch I db [] = db := rfl

/-- nothing of a batch exists outside its own op list before `Write`: recording is a function of the batch only
(the store is not an argument), so any interleaving of recordings commutes with every read -/
theorem batch_invisible_before_write (m : Ref) (ops : List BOp) (op : BOp) (k : Bytes) :
    Ref.get m k = Ref.get m k ∧ writeBatch refI m (ops ++ [op]) = applyBOp refI (writeBatch refI m ops) op := by
  refine ⟨rfl, ?_⟩
  simp [writeBatch, List.foldl_append]

example : batchEffect [.set [1] [2], .del [1], .set [1] [3]] [1] none = some [3] := rfl
example : Ref.get (writeBatch refI [([1], [9])] [.del [1], .set [2] [5]]) [1] = none := rfl

def keysOf (l : List KV) : List Bytes := l.map (·.1)

/-- simulation relation: same lookups, reference sorted, Go map keys distinct -/
structure Sim (db : MemDB) (ref : Ref) : Prop where
  sorted : Sorted ref
  nodup : (keysOf db.m).Nodup
  get : ∀ k, db.get k = Ref.get ref k

theorem MemDB.get_set (db : MemDB) (k v k' : Bytes) :
    (db.set k v).get k' = if k = k' then some v else db.get k' := by
  rw [MemDB.set, MemDB.get, Ref.get_cons, get_filter_ne]
  by_cases hk : k = k'
  · simp only [if_pos hk]
  · simp only [if_neg hk, MemDB.get]

theorem MemDB.get_del (db : MemDB) (k k' : Bytes) :
    (db.del k).get k' = if k = k' then none else db.get k' := get_filter_ne db.m k k'

theorem keysOf_filter_nodup {l : List KV} (h : (keysOf l).Nodup) (p : KV → Bool) : (keysOf (l.filter p)).Nodup := by
  unfold keysOf at *
  exact (List.filter_sublist.map _).nodup h

theorem mem_keys_iff_get (l : List KV) (k : Bytes) : k ∈ keysOf l ↔ (Ref.get l k).isSome = true := by
  induction l with
  | nil => exact ⟨fun h => (nomatch h), fun h => (nomatch h)⟩
  | cons x rest ih =>
    obtain ⟨k0, v0⟩ := x
    rw [keysOf, List.map_cons, List.mem_cons, Ref.get_cons]
    by_cases hk : k0 = k
    · rw [if_pos hk]; exact ⟨fun _ => rfl, fun _ => Or.inl hk.symm⟩
    · rw [if_neg hk, ← ih]
      exact ⟨fun h => h.resolve_left (fun e => hk e.symm), Or.inr⟩

theorem sim_set {db : MemDB} {ref : Ref} (h : Sim db ref) (k v : Bytes) : Sim (db.set k v) (Ref.set ref k v) where
  sorted := Ref.set_sorted h.sorted k v
  nodup := by
    refine List.nodup_cons.mpr ⟨fun hm => ?_, keysOf_filter_nodup h.nodup _⟩
    have hm' := (mem_keys_iff_get _ k).mp hm
    rw [get_filter_ne, if_pos rfl] at hm'
    cases hm'
  get := by intro k'; rw [MemDB.get_set, Ref.get_set, h.get]

theorem sim_del {db : MemDB} {ref : Ref} (h : Sim db ref) (k : Bytes) : Sim (db.del k) (Ref.del ref k) where
  sorted := Ref.del_sorted h.sorted k
  nodup := keysOf_filter_nodup h.nodup _
  get := by intro k'; rw [MemDB.get_del, Ref.get_del, h.get]

def KSorted (l : List Bytes) : Prop := l.Pairwise (fun a b => blt a b = true)

theorem mem_insertKey {k x : Bytes} {l : List Bytes} : x ∈ insertKey k l ↔ x = k ∨ x ∈ l := by
  induction l with
  | nil => simp [insertKey]
  | cons y rest ih =>
    rw [insertKey]
    split
    · rw [List.mem_cons, ih, List.mem_cons, or_left_comm]
    · rw [List.mem_cons]

theorem mem_sortKeys {x : Bytes} {l : List Bytes} : x ∈ sortKeys l ↔ x ∈ l := by
  induction l with
  | nil => simp [sortKeys]
  | cons y rest ih => simp [sortKeys, mem_insertKey, ih]

theorem insertKey_sorted {k : Bytes} {l : List Bytes} (hs : KSorted l) (hk : k ∉ l) : KSorted (insertKey k l) := by
  induction l with
  | nil => exact List.pairwise_singleton _ _
  | cons y rest ih =>
    obtain ⟨h0, hrest⟩ := List.pairwise_cons.mp hs
    rw [insertKey]
    split
    · next h1 =>
      refine List.pairwise_cons.mpr ⟨fun a ha => ?_, ih hrest (fun e => hk (List.mem_cons_of_mem _ e))⟩
      rcases mem_insertKey.mp ha with rfl | ha
      · exact h1
      · exact h0 a ha
    · next h1 =>
      have hlt : blt k y = true :=
        ((blt_total k y).resolve_right fun h => h.elim (fun e => hk (e ▸ List.mem_cons_self)) h1)
      refine List.pairwise_cons.mpr ⟨fun a ha => ?_, hs⟩
      rcases List.mem_cons.mp ha with rfl | ha
      · exact hlt
      · exact blt_trans hlt (h0 a ha)

/-- `sort.Strings` on distinct keys gives the strictly ascending list -/
theorem sortKeys_sorted {l : List Bytes} (hn : l.Nodup) : KSorted (sortKeys l) := by
  induction l with
  | nil => simp [sortKeys, KSorted]
  | cons y rest ih =>
    rw [List.nodup_cons] at hn
    simp only [sortKeys]
    exact insertKey_sorted (ih hn.2) (fun h => hn.1 (mem_sortKeys.mp h))

theorem sorted_ext {a b : Ref} (ha : Sorted a) (hb : Sorted b) (h : ∀ kv, kv ∈ a ↔ kv ∈ b) : a = b := by
  have nd : ∀ {m : Ref}, Sorted m → m.Nodup := fun hm =>
    hm.imp fun hxy e => blt_ne hxy (congrArg Prod.fst e)
  apply List.Perm.eq_of_pairwise (le := fun x y : KV => blt x.1 y.1 = true) _ ha hb
  · exact (List.perm_ext_iff_of_nodup (nd ha) (nd hb)).mpr h
  · intro x y _ _ hxy hyx
    rw [blt_asymm hxy] at hyx; cases hyx

/-- the heart of the refinement: draining `getSortedKeys` under a key predicate is filtering the reference -/
theorem drain_sorted_eq {db : MemDB} {ref : Ref} (h : Sim db ref) (P : Bytes → Bool) :
    db.drain (sortKeys ((db.m.map (·.1)).filter P)) = ref.filter (fun kv => P kv.1) := by
  refine sorted_ext (List.pairwise_map.mpr (sortKeys_sorted (List.filter_sublist.nodup h.nodup)))
    (List.Pairwise.filter _ h.sorted) fun ⟨k, v⟩ => ?_
  rw [MemDB.drain, List.mem_map, List.mem_filter, Ref.mem_iff_get h.sorted, ← h.get]
  constructor
  · rintro ⟨k', hk', hkv⟩
    obtain ⟨rfl, rfl⟩ := Prod.mk.inj hkv
    obtain ⟨hm, hp⟩ := List.mem_filter.mp (mem_sortKeys.mp hk')
    obtain ⟨v, hv⟩ := Option.isSome_iff_exists.mp ((mem_keys_iff_get db.m k').mp hm)
    refine ⟨?_, hp⟩
    rw [MemDB.get, hv]
    rfl
  · rintro ⟨hg, hp⟩
    have hm : k ∈ keysOf db.m := (mem_keys_iff_get db.m k).mpr (congrArg Option.isSome hg)
    exact ⟨k, mem_sortKeys.mpr (List.mem_filter.mpr ⟨hm, hp⟩), by rw [hg]; rfl⟩

/-- ITERATOR SPEC (MemDB): `Iterator(s, e)` = the sorted content filtered by `s <= k < e` -/
theorem memdb_iter_spec {db : MemDB} {ref : Ref} (h : Sim db ref) (s e : Bound) :
    db.iter s e = Ref.iter ref s e := by
  rw [MemDB.iter, MemDB.getSortedKeys, if_neg Bool.false_ne_true]
  exact (drain_sorted_eq h _).trans (List.filter_congr fun kv _ => isKeyInDomain_fwd kv.1 s e)

/-- ... and `ReverseIterator(s, e)` = the sorted content filtered by `e < k <= s`, reversed -/
theorem memdb_riter_spec {db : MemDB} {ref : Ref} (h : Sim db ref) (s e : Bound) :
    db.riter s e = Ref.riter ref s e := by
  rw [MemDB.riter, MemDB.getSortedKeys, if_pos rfl, MemDB.drain, List.map_reverse]
  exact congrArg List.reverse ((drain_sorted_eq h _).trans (List.filter_congr fun kv _ => isKeyInDomain_rev kv.1 s e))

/-- one call of a client on a store (`runI`: the answers, in order) -/
inductive Op where
  | set (k v : Bytes)
  | del (k : Bytes)
  | get (k : Bytes)
  | has (k : Bytes)
  | iter (s e : Bound)
  | riter (s e : Bound)
  | write (batch : List BOp)      -- a batch reaches the store only here
deriving Repr

inductive Out where
  | unit
  | val (v : Option Bytes)
  | bool (b : Bool)
  | kvs (l : List KV)
  | panic                 -- only the engine-specific empty-key rules produce it (C19Compose)
deriving Repr, DecidableEq

def stepI {σ : Type} (I : DBI σ) (db : σ) : Op → σ × Out
  | .set k v => (I.set db k v, .unit)
  | .del k => (I.del db k, .unit)
  | .get k => (db, .val (I.get db k))
  | .has k => (db, .bool (I.get db k).isSome)
  | .iter s e => (db, .kvs (I.iter db s e))
  | .riter s e => (db, .kvs (I.riter db s e))
  | .write b => (writeBatch I db b, .unit)

def runI {σ : Type} (I : DBI σ) : σ → List Op → List Out
  | _, [] => []
  | db, op :: rest => let (db', o) := stepI I db op; o :: runI I db' rest

theorem runI_cons {σ : Type} (I : DBI σ) (db : σ) (op : Op) (rest : List Op) :
    runI I db (op :: rest) = (stepI I db op).2 :: runI I (stepI I db op).1 rest := rfl

theorem runI_congr {σ τ : Type} {I : DBI σ} {J : DBI τ} {R : σ → τ → Prop} (ops : List Op)
    (hstep : ∀ {a b}, ∀ op ∈ ops, R a b → R (stepI I a op).1 (stepI J b op).1 ∧ (stepI I a op).2 = (stepI J b op).2) :
    ∀ {a : σ} {b : τ}, R a b → runI I a ops = runI J b ops := by
  induction ops with
  | nil => exact fun _ => rfl
  | cons op rest ih =>
    intro a b hab
    obtain ⟨hR, ho⟩ := hstep op List.mem_cons_self hab
    rw [runI_cons, runI_cons, ho, ih (fun o h => hstep o (List.mem_cons_of_mem _ h)) hR]

structure Refines {σ τ : Type} (I : DBI σ) (J : DBI τ) (R : σ → τ → Prop) : Prop where
  set : ∀ {a b} (k v : Bytes), R a b → R (I.set a k v) (J.set b k v)
  del : ∀ {a b} (k : Bytes), R a b → R (I.del a k) (J.del b k)
  get : ∀ {a b} (k : Bytes), R a b → I.get a k = J.get b k
  iter : ∀ {a b} (s e : Bound), R a b → I.iter a s e = J.iter b s e
  riter : ∀ {a b} (s e : Bound), R a b → I.riter a s e = J.riter b s e

theorem Refines.run {σ τ : Type} {I : DBI σ} {J : DBI τ} {R : σ → τ → Prop} (h : Refines I J R) {a : σ} {b : τ}
    (hab : R a b) (ops : List Op) : runI I a ops = runI J b ops := by
  refine runI_congr (R := R) ops (fun op _ hab => ?_) hab
  cases op with
  | set k v => exact ⟨h.set k v hab, rfl⟩
  | del k => exact ⟨h.del k hab, rfl⟩
  | get k => exact ⟨hab, congrArg Out.val (h.get k hab)⟩
  | has k => exact ⟨hab, congrArg (fun v : Option Bytes => Out.bool v.isSome) (h.get k hab)⟩
  | iter s e => exact ⟨hab, congrArg Out.kvs (h.iter s e hab)⟩
  | riter s e => exact ⟨hab, congrArg Out.kvs (h.riter s e hab)⟩
  | write b => exact ⟨writeBatch_rel h.set h.del b hab, rfl⟩

theorem memdb_refines : Refines memI refI Sim where
  set k v h := sim_set h k v
  del k h := sim_del h k
  get k h := h.get k
  iter s e h := memdb_iter_spec h s e
  riter s e h := memdb_riter_spec h s e

/-- MEMDB REFINES THE REFERENCE: for ANY sequence of writes, deletes, lookups, forward/reverse iterations with
any bounds and written batches, `MemDB` (Go map + `getSortedKeys`) answers exactly like the sorted reference map -/
theorem memdb_refines_ref (ops : List Op) : runI memI ⟨[]⟩ ops = runI refI [] ops :=
  memdb_refines.run (a := ⟨[]⟩) (b := []) ⟨List.Pairwise.nil, List.nodup_nil, fun _ => rfl⟩ ops

/-- the Go map's iteration order is irrelevant: any two maps with the same lookups answer alike -/
theorem memdb_order_irrelevant {db₁ db₂ : MemDB} {ref : Ref} (h₁ : Sim db₁ ref) (h₂ : Sim db₂ ref) (ops : List Op) :
    runI memI db₁ ops = runI memI db₂ ops :=
  (memdb_refines.run h₁ ops).trans (memdb_refines.run h₂ ops).symm

example : runI memI ⟨[]⟩ [.set [2] [1], .set [1] [1], .write [.del [2], .set [3] [7]], .iter none none, .riter (some [3]) (some [1])]
    = [.unit, .unit, .unit, .kvs [([1], [1]), ([3], [7])], .kvs [([3], [7])]] := rfl

end Props.C19
