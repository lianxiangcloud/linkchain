/-
C03: the other entry points of the commit rule.
  * `VerifyCommitAny` (exported, no caller): after fix ddc1c92 (a `seen` set, marked before the signature test) the full
    statement is PROVED (`C03_verifyCommitAny`); on aligned commits it coincides with `VerifyCommit`;
  * the call sites (T2 facts re-extracted on every run): which validator set / chain / block id / height / commit each caller
    hands to `VerifyCommit`, what it does on failure, and the exact shape of `reconstructLastCommit`;
  * `reconstruct` (restart): a rebuilt LastCommit has > 2/3 of the last validators' power behind its majority block;
  * `MultiSignAccountTx.VerifySign`: accepted only with > 2/3 of the validators' power, every signer counted once.
-/
import LinkVerif.Props.C03Inv
import LinkVerif.Model.Mst
import LinkVerif.Gen.CommitSites

namespace Props.C03
open Go Gen.CommitArith Model.Vote Model.VoteSet Model.Commit Model.Mst

/-- block validation checks the LastCommit against the LAST validators, this chain, the last block id, height-1, and
returns the error; fast sync checks the commit of `first` (carried by `second.LastCommit`) against the CURRENT validators,
for the id recomputed from `first` itself, and on failure redoes both requests and leaves the loop before anything is
applied; `CheckBasic` hands `VerifySign` the last changed validator set -/
theorem call_sites_pass_the_right_set :
    Gen.CommitSites.validateBlockCall = ["status.LastValidators", "status.ChainID", "status.LastBlockID", "block.Height - 1", "block.LastCommit"] ∧
    Gen.CommitSites.validateBlockOnError = ["return err"] ∧
    Gen.CommitSites.fastSyncCall = ["status.Validators", "chainID", "firstID", "first.Height", "second.LastCommit"] ∧
    Gen.CommitSites.fastSyncOnError = ["peerID := bcR.pool.RedoRequest(first.Height)", "peerID = bcR.pool.RedoRequest(second.Height)", "break SYNC_LOOP"] ∧
    Gen.CommitSites.fastSyncBlockID = ["firstParts := first.MakePartSet(status.ConsensusParams.BlockPartSizeBytes)",
      "firstPartsHeader := firstParts.Header()", "firstID := types.BlockID{first.Hash(), firstPartsHeader}"] ∧
    Gen.CommitSites.mstCheckBasic = ["if IsTestMode", "_, vals := censor.GetLastChangedVals()", "valSets := NewValidatorSet(vals)", "return tx.VerifySign(valSets)"] :=
  ⟨rfl, rfl, rfl, rfl, rfl, rfl⟩

/-- `reconstructLastCommit` is exactly the loop that `Model.Commit.reconstruct` models: a precommit vote set of the LAST
validators at the last height and the stored commit's round; every stored precommit must be added without error; the
majority test guards the assignment of `cs.LastCommit` -/
theorem reconstruct_shape :
    Gen.CommitSites.reconstructVoteSet = ["types", "status.ChainID", "status.LastBlockHeight", "seenCommit.Round()", "types.VoteTypePrecommit", "status.LastValidators"] ∧
    Gen.CommitSites.reconstructBody = ["if status.LastBlockHeight == types.BlockHeightZero", "  return",
      "seenCommit := cs.appmgr.LoadSeenCommit(status.LastBlockHeight)",
      "lastPrecommits := types.NewVoteSet(status.ChainID, status.LastBlockHeight, seenCommit.Round(), types.VoteTypePrecommit, status.LastValidators)",
      "range seenCommit.Precommits", "  if precommit == nil", "    continue", "  added, err := lastPrecommits.AddVote(precommit)",
      "  if !added || err != nil", "    cmn.PanicCrisis(cmn.Fmt(\"Failed to reconstruct LastCommit: %v\", err))",
      "if !lastPrecommits.HasTwoThirdsMajority()", "  cmn.PanicSanity(\"Failed to reconstruct LastCommit: Does not have +2/3 maj\")",
      "cs.LastCommit = lastPrecommits"] :=
  ⟨rfl, rfl⟩

theorem Run.head {verify : Verify} {s t u : VS} (hs : Step verify s t) (hr : Run verify t u) : Run verify s u := by
  induction hr with
  | refl => exact .tail _ _ _ (.refl _) hs
  | tail _ _ _ hs' ih => exact .tail _ _ _ ih hs'

theorem feedAll_run {verify : Verify} {s s' : VS} {ps : List (Option Vote)} (h : feedAll verify s ps = some s') :
    Run verify s s' := by
  induction ps generalizing s with
  | nil => cases h; exact .refl _
  | cons o ps ih =>
    cases o with
    | none => exact ih h
    | some v =>
      rw [feedAll] at h
      cases hr : addVote verify s v with
      | none => rw [hr] at h; cases h
      | some r =>
        simp only [hr] at h
        split at h
        · exact .head (.vote s v r hr) (ih h)
        · cases h

/-- A REBUILT LastCommit IS A COMMIT: if the restart does not panic, the vote set it installs reports a majority block
that has strictly more than two thirds of the last validators' power among its canonical votes, and `MakeCommit` of it
passes `VerifyCommit` for the same validator set -/
theorem reconstruct_sound (verify : Verify) (chain : List UInt8) (h : Nat) (vals : List Val) (seen : Option Commit) (s : VS)
    (hno : NoOverflow vals) (hr : reconstruct verify chain h vals seen = some (some s)) :
    ∃ b, twoThirdsMajority s = some b ∧ 3 * countedPower b vals s.votes > 2 * sumPowers vals ∧
      ∃ c, makeCommit s = some c ∧ verifyCommit verify s.vals s.chain c.bid s.height c = .ok () := by
  unfold reconstruct at hr
  split at hr; · cases hr
  split at hr; · cases hr
  rename_i c
  split at hr; · cases hr
  rename_i s0 h0
  split at hr; · cases hr
  rename_i s1 hf
  split at hr
  · rename_i hm
    cases hr
    have hrun := feedAll_run hf
    have htype : s.type = typePrecommit := congrArg Cfg.type (reachable_inv hno h0 hrun).2
    unfold hasTwoThirdsMajority at hm
    cases hb : s.maj23 with
    | none => rw [hb] at hm; cases hm
    | some b =>
      have hmc : makeCommit s = some ⟨b, s.votes⟩ := by unfold makeCommit; simp [htype, hb]
      exact ⟨b, hb,
        maj23_needs_two_thirds_reachable hno h0 hrun hb,
        _, hmc, makeCommit_verifies_reachable verify chain h _ vals s0 s _ hno h0 hrun hmc⟩
  · cases hr

/-! `VerifyCommitAny` and `VerifySign` both look the signer up by address and keep the addresses already met; what they tally is
`seenPower` of the addresses counted so far. -/

theorem findByAddr_addr {vals : List Val} {a : List UInt8} {val : Val} (h : findByAddr vals a = some val) : val.addr = a := by
  unfold findByAddr at h
  have := List.find?_some h
  simpa using this

theorem findByAddr_self {vals : List Val} {v : Val} (hnd : (vals.map (·.addr)).Nodup) (hv : v ∈ vals) :
    findByAddr vals v.addr = some v := by
  induction vals with
  | nil => cases hv
  | cons w vals ih =>
    obtain ⟨hw, hnd'⟩ := List.nodup_cons.1 hnd
    unfold findByAddr at ih ⊢
    rw [List.find?_cons]
    rcases List.mem_cons.1 hv with rfl | hv'
    · simp
    · have hne : w.addr ≠ v.addr := fun e => hw (by show w.addr ∈ _; rw [e]; exact List.mem_map_of_mem (f := (·.addr)) hv')
      simp only [hne, decide_false]
      exact ih hnd' hv'

/-- power of the validators whose address is in `seen`: a sum over the SET, so nobody can be counted twice -/
def seenPower (vals : List Val) (seen : List (List UInt8)) : Int :=
  powerWhere vals (vals.map (fun v => seen.contains v.addr))

section
variable {vals : List Val} {a : List UInt8} {seen : List (List UInt8)} {val : Val}

theorem seenMask_cons_of_notin (seen : List (List UInt8)) (h : a ∉ vals.map (·.addr)) :
    vals.map (fun v => (a :: seen).contains v.addr) = vals.map (fun v => seen.contains v.addr) := by
  apply List.map_congr_left
  intro v hv
  have hne : v.addr ≠ a := fun e => h (e ▸ List.mem_map_of_mem (f := (·.addr)) hv)
  simp [hne]

theorem seenPower_bounds (vals : List Val) (seen : List (List UInt8)) (hp : ∀ v ∈ vals, 0 ≤ v.power) :
    0 ≤ seenPower vals seen ∧ seenPower vals seen ≤ sumPowers vals :=
  powerWhere_bounds vals _ hp

theorem seenPower_add (hnd : (vals.map (·.addr)).Nodup) (hf : findByAddr vals a = some val) (ha : a ∉ seen) :
    seenPower vals (a :: seen) = seenPower vals seen + val.power := by
  unfold seenPower
  induction vals with
  | nil => cases hf
  | cons v vs ih =>
    obtain ⟨hv, hnd'⟩ := List.nodup_cons.1 hnd
    unfold findByAddr at hf ih
    rw [List.find?_cons] at hf
    simp only [List.map_cons, powerWhere]
    by_cases hva : v.addr = a
    · simp only [hva, decide_true, Option.some.injEq] at hf
      subst hf
      have hc : seen.contains v.addr = false := by simpa [hva] using ha
      rw [seenMask_cons_of_notin seen (hva ▸ hv), hc]
      simp [hva]
      omega
    · simp only [hva, decide_false] at hf
      rw [ih hnd' hf]
      simp [hva]
      omega

theorem seenPower_step (hno : NoOverflow vals) (hnd : (vals.map (·.addr)).Nodup)
    (hf : findByAddr vals a = some val) (ha : a ∉ seen) :
    wrapI64 (seenPower vals seen + val.power) = seenPower vals (a :: seen) := by
  rw [← seenPower_add hnd hf ha]
  have hb := seenPower_bounds vals (a :: seen) hno.1
  exact wrapI64_small hb.1 (by have := hno.2; omega)

end

/-- some slot holds a precommit of validator `val` (by address) for `bid` at (h, r) that verifies under `val`'s key -/
def hasSlotFor (verify : Verify) (chain : List UInt8) (bid : BlockID) (h : Nat) (r : Int) (val : Val) (ps : List (Option Vote)) : Bool :=
  ps.any (fun o => match o with
    | some v => decide (v.addr = val.addr) && decide (bid = v.bid) && decide (v.height = h) && decide (v.round = r) &&
                decide (v.type = typePrecommit) && verify val.key (msgOf chain v) v.sig
    | none => false)

/-- power of the DISTINCT validators with such a slot -/
def signerPower (verify : Verify) (chain : List UInt8) (bid : BlockID) (h : Nat) (r : Int) (vals : List Val) (ps : List (Option Vote)) : Int :=
  (vals.map (fun val => if hasSlotFor verify chain bid h r val ps then val.power else 0)).sum

/-- FULL STATEMENT (proved below, `C03_verifyCommitAny`): what `VerifyCommitAny` accepts is signed by a duplicate-free set
of validators of the set (the sum runs over the SET `vals`, each validator at most once), each with a verifying precommit
for exactly `bid` at `h` in the common round, holding > 2/3 of the total -/
def C03_verifyCommitAny_statement : Prop :=
  ∀ (verify : Verify) (vals : List Val) (chain : List UInt8) (bid : BlockID) (h : Nat) (c : Commit),
    NoOverflow vals → (vals.map (·.addr)).Nodup → verifyCommitAny verify vals chain bid h c = .ok () →
    3 * signerPower verify chain bid h (Model.Commit.round c) vals c.precommits > 2 * sumPowers vals

theorem verdict_none (e : Except VErr Unit) (h : verdict e = none) : e = .ok () := by
  cases e with
  | ok u => rfl
  | error x => cases h

/-- the witness of the repaired defect: validator 1's precommit in both slots of a two-validator commit is now REFUSED
(counted once: 1 of 2), by `VerifyCommit` as before -/
example : verdict (verifyCommitAny symVerify (exVals 2) [99] exB 5 ⟨exB, [some (exVote 1 exB), some (exVote 1 exB)]⟩) = some .power := by decide
example : verdict (verifyCommit symVerify (exVals 2) [99] exB 5 ⟨exB, [some (exVote 1 exB), some (exVote 1 exB)]⟩) = some .sig := by decide
/-- … while a shuffled commit of three DIFFERENT validators out of four is accepted -/
example : verdict (verifyCommitAny symVerify (exVals 4) [99] exB 5 ⟨exB, [some (exVote 3 exB), none, some (exVote 0 exB), some (exVote 1 exB)]⟩) = none := by decide

/-- slot i carries validator i's address (what a commit made by consensus looks like); same number of slots as validators -/
def Aligned : List Val → List (Option Vote) → Prop
  | val :: vals, some v :: ps => v.addr = val.addr ∧ Aligned vals ps
  | _ :: vals, none :: ps => Aligned vals ps
  | [], [] => True
  | _, _ => False

/-- on aligned slots the lookup by address finds the validator of the slot, and nobody is met twice -/
theorem tallyLoopAny_aligned {verify : Verify} {chain : List UInt8} {bid : BlockID} {h : Nat} {r : Int}
    {all rest : List Val} {ps : List (Option Vote)} {seen : List (List UInt8)} {acc : Int}
    (hfind : ∀ val ∈ rest, findByAddr all val.addr = some val) (hnd : (rest.map (·.addr)).Nodup)
    (hseen : ∀ a ∈ seen, a ∉ rest.map (·.addr)) (hal : Aligned rest ps) :
    tallyLoopAny verify chain bid h r all ps seen acc = tallyLoop verify chain bid h r rest ps acc := by
  induction rest generalizing ps seen acc with
  | nil =>
    cases ps with
    | nil => rfl
    | cons _ _ => cases hal
  | cons val rest ih =>
    obtain ⟨hfind0, hfind'⟩ := List.forall_mem_cons.1 hfind
    obtain ⟨hval, hnd'⟩ := List.nodup_cons.1 hnd
    have hseen' : ∀ a ∈ seen, a ∉ rest.map (·.addr) := fun a ha hin => hseen a ha (List.mem_cons_of_mem _ hin)
    cases ps with
    | nil => cases hal
    | cons o ps =>
      cases o with
      | none =>
        exact ih hfind' hnd' hseen' hal
      | some v =>
        obtain ⟨hva, hal'⟩ := hal
        have hns : seen.contains v.addr = false := by
          simpa [hva] using fun hin => hseen _ hin List.mem_cons_self
        have hs2 : ∀ a ∈ v.addr :: seen, a ∉ rest.map (·.addr) := List.forall_mem_cons.2 ⟨hva ▸ hval, hseen'⟩
        rw [tallyLoopAny, tallyLoop, hva, hfind0, ← hva]
        simp only [hns, Bool.false_eq_true, if_false, ih hfind' hnd' hs2 hal']

/-- on a commit whose slot i carries validator i's address — every commit consensus makes — `VerifyCommitAny` IS
`VerifyCommit` (also index by index, see `verifyCommitAny_aligned_sound`) -/
theorem verifyCommitAny_aligned (verify : Verify) (vals : List Val) (chain : List UInt8) (bid : BlockID) (h : Nat) (c : Commit)
    (hnd : (vals.map (·.addr)).Nodup) (hal : Aligned vals c.precommits) :
    verifyCommitAny verify vals chain bid h c = verifyCommit verify vals chain bid h c := by
  unfold verifyCommitAny verifyCommit
  rw [tallyLoopAny_aligned (fun _ => findByAddr_self hnd) hnd (List.forall_mem_nil _) hal]

theorem verifyCommitAny_aligned_sound (verify : Verify) (vals : List Val) (chain : List UInt8) (bid : BlockID) (h : Nat) (c : Commit)
    (hno : NoOverflow vals) (hnd : (vals.map (·.addr)).Nodup) (hal : Aligned vals c.precommits)
    (hok : verifyCommitAny verify vals chain bid h c = .ok ()) :
    ∃ r, AllSlotsGood verify chain h r vals c.precommits ∧ 3 * countedPower bid vals c.precommits > 2 * sumPowers vals := by
  rw [verifyCommitAny_aligned verify vals chain bid h c hnd hal] at hok
  exact (verifyCommit_sound verify vals chain bid h c hno hok).2

example : Aligned (exVals 4) [some (exVote 0 exB), some (exVote 1 exB), none, some (exVote 3 exB)] := by
  simp [Aligned, exVals, exVote, List.range, List.range.loop]
example : verdict (verifyCommitAny symVerify (exVals 4) [99] exB 5 ⟨exB, [some (exVote 0 exB), some (exVote 1 exB), none, some (exVote 3 exB)]⟩) = none := by decide

theorem signerPower_eq (verify : Verify) (chain : List UInt8) (bid : BlockID) (h : Nat) (r : Int) (vals : List Val)
    (ps : List (Option Vote)) :
    signerPower verify chain bid h r vals ps = powerWhere vals (vals.map (fun val => hasSlotFor verify chain bid h r val ps)) := by
  unfold signerPower
  induction vals with
  | nil => rfl
  | cons v vs ih => simp only [List.map_cons, List.sum_cons, powerWhere, ih]

/-- `cnt` are the addresses tallied so far; `seen` also holds those met with a precommit for another block. -/
theorem tallyLoopAny_ok {verify : Verify} {chain : List UInt8} {bid : BlockID} {h : Nat} {r : Int} {vals : List Val}
    {all : List (Option Vote)} (hno : NoOverflow vals) (hnd : (vals.map (·.addr)).Nodup)
    {ps : List (Option Vote)} {seen cnt : List (List UInt8)} {acc t : Int}
    (hsub : ∀ o ∈ ps, o ∈ all) (hacc : acc = seenPower vals cnt) (hcs : ∀ a ∈ cnt, a ∈ seen)
    (hcnt : ∀ a ∈ cnt, ∃ val, findByAddr vals a = some val ∧ hasSlotFor verify chain bid h r val all = true)
    (hok : tallyLoopAny verify chain bid h r vals ps seen acc = .ok t) :
    ∃ cnt', (∀ a ∈ cnt', ∃ val, findByAddr vals a = some val ∧ hasSlotFor verify chain bid h r val all = true) ∧
      t = seenPower vals cnt' := by
  induction ps generalizing seen cnt acc with
  | nil => cases hok; exact ⟨cnt, hcnt, hacc⟩
  | cons o ps ih =>
    obtain ⟨hhead, hrest⟩ := List.forall_mem_cons.1 hsub
    cases o with
    | none => exact ih hrest hacc hcs hcnt hok
    | some v =>
      rw [tallyLoopAny, guard_eq_iff (by nofun), guard_eq_iff (by nofun), guard_eq_iff (by nofun)] at hok
      obtain ⟨h1, h2, h3, hok⟩ := hok
      cases hf : findByAddr vals v.addr with
      | none => rw [hf] at hok; exact ih hrest hacc hcs hcnt hok
      | some val =>
        rw [hf] at hok
        simp only at hok
        by_cases hns : seen.contains v.addr = true
        · rw [if_pos hns] at hok; exact ih hrest hacc hcs hcnt hok
        rw [if_neg hns, guard_eq_iff (by nofun)] at hok
        obtain ⟨hver, hok⟩ := hok
        have hnotin : v.addr ∉ seen := by simpa using hns
        have hcs' : ∀ a ∈ cnt, a ∈ v.addr :: seen := fun a ha => List.mem_cons_of_mem _ (hcs a ha)
        by_cases hb : bid = v.bid
        · rw [if_neg (not_not_intro hb), hacc,
            seenPower_step hno hnd hf (fun hin => hnotin (hcs _ hin))] at hok
          have hslot : hasSlotFor verify chain bid h r val all = true :=
            List.any_eq_true.2 ⟨some v, hhead, by
              simpa [findByAddr_addr hf, hb, Decidable.not_not.1 h1, Decidable.not_not.1 h2, Decidable.not_not.1 h3] using hver⟩
          exact ih hrest rfl (List.forall_mem_cons.2 ⟨List.mem_cons_self, hcs'⟩)
            (List.forall_mem_cons.2 ⟨⟨val, hf, hslot⟩, hcnt⟩) hok
        · rw [if_pos hb] at hok
          exact ih hrest hacc hcs' hcnt hok

/-- THE FULL STATEMENT HOLDS (after fix ddc1c92) -/
theorem C03_verifyCommitAny : C03_verifyCommitAny_statement := by
  intro verify vals chain bid h c hno hnd hok
  unfold verifyCommitAny at hok
  split at hok; · cases hok
  split at hok; · cases hok
  split at hok; · cases hok
  rename_i t ht
  split at hok
  · rename_i hacc
    obtain ⟨cnt, hc, htc⟩ := tallyLoopAny_ok (cnt := []) hno hnd
      (fun o ho => ho) (by simp [seenPower, powerWhere_none]) (List.forall_mem_nil _) (List.forall_mem_nil _) ht
    rw [totalPower_eq hno] at hacc
    have h23 := (verifyCommitAccepts_iff (sumPowers_nonneg hno.1) hno.2).1 hacc
    have hle : seenPower vals cnt ≤ signerPower verify chain bid h (Model.Commit.round c) vals c.precommits := by
      rw [signerPower_eq]
      unfold seenPower
      apply powerWhere_mono vals _ _ hno.1
      intro i hi
      simp only [List.getElem?_map, Option.map_eq_some_iff] at hi ⊢
      obtain ⟨v, hv, hin⟩ := hi
      obtain ⟨val, hf, hs⟩ := hc v.addr (by simpa using hin)
      rw [findByAddr_self hnd (List.mem_of_getElem? hv)] at hf
      exact ⟨v, hv, Option.some.inj hf ▸ hs⟩
    omega
  · cases hok

/-- `VerifySign` uses the same accept test as `VerifyCommit` (both are translated from the source on every run) -/
theorem mstAccepts_eq (t total : Int) : mstAccepts t total = verifyCommitAccepts t total := rfl

theorem mstLoop_ok {vals : List Val} {all : List (List UInt8 × MSig)} (hno : NoOverflow vals) (hnd : (vals.map (·.addr)).Nodup)
    {sigs : List (List UInt8 × MSig)} {seen : List (List UInt8)} {acc : Int}
    (hsub : ∀ e ∈ sigs, e ∈ all) (hacc : acc = seenPower vals seen)
    (hseen : ∀ a ∈ seen, ∃ val, findByAddr vals a = some val ∧ (a, MSig.good val.key) ∈ all)
    (hok : mstLoop vals (totalPower vals) sigs seen acc = .ok ()) :
    ∃ seen', (∀ a ∈ seen', ∃ val, findByAddr vals a = some val ∧ (a, MSig.good val.key) ∈ all) ∧
      mstAccepts (seenPower vals seen') (totalPower vals) = true := by
  induction sigs generalizing seen acc with
  | nil => cases hok
  | cons e rest ih =>
    obtain ⟨a, sg⟩ := e
    obtain ⟨hhead, hrest⟩ := List.forall_mem_cons.1 hsub
    rw [mstLoop, guard_eq_iff (by nofun)] at hok
    obtain ⟨hcont, hok⟩ := hok
    have ha : a ∉ seen := by simpa using hcont
    cases hf : findByAddr vals a with
    | none => rw [hf] at hok; cases hok
    | some val =>
      rw [hf] at hok
      cases sg with
      | malformed n => cases hok
      | other k => exact ih hrest hacc hseen hok
      | bad n => exact ih hrest hacc hseen hok
      | good k =>
        simp only at hok
        by_cases hk : k = val.key
        · rw [if_pos hk, hacc, seenPower_step hno hnd hf ha] at hok
          have hseen' : ∀ x ∈ a :: seen, ∃ val, findByAddr vals x = some val ∧ (x, MSig.good val.key) ∈ all :=
            List.forall_mem_cons.2 ⟨⟨val, hf, hk ▸ hhead⟩, hseen⟩
          by_cases hacc' : mstAccepts (seenPower vals (a :: seen)) (totalPower vals) = true
          · exact ⟨a :: seen, hseen', hacc'⟩
          · rw [if_neg hacc'] at hok
            exact ih hrest rfl hseen' hok
        · rw [if_neg hk] at hok
          exact ih hrest hacc hseen hok

/-- SOUNDNESS of `VerifySign` (validator set with distinct addresses, non-negative powers, total below 2^62): an accepted
multi-sign transaction carries genuine signatures (over exactly this request) of a SET of validators that holds strictly
more than two thirds of the total power; the power is summed over the set, so no signer counts twice -/
theorem mst_sound (vals : List Val) (sigs : List (List UInt8 × MSig)) (hno : NoOverflow vals)
    (hnd : (vals.map (·.addr)).Nodup) (hok : verifySign (some vals) sigs = .ok ()) :
    ∃ signers : List (List UInt8), (∀ a ∈ signers, ∃ val, findByAddr vals a = some val ∧ (a, MSig.good val.key) ∈ sigs) ∧
      3 * seenPower vals signers > 2 * sumPowers vals := by
  unfold verifySign at hok
  simp only at hok
  split at hok; · cases hok
  obtain ⟨seen', hs, hacc⟩ := mstLoop_ok hno hnd (fun e he => he)
    (by simp [seenPower, powerWhere_none]) (List.forall_mem_nil _) hok
  refine ⟨seen', hs, ?_⟩
  rw [mstAccepts_eq, totalPower_eq hno] at hacc
  exact (verifyCommitAccepts_iff (sumPowers_nonneg hno.1) hno.2).1 hacc

/-- a nil or empty validator set accepts nothing -/
theorem mst_needs_validators (sigs : List (List UInt8 × MSig)) :
    verifySign none sigs = .error .empty ∧ verifySign (some []) sigs = .error .empty := ⟨rfl, rfl⟩

/-! non-vacuity: three of four equal validators sign (accepted); two do not suffice; the same genuine signature twice is refused -/
def mverdict (e : Except MErr Unit) : Option MErr := match e with | .ok _ => none | .error x => some x
example : mverdict (verifySign (some (exVals 4)) [([0], .good 0), ([1], .bad 7), ([1], .good 1), ([3], .good 3)]) = none := by decide
example : mverdict (verifySign (some (exVals 4)) [([0], .good 0), ([1], .good 1)]) = some .power := by decide
example : mverdict (verifySign (some (exVals 4)) [([0], .good 0), ([0], .good 0), ([1], .good 1), ([2], .good 2)]) = some .dup := by decide
example : mverdict (verifySign (some (exVals 4)) [([0], .good 0), ([1], .good 0), ([2], .other 2), ([3], .good 3)]) = some .power := by decide
example : ((exVals 4).map (·.addr)).Nodup := by decide

end Props.C03
