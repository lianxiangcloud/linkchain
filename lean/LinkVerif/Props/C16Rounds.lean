/-
C16 — catch-up rounds: whatever votes ONE peer sends (valid or not, any rounds, any number), the rounds its votes open in
the node's HeightVoteSet are at most 2 (`peerCatchupRounds`), because the allowance is charged when the round is opened,
BEFORE the vote is judged.  (Were the charge made only for accepted votes, invalid votes would open a round each:
`uncharged_opens_every_round`.)
-/
import LinkVerif.Props.C16

namespace Props.C16Rounds
open Model.PeerInput Props.C16

/-- the potential argument, for the votes of ONE peer: from `h` to `h'` rounds held + remaining allowance of that peer
has not grown (and no round was dropped).  A vote of another peer may open a round without touching this peer's allowance,
so the potential says nothing about interleaved streams. -/
@[reducible] def Paid (peer : String) (h h' : Hvs) : Prop :=
  h'.rounds.length + (2 - h'.chargedTo peer) ≤ h.rounds.length + (2 - h.chargedTo peer) ∧ h.rounds.length ≤ h'.rounds.length

theorem addVote_step (h : Hvs) (v : VoteIn) (peer : String) : Paid peer h (h.addVote v peer).1 := by
  let P : Hvs × Reply → Prop := fun r => Paid peer h r.1
  show P _
  have hsame : ∀ r, P (h, r) := fun _ => ⟨Nat.le_refl _, Nat.le_refl _⟩
  unfold Hvs.addVote
  refine ite_ind (fun _ => hsame _) fun _ => ite_ind (fun _ => hsame _) fun _ => ite_ind (fun hc => ?_) fun _ => hsame _
  -- the one change: the round is opened and, in the same step, charged to a peer with allowance left
  show _ + (2 - Hvs.chargedTo _ peer) ≤ _ ∧ _
  simp only [Hvs.chargedTo, List.filter_cons, beq_self_eq_true, if_true, List.length_cons] at hc ⊢
  omega

theorem addVotes_potential (vs : List VoteIn) (peer : String) (h : Hvs) : Paid peer h (h.addVotes vs peer) := by
  induction vs generalizing h with
  | nil => exact ⟨Nat.le_refl _, Nat.le_refl _⟩
  | cons v rest ih =>
    have hs := addVote_step h v peer
    have hr := ih (h.addVote v peer).1
    exact ⟨Nat.le_trans hr.1 hs.1, Nat.le_trans hs.2 hr.2⟩

/-- **C16 for the catch-up allowance**: for EVERY state of the vote container and EVERY sequence of votes from one peer
(any rounds, any verdicts, any length) the number of rounds the sequence opened is at most 2 -/
theorem peer_opens_at_most_two_rounds (h : Hvs) (vs : List VoteIn) (peer : String) :
    (h.addVotes vs peer).rounds.length ≤ h.rounds.length + 2 :=
  -- rounds ≤ rounds + remaining allowance, which never grows, and the allowance is at most 2
  Nat.le_trans (Nat.le_add_right _ _)
    (Nat.le_trans (addVotes_potential vs peer h).1 (Nat.add_le_add_left (Nat.sub_le 2 _) _))

theorem exhausted_peer_opens_nothing (h : Hvs) (vs : List VoteIn) (peer : String) (hc : 2 ≤ h.chargedTo peer) :
    (h.addVotes vs peer).rounds.length = h.rounds.length := by
  have ⟨hp, hge⟩ := addVotes_potential vs peer h
  rw [Nat.sub_eq_zero_of_le hc, Nat.add_zero] at hp
  exact Nat.le_antisymm (Nat.le_trans (Nat.le_add_right _ _) hp) hge

/-- the variant a defect would be: charge only when the vote is accepted -/
def addVoteChargeIfAccepted (h : Hvs) (v : VoteIn) (peer : String) : Hvs :=
  if !v.typeValid then h
  else if h.rounds.contains v.round then h
  else if h.chargedTo peer < 2 then
    { rounds := v.round :: h.rounds, charges := if v.acceptable then (peer, v.round) :: h.charges else h.charges }
  else h

/-- with that variant three invalid votes already open three rounds -/
theorem uncharged_opens_every_round :
    ([⟨10, true, false⟩, ⟨17, true, false⟩, ⟨24, true, false⟩].foldl (fun h v => addVoteChargeIfAccepted h v "p") ⟨[0, 1], []⟩).rounds.length = 5 := by
  rfl

/-! ## Non-vacuity -/
example : ((⟨[0, 1], []⟩ : Hvs).addVotes [⟨10, true, false⟩, ⟨17, true, true⟩, ⟨24, true, false⟩] "p").rounds = [17, 10, 0, 1] := rfl
example : ((⟨[0, 1], []⟩ : Hvs).addVote ⟨10, true, true⟩ "p").2 = .accepted := rfl
example : ((⟨[0, 1], [("p", 5), ("p", 6)]⟩ : Hvs).addVote ⟨10, true, true⟩ "p").2 = .rejected "ErrGotVoteFromUnwantedRound" := rfl
example : ((⟨[0, 1], [("p", 5), ("p", 6)]⟩ : Hvs).addVote ⟨10, true, true⟩ "q").1.rounds = [10, 0, 1] := rfl

end Props.C16Rounds
