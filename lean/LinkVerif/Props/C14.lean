import LinkVerif.Model.Wal
import LinkVerif.Go.Crc32c
import LinkVerif.Gen.WalFacts

/-!
# C14 — the consensus write-ahead log replays what was written or reports corruption
-/
namespace Props.C14
open Model.Wal

/-! ## framing facts regenerated from the code -/

theorem facts_framing :
    Gen.WalFacts.encoderCrcThenLength = true ∧ Gen.WalFacts.decoderChecksLength = true ∧
    Gen.WalFacts.decoderChecksCrcBeforeDecode = true ∧ Gen.WalFacts.maxMsgSizeBytes < 4294967296 ∧
    0 < Gen.WalFacts.headBufSize := by decide

/-- regenerated fact (T2): `Group.RotateFile` calls `headBuf.Flush()` before `os.Rename` (fix ed188e7).  The driver runs
the model with `flushFirst = true`; the history theorems (`Props/C14Hist.lean`) are about that behaviour.  Reverting the
fix makes this obligation fail (and the correspondence diverge on every un-synced rotation). -/
theorem rotate_flushes_before_rename : Gen.WalFacts.rotateFlushesBeforeRename = true := by decide

theorem be32_length (n : Nat) : (be32 n).length = 4 := rfl

theorem eq_quad {w : Bytes} (hw : w.length = 4) : ∃ a b c d, w = [a, b, c, d] :=
  match w, hw with
  | [a, b, c, d], _ => ⟨a, b, c, d, rfl⟩

theorem be32_eq (n : Nat) : be32 n = [UInt8.ofNat (n / 256 / 256 / 256 % 256), UInt8.ofNat (n / 256 / 256 % 256),
    UInt8.ofNat (n / 256 % 256), UInt8.ofNat (n % 256)] := by
  simp only [be32, Nat.div_div_eq_div_mul, Nat.reduceMul]

theorem rd32_eq (a b c d : UInt8) :
    rd32 [a, b, c, d] = ((a.toNat * 256 + b.toNat) * 256 + c.toNat) * 256 + d.toNat := by
  simp only [rd32]; omega

theorem rd32_be32 (n : Nat) (h : n < 4294967296) : rd32 (be32 n) = n := by
  have h1 := Nat.div_add_mod n 256
  have h2 := Nat.div_add_mod (n / 256) 256
  have h3 := Nat.div_add_mod (n / 256 / 256) 256
  rw [be32_eq, rd32_eq]
  simp only [UInt8.toNat_ofNat', Nat.mod_mod]
  rw [Nat.mod_eq_of_lt (a := n / 256 / 256 / 256) (by omega)]
  omega

theorem rd32_lt (w : Bytes) (hw : w.length = 4) : rd32 w < 4294967296 := by
  obtain ⟨a, b, c, d, rfl⟩ := eq_quad hw
  have ha := a.toNat_lt
  have hb := b.toNat_lt
  have hc := c.toNat_lt
  have hd := d.toNat_lt
  rw [rd32_eq]
  omega

theorem be32_rd32 (w : Bytes) (hw : w.length = 4) : be32 (rd32 w) = w := by
  obtain ⟨a, b, c, d, rfl⟩ := eq_quad hw
  have digit (q r : Nat) (hr : r < 256) : (q * 256 + r) / 256 = q ∧ (q * 256 + r) % 256 = r := by omega
  obtain ⟨d1, m1⟩ := digit ((a.toNat * 256 + b.toNat) * 256 + c.toNat) d.toNat d.toNat_lt
  obtain ⟨d2, m2⟩ := digit (a.toNat * 256 + b.toNat) c.toNat c.toNat_lt
  obtain ⟨d3, m3⟩ := digit a.toNat b.toNat b.toNat_lt
  rw [be32_eq, rd32_eq, d1, m1, d2, m2, d3, m3, Nat.mod_eq_of_lt a.toNat_lt]
  simp only [UInt8.ofNat_toNat]

/-- what the code requires of a payload for the record to be readable back -/
structure Valid (c : Codec) (p : Bytes) : Prop where
  pos : 0 < p.length
  le : p.length ≤ c.maxMsg
  ok : c.ok p = true

/-- the checksum is a 32-bit value and the size bound fits the 32-bit length field -/
structure Bounded (c : Codec) : Prop where
  crc_lt : ∀ p, c.crc p < 4294967296
  max_lt : c.maxMsg < 4294967296

theorem frame_length (c : Codec) (p : Bytes) : (frame c p).length = 8 + p.length := by
  simp only [frame, List.length_append, be32_length]

/-- a record whose fields are given separately -/
def rawRecord (crcField lenField payload : Bytes) : Bytes := crcField ++ (lenField ++ payload)

theorem frame_eq_rawRecord (c : Codec) (p : Bytes) : frame c p = rawRecord (be32 (c.crc p)) (be32 p.length) p := by
  simp [frame, rawRecord]

theorem rawRecord_append (w l q rest : Bytes) : rawRecord w l q ++ rest = w ++ (l ++ (q ++ rest)) := by
  simp only [rawRecord, List.append_assoc]

theorem decode1_short (c : Codec) (t : Tail) (s : Bytes) (h : s.length < 8) :
    decode1 c t s =
      (if s.length < 4 then (match t with | .eof => Res.eof | .openErr => Res.errCrc) else Res.errLen, []) := by
  unfold decode1
  by_cases h4 : s.length < 4
  · rw [if_pos h4, if_pos h4]; rfl
  · rw [if_neg h4, if_pos h, if_neg h4]

theorem decode1_header (c : Codec) (t : Tail) (w l body : Bytes) (hw : w.length = 4) (hl : l.length = 4) :
    decode1 c t (w ++ (l ++ body)) =
      if rd32 l > c.maxMsg then (Res.errBig, body)
      else if rd32 l = 0 then (Res.errData, body)
      else if body.length < rd32 l then (Res.errData, [])
      else if c.crc (body.take (rd32 l)) = rd32 w ∧ c.ok (body.take (rd32 l)) = true
        then (Res.msg (body.take (rd32 l)), body.drop (rd32 l))
        else (Res.corrupt, body.drop (rd32 l)) := by
  obtain ⟨a, b, cc, d, rfl⟩ := eq_quad hw
  obtain ⟨a', b', c', d', rfl⟩ := eq_quad hl
  show decode1 c t (a :: b :: cc :: d :: a' :: b' :: c' :: d' :: body) = _
  unfold decode1
  rw [if_neg (by simp), if_neg (by simp)]
  rfl

theorem decode1_header_isMsg {c : Codec} {t : Tail} {w l body : Bytes} (hw : w.length = 4) (hl : l.length = 4)
    (h : (decode1 c t (w ++ (l ++ body))).1.isMsg = true) :
    rd32 l ≤ body.length ∧ c.crc (body.take (rd32 l)) = rd32 w ∧
      (decode1 c t (w ++ (l ++ body))).2 = body.drop (rd32 l) := by
  rw [decode1_header c t w l body hw hl] at h ⊢
  -- the four conditions one `by_cases` + `rw [if_pos/if_neg]` at a time: `split at h` simplifies the whole nested `if`
  -- again at every level and is several times slower here
  by_cases h1 : rd32 l > c.maxMsg
  · rw [if_pos h1] at h; cases h
  rw [if_neg h1] at h ⊢
  by_cases h2 : rd32 l = 0
  · rw [if_pos h2] at h; cases h
  rw [if_neg h2] at h ⊢
  by_cases h3 : body.length < rd32 l
  · rw [if_pos h3] at h; cases h
  rw [if_neg h3] at h ⊢
  by_cases h4 : c.crc (body.take (rd32 l)) = rd32 w ∧ c.ok (body.take (rd32 l)) = true
  · rw [if_pos h4]; exact ⟨Nat.le_of_not_lt h3, h4.1, rfl⟩
  · rw [if_neg h4] at h; cases h

theorem decode1_msg_length {c : Codec} {t : Tail} {s p rest : Bytes} (h : decode1 c t s = (Res.msg p, rest)) :
    rest.length < s.length := by
  have hm : (decode1 c t s).1.isMsg = true := by rw [h]; rfl
  by_cases h8 : s.length < 8
  · rw [decode1_short c t s h8] at hm
    by_cases h4 : s.length < 4
    · rw [if_pos h4] at hm; cases t <;> cases hm
    · rw [if_neg h4] at hm; cases hm
  · obtain ⟨w, l, body, hw, hl, rfl⟩ : ∃ w l body, w.length = 4 ∧ l.length = 4 ∧ s = w ++ (l ++ body) :=
      ⟨s.take 4, (s.drop 4).take 4, (s.drop 4).drop 4, by rw [List.length_take]; omega,
        by rw [List.length_take, List.length_drop]; omega, by rw [List.take_append_drop, List.take_append_drop]⟩
    obtain ⟨_, _, hr⟩ := decode1_header_isMsg hw hl hm
    rw [h] at hr
    rw [show rest = body.drop (rd32 l) from hr, List.length_append, List.length_append, List.length_drop]
    omega

theorem decode1_valid_header (c : Codec) (hb : Bounded c) (t : Tail) (w : Bytes) (hw : w.length = 4) (p q rest : Bytes)
    (hv : Valid c p) (hq : q.length = p.length) :
    decode1 c t (w ++ (be32 p.length ++ (q ++ rest))) =
      if c.crc q = rd32 w ∧ c.ok q = true then (Res.msg q, rest) else (Res.corrupt, rest) := by
  rw [decode1_header c t _ _ _ hw (be32_length _), rd32_be32 _ (Nat.lt_of_le_of_lt hv.le hb.max_lt),
    if_neg (Nat.not_lt.mpr hv.le), if_neg (Nat.ne_of_gt hv.pos), if_neg (by rw [List.length_append]; omega),
    List.take_left' hq, List.drop_left' hq]

theorem decode1_frame (c : Codec) (hb : Bounded c) (t : Tail) (p r : Bytes) (hv : Valid c p) :
    decode1 c t (frame c p ++ r) = (Res.msg p, r) := by
  rw [frame_eq_rawRecord, rawRecord_append, decode1_valid_header c hb t _ (be32_length _) p p r hv rfl,
    rd32_be32 _ (hb.crc_lt p), if_pos ⟨rfl, hv.ok⟩]

/-- terminal observed when a record is cut after `k` of its bytes (the log ends there) -/
def truncRes (k : Nat) : Res := if k < 4 then Res.eof else if k < 8 then Res.errLen else Res.errData

/-- reading a record that was cut at any of its byte offsets: never a message, never `corrupt`, nothing left -/
theorem decode1_trunc (c : Codec) (hb : Bounded c) (p : Bytes) (hv : Valid c p) (k : Nat)
    (hk : k < (frame c p).length) :
    decode1 c Tail.eof ((frame c p).take k) = (truncRes k, []) := by
  rw [frame_length] at hk
  by_cases h8 : k < 8
  · have hL : ((frame c p).take k).length = k := by
      rw [List.length_take, frame_length]; omega
    rw [decode1_short _ _ _ (by omega), hL]
    simp only [truncRes, h8, if_true]
  · obtain ⟨j, rfl⟩ : ∃ j, k = j + 8 := ⟨k - 8, by omega⟩
    have e : (p.take j).length < p.length := by
      rw [List.length_take]; omega
    show decode1 c Tail.eof (be32 (c.crc p) ++ (be32 p.length ++ p.take j)) = _
    rw [decode1_header c _ _ _ _ (be32_length _) (be32_length _), rd32_be32 _ (Nat.lt_of_le_of_lt hv.le hb.max_lt),
      if_neg (Nat.not_lt.mpr hv.le), if_neg (Nat.ne_of_gt hv.pos), if_pos e]
    simp only [truncRes, h8, if_false, show ¬ j + 8 < 4 by omega]

theorem truncRes_cases (k : Nat) : truncRes k = Res.eof ∨ truncRes k = Res.errLen ∨ truncRes k = Res.errData := by
  unfold truncRes
  split
  · exact Or.inl rfl
  · split
    · exact Or.inr (Or.inl rfl)
    · exact Or.inr (Or.inr rfl)

theorem truncRes_isMsg (k : Nat) : (truncRes k).isMsg = false := by
  rcases truncRes_cases k with h | h | h <;> rw [h] <;> rfl

theorem frames_cons (c : Codec) (p : Bytes) (ps : List Bytes) : frames c (p :: ps) = frame c p ++ frames c ps := rfl

theorem frames_append (c : Codec) (ps qs : List Bytes) : frames c (ps ++ qs) = frames c ps ++ frames c qs := by
  simp only [frames, List.map_append, List.flatten_append]

/-- any fuel above the number of bytes gives the same answer: a message consumes its record -/
theorem decodeAllF_fuel (c : Codec) (t : Tail) : ∀ (f f' : Nat) (s : Bytes), s.length < f → s.length < f' →
    decodeAllF c t f s = decodeAllF c t f' s := by
  intro f
  induction f with
  | zero => intro _ _ h; omega
  | succ f ih =>
    intro f' s hf hf'
    cases f' with
    | zero => omega
    | succ f' =>
      rw [decodeAllF, decodeAllF]
      generalize hd : decode1 c t s = res
      obtain ⟨r, rest⟩ := res
      cases r <;> try rfl
      have := decode1_msg_length hd
      simp only [ih f' rest (by omega) (by omega)]

theorem decodeAll_msg {c : Codec} {t : Tail} {s p rest : Bytes} (h : decode1 c t s = (Res.msg p, rest)) :
    decodeAll c t s = (p :: (decodeAll c t rest).1, (decodeAll c t rest).2) := by
  have := decode1_msg_length h
  rw [decodeAll, decodeAllF, h, decodeAll]
  simp only [decodeAllF_fuel c t s.length (rest.length + 1) rest this (Nat.lt_succ_self _)]

theorem decodeAll_stop {c : Codec} {t : Tail} {s rest : Bytes} {r : Res} (h : decode1 c t s = (r, rest))
    (hr : r.isMsg = false) : decodeAll c t s = ([], r) := by
  rw [decodeAll, decodeAllF, h]
  cases r <;> first | rfl | cases hr

/-- whole valid records at the front of the stream are replayed in order, and the loop goes on with what follows them;
damaged, cut and searched logs are this plus one `Decode` on the rest -/
theorem decodeAll_frames_append (c : Codec) (hb : Bounded c) (t : Tail) (ps : List Bytes) (hv : ∀ p ∈ ps, Valid c p)
    (r : Bytes) : decodeAll c t (frames c ps ++ r) = (ps ++ (decodeAll c t r).1, (decodeAll c t r).2) := by
  induction ps with
  | nil => rfl
  | cons p ps ih =>
    rw [frames_cons, List.append_assoc, decodeAll_msg (decode1_frame c hb t p _ (hv p List.mem_cons_self)),
      ih (fun q hq => hv q (List.mem_cons_of_mem _ hq))]
    rfl

theorem decodeAll_frames_stop (c : Codec) (hb : Bounded c) (pre : List Bytes) (hv : ∀ p ∈ pre, Valid c p) {t : Tail}
    {d rest' : Bytes} {r : Res} (hd : decode1 c t d = (r, rest')) (hr : r.isMsg = false) :
    decodeAll c t (frames c pre ++ d) = (pre, r) := by
  rw [decodeAll_frames_append c hb t pre hv, decodeAll_stop hd hr, List.append_nil]

/-- **intact_replay**: an undamaged log is replayed completely and ends with `io.EOF`. -/
theorem intact_replay (c : Codec) (hb : Bounded c) (ps : List Bytes) (hv : ∀ p ∈ ps, Valid c p) :
    decodeAll c Tail.eof (frames c ps) = (ps, Res.eof) := by
  have := decodeAll_frames_stop c hb ps hv (show decode1 c Tail.eof [] = (Res.eof, []) from rfl) rfl
  rwa [List.append_nil] at this

/-- number of bytes of the first `j` records -/
def bytesOf (c : Codec) (ps : List Bytes) (j : Nat) : Nat := (frames c (ps.take j)).length

theorem bytesOf_cons_succ (c : Codec) (p : Bytes) (ps : List Bytes) (j : Nat) :
    bytesOf c (p :: ps) (j + 1) = (frame c p).length + bytesOf c ps j := by
  simp only [bytesOf, List.take_succ_cons, frames_cons, List.length_append]

theorem frames_split (c : Codec) (ps : List Bytes) (j : Nat) (hj : j < ps.length) :
    frames c ps = frames c (ps.take j) ++ (frame c ps[j] ++ frames c (ps.drop (j + 1))) := by
  rw [← frames_cons, ← frames_append, List.getElem_cons_drop, List.take_append_drop]

theorem bytesOf_succ (c : Codec) (ps : List Bytes) (j : Nat) (hj : j < ps.length) :
    bytesOf c ps (j + 1) = bytesOf c ps j + (frame c ps[j]).length := by
  simp only [bytesOf, List.take_succ_eq_append_getElem hj, frames_append, frames_cons, List.length_append]
  rfl

theorem bytesOf_locate (c : Codec) (ps : List Bytes) : ∀ off, off < (frames c ps).length →
    ∃ j, ∃ hj : j < ps.length, bytesOf c ps j ≤ off ∧ off - bytesOf c ps j < (frame c ps[j]).length := by
  induction ps with
  | nil => intro off h; exact absurd h (Nat.not_lt_zero _)
  | cons p ps ih =>
    intro off h
    rw [frames_cons, List.length_append] at h
    by_cases hin : off < (frame c p).length
    · exact ⟨0, Nat.zero_lt_succ _, Nat.zero_le _, hin⟩
    · obtain ⟨j, hj, hlo, hk⟩ := ih (off - (frame c p).length) (by omega)
      refine ⟨j + 1, Nat.succ_lt_succ hj, ?_, ?_⟩
      · rw [bytesOf_cons_succ]; omega
      · rw [bytesOf_cons_succ, List.getElem_cons_succ]; omega

theorem take_frames_cases (c : Codec) (ps : List Bytes) (cut : Nat) :
    (∃ j, ∃ hj : j < ps.length, cut < (frames c ps).length ∧ bytesOf c ps j ≤ cut ∧
        cut - bytesOf c ps j < (frame c ps[j]).length ∧
        (frames c ps).take cut = frames c (ps.take j) ++ (frame c ps[j]).take (cut - bytesOf c ps j)) ∨
      ((frames c ps).length ≤ cut ∧ (frames c ps).take cut = frames c ps) := by
  by_cases hcut : cut < (frames c ps).length
  · obtain ⟨j, hj, hlo, hk⟩ := bytesOf_locate c ps cut hcut
    refine Or.inl ⟨j, hj, hcut, hlo, hk, ?_⟩
    rw [frames_split c ps j hj, List.take_append, List.take_of_length_le hlo]
    exact congrArg _ (List.take_append_of_le_length (Nat.le_of_lt hk))
  · exact Or.inr ⟨Nat.le_of_not_lt hcut, List.take_of_length_le (Nat.le_of_not_lt hcut)⟩

/-- **truncate_prefix**.  A log cut at ANY byte offset replays exactly the records that are completely inside the kept
bytes, in order, followed by a terminal that is `io.EOF` or a read error — never a message that was not written, never
`corrupt`.  No assumption on the checksum function. -/
theorem truncate_prefix (c : Codec) (hb : Bounded c) (ps : List Bytes) (hv : ∀ p ∈ ps, Valid c p) (cut : Nat) :
    ∃ j e, decodeAll c Tail.eof ((frames c ps).take cut) = (ps.take j, e) ∧
      (e = Res.eof ∨ e = Res.errLen ∨ e = Res.errData) ∧ j ≤ ps.length ∧
      bytesOf c ps j ≤ cut ∧ (j < ps.length → cut < bytesOf c ps (j + 1)) ∧
      (ps.length ≤ j → e = Res.eof) := by
  rcases take_frames_cases c ps cut with ⟨j, hj, _, hlo, hk, e⟩ | ⟨hge, e⟩
  · refine ⟨j, truncRes (cut - bytesOf c ps j), ?_, truncRes_cases _, Nat.le_of_lt hj, hlo,
      fun _ => by rw [bytesOf_succ c ps j hj]; omega, fun h => absurd hj (Nat.not_lt.mpr h)⟩
    rw [e]
    exact decodeAll_frames_stop c hb _ (fun p hp => hv p (List.mem_of_mem_take hp))
      (decode1_trunc c hb _ (hv _ (List.getElem_mem hj)) _ hk) (truncRes_isMsg _)
  · refine ⟨ps.length, Res.eof, ?_, Or.inl rfl, Nat.le_refl _, by rw [bytesOf, List.take_length]; exact hge,
      fun h => absurd h (Nat.lt_irrefl _), fun _ => rfl⟩
    rw [e, List.take_length]
    exact intact_replay c hb ps hv

/-- **never_unwritten_truncated**: every message read back from a cut log was written. -/
theorem never_unwritten_truncated (c : Codec) (hb : Bounded c) (ps : List Bytes) (hv : ∀ p ∈ ps, Valid c p) (cut : Nat) :
    ∀ m ∈ (decodeAll c Tail.eof ((frames c ps).take cut)).1, m ∈ ps := by
  obtain ⟨j, e, h, _⟩ := truncate_prefix c hb ps hv cut
  rw [h]
  intro m hm
  exact List.mem_of_mem_take hm

/-! ## CRC-32C detects a changed byte

Every step of the bitwise CRC is a bijection of the 32-bit state: the polynomial has its top bit set, so the top bit
of `bit c` tells which branch was taken, and the other 31 bits give back `c >>> 1`.  Hence two inputs that differ in
one byte leave different states behind, whatever follows (`checksumNat_set_ne`). -/

section Crc32c
open Go.Crc32c

theorem shiftRight_one_toNat (x : UInt32) : (x >>> 1).toNat = x.toNat / 2 := by
  rw [UInt32.toNat_shiftRight]; rfl

theorem and_one_eq_one_iff (x : UInt32) : x &&& 1 = 1 ↔ x.toNat % 2 = 1 := by
  rw [← UInt32.toNat_inj, UInt32.toNat_and]
  exact Nat.and_one_is_mod _ ▸ Iff.rfl

theorem testBit_shiftRight_one (x : UInt32) : (x >>> 1).toNat.testBit 31 = false :=
  Nat.testBit_lt_two_pow (by rw [shiftRight_one_toNat]; have := x.toNat_lt; omega)

theorem shiftRight_one_xor_poly_ne (x y : UInt32) : (x >>> 1) ^^^ poly ≠ y >>> 1 := by
  intro h
  have := congrArg (fun z => z.toNat.testBit 31) h
  simp only [UInt32.toNat_xor, Nat.testBit_xor, testBit_shiftRight_one] at this
  revert this
  decide

theorem eq_of_shiftRight_one {x y : UInt32} (hs : x >>> 1 = y >>> 1) (hl : x &&& 1 = 1 ↔ y &&& 1 = 1) : x = y := by
  apply UInt32.toNat.inj
  have h1 := congrArg UInt32.toNat hs
  rw [shiftRight_one_toNat, shiftRight_one_toNat] at h1
  rw [and_one_eq_one_iff, and_one_eq_one_iff] at hl
  omega

theorem bit_inj {c c' : UInt32} (h : bit c = bit c') : c = c' := by
  unfold bit at h
  simp only [beq_iff_eq] at h
  split at h <;> split at h
  · exact eq_of_shiftRight_one ((UInt32.xor_left_inj _).mp h) (by simp [*])
  · exact absurd h (shiftRight_one_xor_poly_ne _ _)
  · exact absurd h.symm (shiftRight_one_xor_poly_ne _ _)
  · exact eq_of_shiftRight_one h (by simp [*])

theorem byteStep_inj {c c' : UInt32} {b b' : UInt8} (h : byteStep c b = byteStep c' b') :
    c ^^^ b.toUInt32 = c' ^^^ b'.toUInt32 :=
  bit_inj (bit_inj (bit_inj (bit_inj (bit_inj (bit_inj (bit_inj (bit_inj h)))))))

theorem update_inj (bs : List UInt8) : ∀ {c c' : UInt32}, update c bs = update c' bs → c = c' := by
  induction bs with
  | nil => exact id
  | cons b bs ih => exact fun h => (UInt32.xor_left_inj _).mp (byteStep_inj (ih h))

theorem update_append (c : UInt32) (xs ys : List UInt8) : update c (xs ++ ys) = update (update c xs) ys :=
  List.foldl_append

theorem checksum_byte_inj (pre post : List UInt8) {a a' : UInt8}
    (h : checksum (pre ++ a :: post) = checksum (pre ++ a' :: post)) : a = a' := by
  have h := UInt32.not_inj.mp h
  rw [update_append, update_append] at h
  exact UInt8.toUInt32_inj.mp ((UInt32.xor_right_inj _).mp (byteStep_inj (update_inj post h)))

theorem checksumNat_set_ne (p : Bytes) (i : Nat) (b : UInt8) (hi : i < p.length) (hb : b ≠ p[i]) :
    checksumNat (p.set i b) ≠ checksumNat p := by
  intro h
  have e : p = p.take i ++ p[i] :: p.drop (i + 1) := by simp
  rw [List.set_eq_take_append_cons_drop, if_pos hi] at h
  conv at h => rhs; rw [e]
  exact hb (checksum_byte_inj _ _ (UInt32.toNat.inj h))

end Crc32c

/-! ## single-byte corruption

A damaged log is `frames pre ++ (damaged record ++ rest)`: every byte offset of the log lies in the checksum field,
the length field or the payload of exactly one record.  `decodeAll_frames_stop` reduces the log to that record;
the three field lemmas say what one `Decode` on the damaged record answers.  The checksum-field case needs no
assumption; the payload case needs `DetectsSingleByte`; the length-field case needs the mis-framed bytes not to collide
under the checksum (a 2⁻³² event for a 32-bit checksum: a named hypothesis, it cannot be a theorem). -/

/-- **flip_crc_field**: any change of the checksum field is reported as corruption.  No assumption. -/
theorem flip_crc_field (c : Codec) (hb : Bounded c) (t : Tail) (p : Bytes) (hv : Valid c p) (w : Bytes)
    (hw : w.length = 4) (hne : rd32 w ≠ c.crc p) (rest : Bytes) :
    decode1 c t (rawRecord w (be32 p.length) p ++ rest) = (Res.corrupt, rest) := by
  rw [rawRecord_append, decode1_valid_header c hb t w hw p p rest hv rfl, if_neg (fun h => hne h.1.symm)]

/-- `p'` is `p` with exactly one byte replaced by a different value -/
def SingleByteChange (p p' : Bytes) : Prop := ∃ i b, ∃ h : i < p.length, p' = p.set i b ∧ b ≠ p[i]

/-- a single changed byte changes the checksum.  The theorems below are about an arbitrary codec and take this as a
hypothesis; for a codec whose checksum is the CRC-32C of `Go.Crc32c` it is proved (`detectsSingleByte_crc32c`). -/
def DetectsSingleByte (c : Codec) : Prop := ∀ p p', SingleByteChange p p' → c.crc p' ≠ c.crc p

theorem detectsSingleByte_crc32c {c : Codec} (h : c.crc = Go.Crc32c.checksumNat) : DetectsSingleByte c := by
  rintro p _ ⟨i, b, hi, rfl, hb⟩
  rw [h]
  exact checksumNat_set_ne p i b hi hb

/-- **flip_payload**: a single changed payload byte is reported as corruption. -/
theorem flip_payload (c : Codec) (hb : Bounded c) (hdet : DetectsSingleByte c) (t : Tail) (p p' : Bytes)
    (hv : Valid c p) (hch : SingleByteChange p p') (rest : Bytes) :
    decode1 c t (rawRecord (be32 (c.crc p)) (be32 p.length) p' ++ rest) = (Res.corrupt, rest) := by
  have hl' : p'.length = p.length := by
    obtain ⟨i, b, _, rfl, _⟩ := hch; exact List.length_set
  rw [rawRecord_append, decode1_valid_header c hb t _ (be32_length _) p p' rest hv hl', rd32_be32 _ (hb.crc_lt p),
    if_neg (fun h => hdet p p' hch h.1)]

/-- **flip_len_field**: a length field that frames other bytes than the payload never yields a message, provided those
bytes — if the stream has that many; a longer length is a short read — do not collide with the stored checksum (`hcol`,
explicit). -/
theorem flip_len_field (c : Codec) (hb : Bounded c) (t : Tail) (p l : Bytes) (hl : l.length = 4) (rest : Bytes)
    (hcol : rd32 l ≤ (p ++ rest).length → c.crc ((p ++ rest).take (rd32 l)) ≠ c.crc p) :
    ((decode1 c t (rawRecord (be32 (c.crc p)) l p ++ rest)).1).isMsg = false := by
  rw [rawRecord_append]
  refine Bool.eq_false_iff.mpr (fun hm => ?_)
  obtain ⟨hle, hcrc, _⟩ := decode1_header_isMsg (be32_length _) hl hm
  rw [rd32_be32 _ (hb.crc_lt p)] at hcrc
  exact hcol hle hcrc

/-- one changed payload byte, whole log: the records before the damaged one are replayed in order, then `corrupt`;
nothing after it, and nothing that was not written. -/
theorem corrupt_payload_log (c : Codec) (hb : Bounded c) (hdet : DetectsSingleByte c) (t : Tail)
    (pre post : List Bytes) (p p' : Bytes) (hpre : ∀ q ∈ pre, Valid c q) (hv : Valid c p)
    (hch : SingleByteChange p p') :
    decodeAll c t (frames c pre ++ (rawRecord (be32 (c.crc p)) (be32 p.length) p' ++ frames c post)) = (pre, Res.corrupt) :=
  decodeAll_frames_stop c hb pre hpre (flip_payload c hb hdet t p p' hv hch _) rfl

/-- a changed checksum field, whole log; no assumption on the checksum function. -/
theorem corrupt_crc_log (c : Codec) (hb : Bounded c) (t : Tail) (pre post : List Bytes) (p w : Bytes)
    (hpre : ∀ q ∈ pre, Valid c q) (hv : Valid c p) (hw : w.length = 4) (hne : rd32 w ≠ c.crc p) :
    decodeAll c t (frames c pre ++ (rawRecord w (be32 p.length) p ++ frames c post)) = (pre, Res.corrupt) :=
  decodeAll_frames_stop c hb pre hpre (flip_crc_field c hb t p hv w hw hne _) rfl

/-- a changed length field, whole log: the records before it, then a terminal that is not a message. -/
theorem corrupt_len_log (c : Codec) (hb : Bounded c) (t : Tail) (pre post : List Bytes) (p : Bytes) (n : Nat)
    (hpre : ∀ q ∈ pre, Valid c q) (hn : n < 4294967296)
    (hcol : c.crc ((p ++ frames c post).take n) ≠ c.crc p) :
    ∃ e, e.isMsg = false ∧
      decodeAll c t (frames c pre ++ (rawRecord (be32 (c.crc p)) (be32 n) p ++ frames c post)) = (pre, e) := by
  have h := flip_len_field c hb t p (be32 n) (be32_length _) (frames c post) (by rw [rd32_be32 _ hn]; exact fun _ => hcol)
  exact ⟨_, h, decodeAll_frames_stop c hb pre hpre (Prod.eta _).symm h⟩

/-! ## the end-height marker clause over write / sync / rotate / crash-cut histories

`flushFirst` is the switch of `Group.rotate`: `true` = `RotateFile` flushes the buffered writer before it renames the
head (the current tree, since fix ed188e7); `false` = the code before that fix. -/

inductive Op
  | write (p : Bytes)      -- WALEncoder.Encode of a record with payload `p` through Group.Write
  | sync                   -- Group.Flush
  | rotate                 -- Group.RotateFile (a failed rename leaves the group as it is)
  | cutHead (n : Nat)      -- crash: only the first `n` bytes of the head file survive
deriving DecidableEq, Repr

def Op.isCut : Op → Bool
  | .cutHead _ => true
  | _ => false

def stepOp (B : Nat) (flushFirst : Bool) (c : Codec) (g : Group) : Op → Group
  | .write p => g.write B (frame c p)
  | .sync => g.flush
  | .rotate => (g.rotate flushFirst).getD g
  | .cutHead n => { g with head := g.head.map (·.take n) }

def run (B : Nat) (flushFirst : Bool) (c : Codec) (g : Group) (ops : List Op) : Group :=
  ops.foldl (stepOp B flushFirst c) g

def payloads : List Op → List Bytes
  | [] => []
  | .write p :: ops => p :: payloads ops
  | _ :: ops => payloads ops

def validB (c : Codec) (p : Bytes) : Bool := decide (0 < p.length) && decide (p.length ≤ c.maxMsg) && c.ok p

theorem valid_of_validB (c : Codec) (p : Bytes) (h : validB c p = true) : Valid c p := by
  simp [validB] at h
  exact ⟨h.1.1, h.1.2, h.2⟩

def _root_.Model.Wal.Search.isFound : Search → Bool
  | .found _ _ => true
  | _ => false

/-- the record of a marker for height `h` is completely inside the bytes that are on disk -/
def markerOnDisk (c : Codec) (ps : List Bytes) (diskBytes : Nat) (h : Nat) : Bool :=
  (List.range ps.length).any fun j => c.eh (ps.getD j []) == some h && decide (bytesOf c ps (j + 1) ≤ diskBytes)

/-- marker heights never decrease (the node writes EndHeight h once, after height h) -/
def monotoneMarkers (c : Codec) (ps : List Bytes) : Bool :=
  let hs := ps.filterMap c.eh
  (hs.zip hs.tail).all fun (a, b) => decide (a ≤ b)

/-- **The marker clause at full strength.**  For every buffer size, codec, history of writes / syncs / rotations
(and, if `cuts`, crash cuts of the head), with valid payloads and monotone markers, when the head exists (as it does
whenever the node searches): `SearchForEndHeight h` finds the marker iff its record is completely on disk.
As stated it is false: `false false` by `C14_rotation_counterexample`, `true true` by `C14_torn_tail_counterexample`
(finding wal-search-torn-tail), `true false` by `C14_marker_unflushed_counterexample` (Props/C14Hist.lean: a search while
the buffered writer holds the rest of a record sees a torn head).  What holds on the current tree is
`C14_marker_flushed` (Props/C14Hist.lean: histories that end with an empty buffer) and
`search_fails_iff_torn_len_or_data` (Props/C14Search.lean: exactly which cuts of the head break the search). -/
def C14_marker_statement (flushFirst cuts : Bool) : Prop :=
  ∀ (B : Nat) (c : Codec) (ops : List Op) (h : Nat) (ign : Bool), 0 < B → Bounded c →
    (payloads ops).all (validB c) = true → monotoneMarkers c (payloads ops) = true →
    (cuts = false → ops.all (fun o => !o.isCut) = true) →
    (run B flushFirst c {} ops).head.isSome = true →
    ((search c (run B flushFirst c {} ops) h ign).isFound =
      markerOnDisk c (payloads ops) ((run B flushFirst c {} ops).stream 0).length h)

/-- a small concrete codec for witnesses: the real CRC-32C; every non-empty payload decodes; a payload `[0xEE, h]` is
the end-height marker of height `h` -/
def toyCodec : Codec :=
  { crc := Go.Crc32c.checksumNat
    ok := fun p => !p.isEmpty
    eh := fun p => match p with | [0xEE, h] => some h.toNat | _ => none
    maxMsg := Gen.WalFacts.maxMsgSizeBytes }

theorem toyCodec_bounded : Bounded toyCodec := ⟨Go.Crc32c.checksumNat_lt, by decide⟩

theorem toyCodec_detectsSingleByte : DetectsSingleByte toyCodec := detectsSingleByte_crc32c rfl

/-- witness for the rotation without flush (buffer of 16 bytes; at the real size 40960 the harness replays the same
shape on the code before the fix, entry `wal-rotate-unflushed-straddle`, `fixed`): marker 1 synced; two un-synced
records, the second one straddles the buffer flush; RotateFile; marker 2 synced. -/
def straddleOps : List Op :=
  [.write [0xEE, 1], .sync, .write [7], .write (List.replicate 12 0xFF), .rotate, .write [0xEE, 2], .sync]

/-- what `flushFirst = false` does on the witness.  The records take 10, 9, 20 and 10 bytes.  The third overflows the
buffer (9 + 20 > 16): bufio fills it up with 7 of the 20 bytes and writes it out, so the file that is rotated holds
10 + 9 + 7 = 26 bytes and ends inside a record; the other 13 bytes stay in the buffer across the rename and open the new
head, 13 + 10 = 23 bytes.  Everything is on disk, and the search for either marker reads the new head from its first
byte, mis-framed: "length exceeded" -/
theorem straddle_behaviour :
    let g := run 16 false toyCodec {} straddleOps
    g.files.map List.length = [26] ∧ g.head.map List.length = some 23 ∧ g.buf = [] ∧
    search toyCodec g 2 true = Search.err Res.errBig ∧ search toyCodec g 1 true = Search.err Res.errBig ∧
    markerOnDisk toyCodec (payloads straddleOps) (g.stream 0).length 2 = true ∧
    markerOnDisk toyCodec (payloads straddleOps) (g.stream 0).length 1 = true := by
  decide +kernel

/-- **C14_rotation_counterexample**: with `flushFirst = false` the marker clause is false even without any crash. -/
theorem C14_rotation_counterexample : ¬ C14_marker_statement false false := by
  intro h
  have := h 16 toyCodec straddleOps 2 true (by decide) toyCodec_bounded (by decide) (by decide) (by decide) (by decide)
  obtain ⟨_, _, _, hs, _, hm, _⟩ := straddle_behaviour
  rw [hs, hm] at this
  cases this

/-- with `flushFirst = true` the same history is searched correctly -/
theorem straddle_fixed_by_flush :
    let g := run 16 true toyCodec {} straddleOps
    (search toyCodec g 2 true).isFound = true ∧ (search toyCodec g 1 true).isFound = true ∧
    (search toyCodec g 3 true).isFound = false := by
  decide +kernel

/-- witness for the torn tail: marker 1 synced, rotation on the record boundary, one more record synced, the head cut
inside that record's data field -/
def tornOps : List Op := [.write [0xEE, 1], .sync, .rotate, .write [1, 2, 3, 4], .sync, .cutHead 10]

/-- **C14_torn_tail_counterexample** (`flushFirst = true`; independent of the repaired rotation defect): a head file cut
inside the length or data field of its last record makes the search fail with a non-corruption error before it
looks at the older file that holds the marker. -/
theorem C14_torn_tail_counterexample : ¬ C14_marker_statement true true := by
  intro h
  have := h 16 toyCodec tornOps 1 true (by decide) toyCodec_bounded (by decide) (by decide) (by decide) (by decide)
  revert this
  decide +kernel

theorem torn_tail_behaviour :
    search toyCodec (run 16 true toyCodec {} tornOps) 1 true = Search.err Res.errData := by decide +kernel

/-- non-vacuity: the toy codec is bounded, its payloads are valid, and a one-byte change of a concrete payload is a
`SingleByteChange` -/
example : Bounded toyCodec ∧ Valid toyCodec [0xEE, 1] ∧ SingleByteChange [0xEE, 1] [0xEE, 2] :=
  ⟨toyCodec_bounded, ⟨by decide, by decide, by decide⟩, ⟨1, 2, by decide, by decide, by decide⟩⟩

set_option maxRecDepth 100000 in
/-- the real CRC-32C on concrete bytes: every one of the 255 other values of either byte of `[0xEE, 1]` changes it -/
example : ∀ b : Fin 256, (b.val ≠ 0xEE → Go.Crc32c.checksumNat [UInt8.ofNat b.val, 1] ≠ Go.Crc32c.checksumNat [0xEE, 1]) ∧
    (b.val ≠ 1 → Go.Crc32c.checksumNat [0xEE, UInt8.ofNat b.val] ≠ Go.Crc32c.checksumNat [0xEE, 1]) := by
  intro b
  have hne : ∀ k : Nat, b.val ≠ k → k < 256 → UInt8.ofNat b.val ≠ UInt8.ofNat k := by
    intro k hk hk' e
    have := congrArg UInt8.toNat e
    simp only [UInt8.toNat_ofNat'] at this
    omega
  exact ⟨fun h => toyCodec_detectsSingleByte [0xEE, 1] _ ⟨0, _, by decide, rfl, hne 0xEE h (by decide)⟩,
    fun h => toyCodec_detectsSingleByte [0xEE, 1] _ ⟨1, _, by decide, rfl, hne 1 h (by decide)⟩⟩

end Props.C14
