/-
C18, multiplexing: for EVERY schedule (sequence of channel choices of `sendPacketMsg`) and every fragment size, the
receiver reassembles on each channel exactly the messages that were queued on it, whole and in order.
Proof: an invariant tying sender and receiver per channel, preserved by each (send one packet; receive it) step.
-/
import LinkVerif.Model.Conn

namespace Props.C18Mux
open Model.Conn

theorem upd_same {α : Type} (f : Chan → α) (c : Chan) (v : α) : upd f c v c = v := by simp [upd]

theorem upd_other {α : Type} (f : Chan → α) (c : Chan) (v : α) (x : Chan) (h : x ≠ c) : upd f c v x = f x := by
  simp [upd, h]

theorem delsOf_append (a b : List (Chan × Bytes)) (c : Chan) : delsOf (a ++ b) c = delsOf a c ++ delsOf b c := by
  simp [delsOf]

theorem delsOf_opt_same (c : Chan) (m : Bytes) : delsOf [(c, m)] c = [m] := by simp [delsOf]

theorem delsOf_opt_other (c x : Chan) (m : Bytes) (h : x ≠ c) : delsOf [(c, m)] x = [] := by
  have : (c == x) = false := by simp [Ne.symm h]
  simp [delsOf, this]

theorem delsOf_map (pick : Chan) (dl : List Bytes) (x : Chan) :
    delsOf (dl.map (fun m => (pick, m))) x = if x = pick then dl else [] := by
  by_cases hx : x = pick
  · simp [delsOf, hx, List.filter_map, Function.comp_def]
  · simp [delsOf, hx, Ne.symm hx, List.filter_map, Function.comp_def]

/-- the message a channel is in the middle of: what the receiver already holds followed by what the sender still has -/
def inflight (S : Sender) (R : Receiver) (c : Chan) : List Bytes :=
  if (S.chans c).sending = [] then [] else [R.recving c ++ (S.chans c).sending]

structure Inv (msgs : Chan → List Bytes) (S : Sender) (R : Receiver) (D : List (Chan × Bytes)) : Prop where
  known : ∀ c, msgs c ≠ [] → R.known c = true
  idle : ∀ c, (S.chans c).sending = [] → R.recving c = []
  split : ∀ c, msgs c = delsOf D c ++ inflight S R c ++ (S.chans c).queue
  caps : ∀ c m, m ∈ msgs c → m.length ≤ R.cap c

/-- frame rule: a step that touches only channel `pick` re-establishes the invariant from local facts -/
theorem inv_of_local {msgs : Chan → List Bytes} {S : Sender} {R : Receiver} {D : List (Chan × Bytes)}
    (inv : Inv msgs S R D) (pick : Chan) (sc' : SChan) (buf' : Bytes) (dl : List Bytes)
    (hidle : sc'.sending = [] → buf' = [])
    (hsplit : msgs pick = (delsOf D pick ++ dl) ++ (if sc'.sending = [] then [] else [buf' ++ sc'.sending]) ++ sc'.queue) :
    Inv msgs { S with chans := upd S.chans pick sc' } { R with recving := upd R.recving pick buf' }
      (D ++ dl.map (fun m => (pick, m))) := by
  refine ⟨inv.known, ?_, ?_, inv.caps⟩
  · intro c hc
    by_cases h : c = pick
    · subst h; simp only [upd_same] at hc ⊢; exact hidle hc
    · simp only [upd_other _ _ _ _ h] at hc ⊢; exact inv.idle c hc
  · intro c
    by_cases h : c = pick
    · subst h
      simp only [delsOf_append, delsOf_map, if_true, inflight, upd_same]
      exact hsplit
    · simp only [delsOf_append, delsOf_map, if_neg h, List.append_nil, inflight, upd_other _ _ _ _ h]
      exact inv.split c

theorem recvPacket_accept {r : Receiver} {p : Packet} (ho : p.over = false) (hk : r.known p.ch = true)
    (hc : (r.recving p.ch).length + p.bytes.length ≤ r.cap p.ch) :
    recvPacket r p =
      if p.eof = 1 then .ok ({ r with recving := upd r.recving p.ch [] }, some (p.ch, r.recving p.ch ++ p.bytes))
      else .ok ({ r with recving := upd r.recving p.ch (r.recving p.ch ++ p.bytes) }, none) := by
  unfold recvPacket
  simp only [ho, Bool.false_eq_true, ↓reduceIte, hk, Bool.not_true]
  rw [if_neg (Nat.not_lt.mpr hc)]

theorem guard_eq_ok_iff {ε α : Type} {c : Prop} [Decidable c] {e : ε} {r : Except ε α} {x : α} :
    (if c then .error e else r) = .ok x ↔ ¬ c ∧ r = .ok x := by
  by_cases h : c
  · rw [if_pos h]; exact ⟨fun h' => (nomatch h'), fun h' => absurd h h'.1⟩
  · rw [if_neg h]; exact ⟨fun h' => ⟨h, h'⟩, fun h' => h'.2⟩

structure Accepted (r : Receiver) (p : Packet) (r' : Receiver) (d : Option (Chan × Bytes)) : Prop where
  notOver : p.over = false
  known : r.known p.ch = true
  fits : (r.recving p.ch).length + p.bytes.length ≤ r.cap p.ch
  cap : r'.cap = r.cap
  delivery : ∀ c m, d = some (c, m) → c = p.ch ∧ m = r.recving p.ch ++ p.bytes

theorem recvPacket_ok {r r' : Receiver} {p : Packet} {d : Option (Chan × Bytes)} (h : recvPacket r p = .ok (r', d)) :
    Accepted r p r' d := by
  unfold recvPacket at h
  cases ho : p.over with
  | true =>
    simp only [ho, ↓reduceIte, guard_eq_ok_iff] at h
    exact nomatch h.2.2
  | false =>
    simp only [ho, Bool.false_eq_true, ↓reduceIte, guard_eq_ok_iff, Bool.not_eq_eq_eq_not, Bool.not_true, Bool.not_eq_false,
      Nat.not_lt] at h
    obtain ⟨hk, hc, h⟩ := h
    split at h
    · cases h
      exact ⟨ho, hk, hc, rfl, fun c m hd => by cases hd; exact ⟨rfl, rfl⟩⟩
    · cases h
      exact ⟨ho, hk, hc, rfl, fun c m hd => nomatch hd⟩

/-- a queued message is promoted only when none is in flight; the receiver then holds nothing of it -/
theorem pending_split {msgs : Chan → List Bytes} {S : Sender} {R : Receiver} {D : List (Chan × Bytes)}
    (inv : Inv msgs S R D) (pick : Chan) :
    isSendPending (S.chans pick) = (false, S.chans pick) ∨
    ∃ sc, isSendPending (S.chans pick) = (true, sc) ∧
      msgs pick = delsOf D pick ++ [R.recving pick ++ sc.sending] ++ sc.queue := by
  have hsp := inv.split pick
  unfold inflight at hsp
  unfold isSendPending
  cases hs : (S.chans pick).sending with
  | cons b bs =>
    have hne : (S.chans pick).sending ≠ [] := by rw [hs]; exact List.cons_ne_nil _ _
    rw [if_neg hne] at hsp
    exact Or.inr ⟨S.chans pick, rfl, hsp⟩
  | nil =>
    rw [if_pos hs, List.append_nil] at hsp
    cases hq : (S.chans pick).queue with
    | nil => exact Or.inl rfl
    | cons m q =>
      refine Or.inr ⟨⟨q, m⟩, rfl, ?_⟩
      rw [hsp, hq, inv.idle pick hs, List.nil_append, List.append_assoc]
      rfl

/-- one scheduler choice: either nothing was pending on the chosen channel, or a packet leaves, the receiver accepts it
without error, and the invariant holds again with the delivery (if any) appended -/
theorem step_inv {msgs : Chan → List Bytes} {S : Sender} {R : Receiver} {D : List (Chan × Bytes)}
    (inv : Inv msgs S R D) (pick : Chan) :
    sendStep S pick = (S, none) ∨
    ∃ (S' : Sender) (p : Packet) (R' : Receiver) (d : Option Bytes), sendStep S pick = (S', some p) ∧
      recvPacket R p = .ok (R', d.map (fun m => (pick, m))) ∧
      Inv msgs S' R' (D ++ d.toList.map (fun m => (pick, m))) := by
  rcases pending_split inv pick with hn | ⟨sc, hp, hmsgs⟩
  · left
    simp only [sendStep, hn]
  · right
    have hm : R.recving pick ++ sc.sending ∈ msgs pick := by
      rw [hmsgs]
      exact List.mem_append_left _ (List.mem_append_right _ List.mem_cons_self)
    have hk := inv.known pick (List.ne_nil_of_mem hm)
    have hcap := inv.caps pick _ hm
    rw [List.length_append] at hcap
    by_cases hl : sc.sending.length ≤ S.maxPay
    · -- the last fragment: the message is delivered
      refine ⟨_, ⟨pick, 1, sc.sending, false⟩, _, some (R.recving pick ++ sc.sending), ?_, ?_,
        inv_of_local inv pick { sc with sending := [] } [] [R.recving pick ++ sc.sending] (fun _ => rfl) ?_⟩
      · simp only [sendStep, hp, nextPacket, if_pos hl]
      · rw [recvPacket_accept rfl hk hcap]
        rfl
      · simp only [↓reduceIte, List.append_nil]
        exact hmsgs
    · -- a fragment of `maxPay` bytes moves from the sender's remainder to the receiver's buffer
      have hdrop : sc.sending.drop S.maxPay ≠ [] := fun h => hl (List.drop_eq_nil_iff.mp h)
      refine ⟨_, ⟨pick, 0, sc.sending.take S.maxPay, false⟩, _, none, ?_, ?_,
        inv_of_local inv pick { sc with sending := sc.sending.drop S.maxPay }
          (R.recving pick ++ sc.sending.take S.maxPay) [] (fun h => absurd h hdrop) ?_⟩
      · simp only [sendStep, hp, nextPacket, if_neg hl]
      · have hfit : (R.recving pick).length + (sc.sending.take S.maxPay).length ≤ R.cap pick := by
          rw [List.length_take]; omega
        rw [recvPacket_accept rfl hk hfit]
        rfl
      · rw [if_neg hdrop, List.append_nil, List.append_assoc (R.recving pick), List.take_append_drop]
        exact hmsgs

theorem run_inv {msgs : Chan → List Bytes} : ∀ (sched : List Chan) (S : Sender) (R : Receiver) (D : List (Chan × Bytes)),
    Inv msgs S R D →
    ∃ R' ds, recvAll R (runSched S sched).2 = (R', ds, none) ∧ Inv msgs (runSched S sched).1 R' (D ++ ds) := by
  intro sched
  induction sched with
  | nil => intro S R D inv; exact ⟨R, [], rfl, (List.append_nil D).symm ▸ inv⟩
  | cons c cs ih =>
    intro S R D inv
    rcases step_inv inv c with h | ⟨S', p, R', d, hs, hr, inv'⟩
    · rw [runSched, h]
      exact ih S R D inv
    · obtain ⟨R2, ds, h1, h2⟩ := ih S' R' _ inv'
      have e : runSched S (c :: cs) = ((runSched S' cs).1, p :: (runSched S' cs).2) := by rw [runSched, hs]
      rw [e, List.append_assoc] at *
      refine ⟨R2, d.toList.map (fun m => (c, m)) ++ ds, ?_, h2⟩
      simp only [recvAll, hr, h1]
      cases d with
      | none => rfl
      | some m => rfl

theorem mux_order (maxPay : Nat) (known : Chan → Bool) (cap : Chan → Nat) (msgs : Chan → List Bytes)
    (hk : ∀ c, msgs c ≠ [] → known c = true) (hcap : ∀ c m, m ∈ msgs c → m.length ≤ cap c) (sched : List Chan) :
    let S0 : Sender := { maxPay := maxPay, known := known, chans := fun c => { queue := msgs c, sending := [] } }
    let R0 : Receiver := { known := known, cap := cap, recving := fun _ => [] }
    ∃ S' R' ds, (runSched S0 sched).1 = S' ∧ recvAll R0 (runSched S0 sched).2 = (R', ds, none)
      ∧ (∀ c, delsOf ds c <+: msgs c)
      ∧ ((∀ c, (S'.chans c).sending = [] ∧ (S'.chans c).queue = []) → ∀ c, delsOf ds c = msgs c) := by
  intro S0 R0
  have inv0 : Inv msgs S0 R0 [] :=
    { known := hk, idle := fun _ _ => rfl, split := fun c => by simp [S0, delsOf, inflight], caps := hcap }
  obtain ⟨R', ds, h1, h2⟩ := run_inv sched S0 R0 [] inv0
  simp only [List.nil_append] at h2
  refine ⟨_, R', ds, rfl, h1, ?_, ?_⟩
  · intro c
    exact ⟨_, by rw [← List.append_assoc]; exact (h2.split c).symm⟩
  · intro hdone c
    have := h2.split c
    simp only [inflight, (hdone c).1, (hdone c).2, ↓reduceIte, List.append_nil] at this
    exact this.symm

/-- non-vacuity: two channels, fragments of 2 bytes, an interleaving schedule; everything arrives whole and in order -/
example :
    let S0 : Sender := { maxPay := 2, known := fun _ => true,
                         chans := fun c => if c = 1 then { queue := [[1, 2, 3], [4]] } else if c = 2 then { queue := [[9, 8, 7, 6, 5]] } else {} }
    let R0 : Receiver := { known := fun _ => true, cap := fun _ => 10, recving := fun _ => [] }
    (recvAll R0 (runSched S0 [1, 2, 2, 1, 1, 2, 1]).2).2 = ([(1, [1, 2, 3]), (1, [4]), (2, [9, 8, 7, 6, 5])], none) := rfl

end Props.C18Mux
