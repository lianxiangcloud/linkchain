/-
C19 — All storage backends implement the same ordered map with atomic batches.

What is proved here is the repository's own logic (`libs/db`): the reference ordered map, `MemDB`,
`memBatch`, the leaf functions and `PrefixDB`/`IteratePrefix`.  LevelDB, Bolt and Badger are external
libraries: they are tied to the reference ONLY by the correspondence run (`bin/check C19`).

Here: prefixed views (`prefixdb_refines`: lookups, forward and reverse iteration; writes through a view:
`restrict_writeBatch` in C19Compose), `IteratePrefix`/`NewIteratorWithPrefix`, and `backends_agree` for the
four backend models.
The five defects this check found (cpIncr overrun, goleveldb Load/Exist, badger empty reverse start, sharded
duplicates, badger batch reuse) are repaired in the repository (b779b6d, cf43a03, afaf3d1, e8d9b40, 201fd44): the
statements below are the full ones, about the code as it is.
-/
import LinkVerif.Model.KV
import LinkVerif.Props.C19Order
import LinkVerif.Props.C19Ref

namespace Props.C19
open Model.KV

theorem get_append_restrict (p : Bytes) (m : Ref) (k : Bytes) :
    Ref.get m (p ++ k) = Ref.get (restrict p m) k := by
  induction m with
  | nil => rfl
  | cons x rest ih =>
    obtain ⟨k0, v0⟩ := x
    rw [restrict, List.filter_cons, Ref.get_cons]
    cases hp : hasPrefix p k0 with
    | true =>
      obtain ⟨t, rfl⟩ := (hasPrefix_iff p k0).mp hp
      rw [if_pos rfl, List.map_cons, strip, List.drop_left, Ref.get_cons, ← restrict, ← ih]
      simp only [List.append_cancel_left_eq]
    | false =>
      have hne : ¬ k0 = p ++ k := fun e => by rw [e, (hasPrefix_iff p _).mpr ⟨k, rfl⟩] at hp; cases hp
      rw [if_neg hne, if_neg Bool.false_ne_true, ← restrict]
      exact ih

theorem prefixed_lt_end {p k u : Bytes} (hp : hasPrefix p k = true) (hu : prefixToEnd p = some u) : blt k u = true := by
  have h := (prefix_range p k).mp hp
  rw [hu] at h
  exact h.2

theorem end_no_prefix {p u : Bytes} (hu : prefixToEnd p = some u) : hasPrefix p u = false := by
  cases h : hasPrefix p u with
  | false => rfl
  | true => exact absurd rfl (blt_ne (prefixed_lt_end h hu))

theorem prefix_ble {p k : Bytes} (hp : hasPrefix p k = true) : ble p k = true :=
  ((prefix_range p k).mp hp).1

/-- the forward bound translation is exact: a store key is in the translated range iff it carries the prefix and its
remainder is in the requested range -/
theorem inFwd_pfx (p k : Bytes) (s e : Bound) :
    inFwd k (pfxBoundsFwd p s e).1 (pfxBoundsFwd p s e).2 = (hasPrefix p k && inFwd (k.drop p.length) s e) := by
  cases hp : hasPrefix p k with
  | true =>
    obtain ⟨t, rfl⟩ := (hasPrefix_iff p k).mp hp
    simp only [Bool.true_and, List.drop_left, pfxBoundsFwd, inFwd, bval, Option.getD_some, ble_append_left]
    cases e with
    | some e' => simp only [blt_append_left]
    | none =>
      cases hu : prefixToEnd p with
      | none => rfl
      | some u => simp only [prefixed_lt_end hp hu]
  | false =>
    -- a key in the translated range is at or above `p` and below `PrefixToEnd p`: it has the prefix (`prefix_range`)
    refine Bool.eq_false_iff.mpr fun hL => ?_
    simp only [pfxBoundsFwd, inFwd, bval, Option.getD_some, Bool.and_eq_true] at hL
    have hpk : hasPrefix p k = true := by
      refine (prefix_range p k).mpr ⟨ble_trans (ble_append_right p _) hL.1, ?_⟩
      cases hu : prefixToEnd p with
      | none => trivial
      | some u =>
        cases e with
        | none => simp only [hu] at hL; exact hL.2
        | some e' => exact blt_trans hL.2 (prefixed_lt_end ((hasPrefix_iff p _).mpr ⟨e', rfl⟩) hu)
    rw [hp] at hpk
    cases hpk

theorem takeWhile_all {α : Type} (P : α → Bool) (l : List α) (h : ∀ x ∈ l, P x = true) : l.takeWhile P = l := by
  have := List.takeWhile_append_of_pos (l₂ := []) h
  rwa [List.append_nil, List.takeWhile_nil, List.append_nil] at this

/-- PREFIXDB REFINES (forward iteration): `PrefixDB(p).Iterator(s, e)` over ANY store content and ANY prefix yields
exactly the iteration of the reference restricted to the prefix, prefix stripped, with the same bounds -/
theorem prefixdb_iter_refines (p : Bytes) (m : Ref) (s e : Bound) :
    pfxIter refI m p s e = Ref.iter (restrict p m) s e := by
  simp only [pfxIter, prefixTake, refI, Ref.iter, restrict]
  rw [takeWhile_all]
  · rw [List.filter_map, List.filter_filter]
    congr 1
    apply List.filter_congr
    intro kv _
    simp only [Function.comp, strip, inFwd_pfx, Bool.and_comm]
  · intro kv hkv
    have := (List.mem_filter.mp hkv).2
    rw [inFwd_pfx] at this
    exact (Bool.and_eq_true _ _ ▸ this).1

/-- `NewIteratorWithPrefix` of a view is the view's iterator on `[q, PrefixToEnd q)` -/
theorem prefixdb_prefixIter_refines (p : Bytes) (m : Ref) (q : Bound) :
    pfxPrefixIter refI m p q = prefixIter refI (restrict p m) q := prefixdb_iter_refines p m q _

/-- the bounds `PrefixDB.ReverseIterator` hands down -/
def revStartB (p : Bytes) (s : Bound) : Bound := match s with | none => prefixToEnd p | some s' => some (p ++ s')
def revEndB (p : Bytes) (e : Bound) : Bound := match e with | none => cpDecrCore p | some e' => some (p ++ e')

theorem pfxBoundsRev_of_ne {p : Bytes} (hp : p ≠ []) (s e : Bound) :
    pfxBoundsRev p s e = some (revStartB p s, revEndB p e) := by
  cases p with
  | nil => exact absurd rfl hp
  | cons x xs => cases e <;> rfl

/-- the reverse bound translation is exact on keys that carry the prefix -/
theorem inRev_pfx (p t : Bytes) (s e : Bound) : inRev (p ++ t) (revStartB p s) (revEndB p e) = inRev t s e := by
  unfold inRev revStartB revEndB
  congr 1
  · cases s with
    | some s' => exact ble_append_left p t s'
    | none =>
      cases hu : prefixToEnd p with
      | none => rfl
      | some u => exact (ble_iff _ _).mpr (Or.inl (prefixed_lt_end ((hasPrefix_iff p _).mpr ⟨t, rfl⟩) hu))
  · cases e with
    | some e' => exact blt_append_left p e' t
    | none =>
      cases hd : cpDecrCore p with
      | none => rfl
      | some d => exact blt_of_blt_of_ble (cpDecr_lt hd) (ble_append_right p t)

/-- once a descending walk has left the prefix it never comes back: `takeWhile` = `filter` -/
theorem takeWhile_eq_filter_of_mono {α : Type} {P : α → Bool} {R : α → α → Prop} {l : List α} (hp : l.Pairwise R)
    (hm : ∀ a b, a ∈ l → R a b → P b = true → P a = true) : l.takeWhile P = l.filter P := by
  induction l with
  | nil => rfl
  | cons x xs ih =>
    rw [List.pairwise_cons] at hp
    have ih' := ih hp.2 (fun a b ha => hm a b (List.mem_cons_of_mem _ ha))
    cases hx : P x with
    | true => simp [hx, ih']
    | false =>
      have : xs.filter P = [] := by
        rw [List.filter_eq_nil_iff]
        intro y hy hPy
        have := hm x y List.mem_cons_self (hp.1 y hy) hPy
        rw [hx] at this; cases this
      simp [hx, this]

theorem skipOne_sublist (l : List KV) (sk : Bound) : (skipOne l sk).Sublist l := by
  cases l with
  | nil => exact List.Sublist.refl _
  | cons x xs =>
    rw [skipOne]
    split
    · exact List.sublist_cons_self x xs
    · exact List.Sublist.refl _

theorem filter_skipOne (P : KV → Bool) (l : List KV) (sk : Bound) (h : ∀ kv, kv.1 = bval sk → P kv = false) :
    (skipOne l sk).filter P = l.filter P := by
  cases l with
  | nil => rfl
  | cons x xs =>
    rw [skipOne]
    split
    · next heq => rw [List.filter_cons, if_neg (by rw [h x (beq_iff_eq.mp heq)]; exact Bool.false_ne_true)]
    · rfl

theorem skipOne_lt {l : List KV} {u : Bytes} (hd : l.Pairwise (fun a b => blt b.1 a.1 = true)) (hle : ∀ a ∈ l, ble a.1 u = true) :
    ∀ a ∈ skipOne l (some u), blt a.1 u = true := by
  cases l with
  | nil => exact fun _ h => nomatch h
  | cons x xs =>
    have hx := (List.pairwise_cons.mp hd).1
    intro a ha
    rw [skipOne] at ha
    split at ha
    · next heq => rw [← show x.1 = u from beq_iff_eq.mp heq]; exact hx a ha
    · next hne =>
      have hxlt : blt x.1 u = true :=
        ((ble_iff _ _).mp (hle x List.mem_cons_self)).resolve_right (fun e => hne (beq_iff_eq.mpr e))
      rcases List.mem_cons.mp ha with rfl | ha
      · exact hxlt
      · exact blt_trans (hx a ha) hxlt

/-- PREFIXDB REFINES (reverse iteration): for a non-empty prefix and a sorted store, `PrefixDB(p).ReverseIterator(s, e)`
yields exactly the reverse iteration of the restricted, stripped reference with the same bounds (the source starts
at `PrefixToEnd p`, that key is skipped, and the walk stops at the first key below the prefix) -/
theorem prefixdb_riter_refines (p : Bytes) (m : Ref) (s e : Bound) (hs : Sorted m) (hp : p ≠ []) :
    pfxRIter refI m p s e = some (Ref.riter (restrict p m) s e) := by
  rw [pfxRIter, pfxBoundsRev_of_ne hp, Option.map_some]
  dsimp only
  generalize hR : refI.riter m (revStartB p s) (revEndB p e) = R
  have hdesc : R.Pairwise (fun a b => blt b.1 a.1 = true) := by
    rw [← hR]
    exact List.pairwise_reverse.mpr (List.Pairwise.filter _ hs)
  have hmemR : ∀ a ∈ R, inRev a.1 (revStartB p s) (revEndB p e) = true := by
    rw [← hR]
    exact fun a ha => (List.mem_filter.mp (List.mem_reverse.mp ha)).2
  generalize hR' : (if s.isNone then skipOne R (prefixToEnd p) else R) = R'
  have hsub : R'.Sublist R := by
    rw [← hR']
    split
    · exact skipOne_sublist _ _
    · exact List.Sublist.refl _
  -- the skipped key, `PrefixToEnd p` (or the empty key when there is none), carries no prefix
  have hskip : R'.filter (fun kv => hasPrefix p kv.1) = R.filter (fun kv => hasPrefix p kv.1) := by
    rw [← hR']
    split
    · refine filter_skipOne _ _ _ fun kv hkv => ?_
      rw [hkv]
      cases hu : prefixToEnd p with
      | some u => exact end_no_prefix hu
      | none =>
        cases p with
        | nil => exact absurd rfl hp
        | cons y ys => rfl
    · rfl
  -- every remaining key is strictly below `PrefixToEnd p`
  have hbelow : ∀ a ∈ R', match prefixToEnd p with | none => True | some u => blt a.1 u = true := by
    intro a ha
    cases hu : prefixToEnd p with
    | none => trivial
    | some u =>
      cases s with
      | some s' =>
        have h1 := hmemR a (hsub.subset ha)
        simp only [inRev, revStartB, Bool.and_eq_true] at h1
        exact blt_of_ble_of_blt h1.1 (prefixed_lt_end ((hasPrefix_iff p _).mpr ⟨s', rfl⟩) hu)
      | none =>
        rw [← hR', hu] at ha
        refine skipOne_lt hdesc (fun b hb => ?_) a ha
        have h1 := hmemR b hb
        simp only [inRev, revStartB, hu, Bool.and_eq_true] at h1
        exact h1.1
  -- so a key above a prefixed one has the prefix (`prefix_range`): the walk leaves the prefix once and for all
  have hwalk : R'.takeWhile (fun kv => hasPrefix p kv.1) = R'.filter (fun kv => hasPrefix p kv.1) :=
    takeWhile_eq_filter_of_mono (hdesc.sublist hsub) fun a b ha hba hPb =>
      (prefix_range p a.1).mpr ⟨ble_trans (prefix_ble hPb) ((ble_iff _ _).mpr (Or.inl hba)), hbelow a ha⟩
  rw [prefixTake, hwalk, hskip, ← hR]
  simp only [refI, Ref.riter, restrict]
  rw [List.filter_reverse, List.map_reverse, List.filter_map, List.filter_filter, List.filter_filter]
  congr 3
  apply List.filter_congr
  intro kv _
  cases hP : hasPrefix p kv.1 with
  | false => exact (Bool.and_false _).symm
  | true =>
    obtain ⟨t, ht⟩ := (hasPrefix_iff p kv.1).mp hP
    simp only [Function.comp, strip, ht, List.drop_left, inRev_pfx, Bool.true_and, Bool.and_true]

/-- FULL STATEMENT: every operation of a view - lookups, writes, forward and reverse iteration with any
bounds - equals the same operation on the reference restricted to the prefix with the prefix stripped -/
def prefixdb_refines_statement : Prop :=
  ∀ (p : Bytes) (m : Ref) (s e : Bound) (k : Bytes), p ≠ [] → Sorted m →
    (pfxI refI p).get m k = Ref.get (restrict p m) k ∧
    pfxIter refI m p s e = Ref.iter (restrict p m) s e ∧
    pfxRIter refI m p s e = some (Ref.riter (restrict p m) s e)

theorem prefixdb_refines : prefixdb_refines_statement :=
  fun p m s e k hp hs => ⟨get_append_restrict p m k, prefixdb_iter_refines p m s e, prefixdb_riter_refines p m s e hs hp⟩

/-- `IteratePrefix(db, p)` lists exactly the entries whose key starts with `p` (every prefix, 0xff tails included) -/
theorem iteratePrefix_spec (m : Ref) (p : Bytes) : iteratePrefix refI m p = m.filter (fun kv => hasPrefix p kv.1) := by
  have hall : ∀ k : Bytes, inFwd k none none = true := fun k => by rw [inFwd, bval, Option.getD_none, nil_ble]; rfl
  unfold iteratePrefix
  split
  · next hp =>
    rw [List.isEmpty_iff.mp hp]
    exact List.filter_congr fun kv _ => hall kv.1
  · refine List.filter_congr fun kv _ => ?_
    have h := inFwd_pfx p kv.1 none none
    rwa [hall, Bool.and_true, pfxBoundsFwd, bval, Option.getD_none, List.append_nil] at h

/-- the witness store of the cpIncr overrun (b779b6d): key 67 is not listed under prefix 66ff -/
example : iteratePrefix refI [([0x66, 0xff], [0x01]), ([0x67], [0x02])] [0x66, 0xff] = [([0x66, 0xff], [0x01])] := rfl
example : pfxRIter refI [([0x66, 0xff, 0x01], [0x01]), ([0x67], [0x02])] [0x66, 0xff] none none = some [([0x01], [0x01])] := rfl
example : prefixIter refI [([0x66, 0xff], [0x01]), ([0x67], [0x02])] (some [0x66, 0xff]) = [([0x66, 0xff], [0x01])] := rfl
example : pfxIter refI [([0x61, 0x01], [0x01]), ([0x61, 0x02], [0x02]), ([0x62], [0x03])] [0x61] none none
    = [([0x01], [0x01]), ([0x02], [0x02])] := rfl
example : pfxRIter refI [([0x61, 0x01], [0x01]), ([0x61, 0x02], [0x02]), ([0x62], [0x03])] [0x61] none none
    = some [([0x02], [0x02]), ([0x01], [0x01])] := rfl
/-- an empty prefix panics in `ReverseIterator(_, nil)` (`cpDecr` contract), not in forward iteration -/
example : pfxRIter refI [] [] none none = none ∧ pfxIter refI [([1], [1])] [] none none = [([1], [1])] := by decide

def NoEmpty (m : Ref) : Prop := Ref.get m [] = none

/-- badger's born-invalid reverse iterator IS the reference answer whenever the store holds no empty key
(badger cannot hold one: `Set` of an empty key is ignored) -/
theorem bdg_riter_eq_ref {m : Ref} (hs : Sorted m) (h0 : NoEmpty m) (s e : Bound) :
    bdgI.riter m s e = Ref.riter m s e := by
  show (match s with | some [] => [] | _ => Ref.riter m s e) = Ref.riter m s e
  split
  · symm
    unfold Ref.riter
    rw [List.reverse_eq_nil_iff, List.filter_eq_nil_iff]
    intro kv hkv hin
    simp only [inRev, Bool.and_eq_true] at hin
    have hk : kv.1 = [] := by
      rcases (ble_iff _ _).mp hin.1 with h | h
      · rw [blt_nil_right] at h; cases h
      · exact h
    have : Ref.get m kv.1 = some kv.2 := Ref.get_of_mem hs hkv
    rw [hk, show Ref.get m [] = none from h0] at this; cases this
  · rfl

/-- an op that never writes the empty key (bolt and badger reject it: generator exclusion) -/
def Op.noEmptyKey : Op → Prop
  | .set k _ => k ≠ []
  | .write b => ∀ op ∈ b, match op with | .set k _ => k ≠ [] | .del _ => True
  | _ => True

theorem stepI_noEmpty {I : DBI Ref} (hset : I.set = Ref.set) (hdel : I.del = Ref.del) {m : Ref} (h0 : NoEmpty m)
    (op : Op) (hop : op.noEmptyKey) : NoEmpty (stepI I m op).1 := by
  have hS : ∀ st k v, k ≠ [] → NoEmpty st → NoEmpty (I.set st k v) := fun st k v hk h => by
    rw [NoEmpty, hset, Ref.get_set, if_neg hk]
    exact h
  have hD : ∀ st k, NoEmpty st → NoEmpty (I.del st k) := fun st k h => by
    rw [NoEmpty, hdel, Ref.get_del, show Ref.get st [] = none from h]
    exact ite_self _
  cases op with
  | set k v => exact hS m k v hop h0
  | del k => exact hD m k h0
  | write b =>
    refine List.foldlRecOn b _ (motive := NoEmpty) h0 fun st hst o ho => ?_
    cases o with
    | set k v => exact hS st k v (hop _ ho) hst
    | del k => exact hD st k hst
  | _ => exact h0

theorem bdg_run_eq_ref {m : Ref} (hs : Sorted m) (h0 : NoEmpty m) (ops : List Op)
    (hops : ∀ op ∈ ops, op.noEmptyKey) : runI bdgI m ops = runI refI m ops := by
  -- kept by every op that writes no empty key: the same store on both sides, sorted, without the empty key
  refine runI_congr (R := fun a b => a = b ∧ Sorted a ∧ NoEmpty a) ops (fun {a b} op hop hab => ?_) ⟨rfl, hs, h0⟩
  obtain ⟨rfl, hs, h0⟩ := hab
  have h0' := stepI_noEmpty (I := bdgI) rfl rfl h0 op (hops op hop)
  cases op with
  | set k v => exact ⟨⟨rfl, Ref.set_sorted hs k v, h0'⟩, rfl⟩
  | del k => exact ⟨⟨rfl, Ref.del_sorted hs k, h0'⟩, rfl⟩
  | write b => exact ⟨⟨rfl, writeBatch_sorted hs b, h0'⟩, rfl⟩
  | riter s e => exact ⟨⟨rfl, hs, h0⟩, congrArg Out.kvs (bdg_riter_eq_ref hs h0 s e)⟩
  | _ => exact ⟨⟨rfl, hs, h0⟩, rfl⟩

/-- ALL BACKENDS AGREE (models): for any op sequence that never writes the empty key, the memdb model, the goleveldb
model, the bolt model (= the reference) and the badger model give the same answers.  (For the external engines
themselves this is what the correspondence run checks.) -/
theorem backends_agree (ops : List Op) (hops : ∀ op ∈ ops, op.noEmptyKey) :
    runI memI ⟨[]⟩ ops = runI refI [] ops ∧ runI ldbI [] ops = runI refI [] ops ∧ runI bdgI [] ops = runI refI [] ops :=
  ⟨memdb_refines_ref ops, rfl, bdg_run_eq_ref List.Pairwise.nil rfl ops hops⟩

/-- what a batch object holds after Write: kept by memBatch/goleveldb (a second Write applies it again), empty on
bolt/badger; after `Reset` it is empty everywhere, so Write-Reset-reuse agrees on all backends -/
theorem batch_after_write (ops : List BOp) :
    batchAfterWrite .keeps ops = ops ∧ batchAfterWrite .empty ops = [] := ⟨rfl, rfl⟩

example : runI bdgI [] [.set [1] [1], .riter (some []) none, .riter none none] = [.unit, .kvs [], .kvs [([1], [1])]] := rfl

end Props.C19
