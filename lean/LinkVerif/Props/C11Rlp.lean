/-
C11, layer 1 theorems: the RLP framing is a bijection between sized items and canonical byte strings.
The strict decoder takes the first value of its input as `Split` of raw.go does, and enters lists (`decF_succ`).
-/
import LinkVerif.Model.Rlp

namespace Props.C11
open Model.Rlp

theorem beVal_append_single (xs : Bytes) (b : UInt8) : beVal (xs ++ [b]) = beVal xs * 256 + b.toNat := by
  simp [beVal, List.foldl_append]

theorem beVal_nil : beVal [] = 0 := rfl

theorem beVal_beBytesF : ∀ (f n : Nat), n < 256 ^ f → beVal (beBytesF f n) = n
  | 0, n, h => by
    have : n = 0 := by simpa using h
    subst this; rfl
  | f + 1, n, h => by
    unfold beBytesF
    split
    · next h0 => subst h0; rfl
    · have hlt : n / 256 < 256 ^ f := by
        rw [Nat.div_lt_iff_lt_mul (by decide)]; rw [Nat.pow_succ] at h; exact h
      rw [beVal_append_single, beVal_beBytesF f (n / 256) hlt]
      simp
      omega

theorem beBytesF_length : ∀ (f n : Nat), (beBytesF f n).length ≤ f
  | 0, _ => by simp [beBytesF]
  | f + 1, n => by
    unfold beBytesF
    split
    · simp
    · have := beBytesF_length f (n / 256); simp; omega

theorem beBytesF_ne_nil : ∀ (f n : Nat), n ≠ 0 → beBytesF (f + 1) n ≠ []
  | f, n, h => by unfold beBytesF; simp [h]

theorem beBytesF_zero (f : Nat) : beBytesF f 0 = [] := by cases f <;> simp [beBytesF]

theorem beBytesF_head : ∀ (f n : Nat), n ≠ 0 → n < 256 ^ f → (beBytesF f n).head? ≠ some 0 ∧ (beBytesF f n).head? ≠ none
  | 0, n, h0, h => absurd (by simpa using h) h0
  | f + 1, n, h0, h => by
    rw [beBytesF, if_neg h0]
    by_cases hq : n / 256 = 0
    · -- a single digit, the number itself
      have hb : (UInt8.ofNat (n % 256)).toNat ≠ 0 := by rw [UInt8.toNat_ofNat']; omega
      rw [hq, beBytesF_zero]
      exact ⟨fun hc => hb (congrArg UInt8.toNat (Option.some.inj hc)), nofun⟩
    · have hlt : n / 256 < 256 ^ f := by
        rw [Nat.div_lt_iff_lt_mul (by decide)]; rw [Nat.pow_succ] at h; exact h
      have ih := beBytesF_head f (n / 256) hq hlt
      cases hx : beBytesF f (n / 256) with
      | nil => rw [hx] at ih; simp at ih
      | cons a as => rw [hx] at ih; simpa using ih

theorem beVal_cons (a : UInt8) (xs : Bytes) : beVal (a :: xs) = a.toNat * 256 ^ xs.length + beVal xs := by
  have gen : ∀ (xs : Bytes) (acc : Nat), xs.foldl (fun a b => a * 256 + b.toNat) acc = acc * 256 ^ xs.length + xs.foldl (fun a b => a * 256 + b.toNat) 0 := by
    intro xs
    induction xs with
    | nil => intro acc; simp
    | cons x xs ih =>
      intro acc
      simp only [List.foldl_cons, List.length_cons]
      rw [ih (acc * 256 + x.toNat), ih (0 * 256 + x.toNat)]
      rw [Nat.pow_succ]
      grind
  unfold beVal
  simp only [List.foldl_cons]
  rw [gen xs (0 * 256 + a.toNat)]
  simp

theorem beVal_lt (xs : Bytes) : beVal xs < 256 ^ xs.length := by
  induction xs with
  | nil => simp [beVal]
  | cons a xs ih =>
    rw [beVal_cons, List.length_cons, Nat.pow_succ]
    have := a.toNat_lt
    have h2 : a.toNat * 256 ^ xs.length ≤ 255 * 256 ^ xs.length := Nat.mul_le_mul_right _ (by omega)
    omega

theorem beVal_pos (a : UInt8) (xs : Bytes) (h : a ≠ 0) : 256 ^ xs.length ≤ beVal (a :: xs) := by
  rw [beVal_cons]
  have : 1 ≤ a.toNat := Nat.pos_of_ne_zero fun h0 => h (UInt8.toNat_inj.mp h0)
  have := Nat.mul_le_mul_right (256 ^ xs.length) this
  omega

theorem beVal_ne_zero {bs : Bytes} (hne : bs ≠ []) (hh : bs.head? ≠ some 0) : beVal bs ≠ 0 := by
  obtain ⟨a, as, rfl⟩ := List.exists_cons_of_ne_nil hne
  have := beVal_pos a as fun h => hh (by rw [h]; rfl)
  have := Nat.pow_pos (n := as.length) (show 0 < 256 by decide)
  omega

/-- canonical digit strings are exactly the images of `beBytesF` -/
theorem beBytesF_beVal : ∀ (f : Nat) (bs : Bytes), bs.length ≤ f → bs.head? ≠ some 0 → beBytesF f (beVal bs) = bs
  | 0, bs, hl, _ => by
    have : bs = [] := List.eq_nil_of_length_eq_zero (by omega)
    subst this; rfl
  | f + 1, bs, hl, hh => by
    rcases List.eq_nil_or_concat bs with rfl | ⟨xs, b, rfl⟩
    · rfl
    · rw [List.concat_eq_append] at *
      have hv := beVal_ne_zero (by simp) hh
      have hb := b.toNat_lt
      have hxs : xs.head? ≠ some 0 := by
        cases xs with
        | nil => simp
        | cons a as => simpa using hh
      rw [beBytesF, if_neg hv, beVal_append_single, show (beVal xs * 256 + b.toNat) / 256 = beVal xs by omega,
        show (beVal xs * 256 + b.toNat) % 256 = b.toNat by omega, beBytesF_beVal f xs (by simp at hl; omega) hxs]
      simp

theorem beBytes_val (n : Nat) (h : n < 2 ^ 64) : beVal (beBytes n) = n :=
  beVal_beBytesF 8 n (by simpa using h)

theorem beBytes_length_le (n : Nat) : (beBytes n).length ≤ 8 := beBytesF_length 8 n

theorem beBytes_length_pos (n : Nat) (h : n ≠ 0) : 1 ≤ (beBytes n).length :=
  List.length_pos_iff.mpr (beBytesF_ne_nil 7 n h)

theorem readSize_enc (n : Nat) (r : Bytes) (h56 : 56 ≤ n) (h : n < 2 ^ 64) :
    readSize (beBytes n).length (beBytes n ++ r) = .ok (n, r) := by
  have hhead := beBytesF_head 8 n (by omega) (by simpa using h)
  rw [readSize, if_neg (by simp)]
  dsimp only
  rw [List.take_left, List.drop_left, if_neg (fun hc => hhead.1 hc.2), beBytes_val n h, if_neg (by omega)]

theorem readSize_ok {ll : Nat} {r r' : Bytes} {sz : Nat} (h : readSize ll r = .ok (sz, r')) :
    ll ≤ r.length ∧ ¬ (ll > 1 ∧ (r.take ll).head? = some 0) ∧ 56 ≤ sz ∧ sz = beVal (r.take ll) ∧ r' = r.drop ll := by
  unfold readSize at h
  split at h
  · cases h
  · dsimp only at h
    split at h
    · cases h
    · split at h
      · cases h
      · cases h
        exact ⟨by omega, by assumption, by omega, rfl, rfl⟩

theorem readSize_canon (ll : Nat) (r r' : Bytes) (sz : Nat) (hll : ll ≤ 8)
    (h : readSize ll r = .ok (sz, r')) :
    r = beBytes sz ++ r' ∧ (beBytes sz).length = ll ∧ 56 ≤ sz ∧ sz < 2 ^ 64 := by
  obtain ⟨hlen, hz, h56, rfl, rfl⟩ := readSize_ok h
  have hl : (r.take ll).length = ll := by simp; omega
  have hhead : (r.take ll).head? ≠ some 0 := by
    intro hc
    by_cases h1 : ll > 1
    · exact hz ⟨h1, hc⟩
    · cases hx : r.take ll with
      | nil => rw [hx] at hc; simp at hc
      | cons a as =>
        rw [hx] at hc hl h56
        have : as = [] := List.eq_nil_of_length_eq_zero (by simp at hl; omega)
        subst this
        simp at hc; subst hc
        simp [beVal] at h56
  have hcan : beBytes (beVal (r.take ll)) = r.take ll := beBytesF_beVal 8 _ (by omega) hhead
  refine ⟨?_, ?_, h56, ?_⟩
  · rw [hcan]; exact (List.take_append_drop ll r).symm
  · rw [hcan]; exact hl
  · have := beVal_lt (r.take ll)
    rw [hl] at this
    have : 256 ^ ll ≤ 256 ^ 8 := Nat.pow_le_pow_right (by decide) hll
    omega

/-- what a tag byte announces: a single byte, an item of `n < 56` bytes, or a size field of `ll` bytes -/
inductive Tag where
  | byte | short (k : Kind) (n : Nat) | long (k : Kind) (ll : Nat)

def tagOf (t : UInt8) : Tag :=
  if t.toNat < 0x80 then .byte
  else if t.toNat < 0xB8 then .short .string (t.toNat - 0x80)
  else if t.toNat < 0xC0 then .long .string (t.toNat - 0xB7)
  else if t.toNat < 0xF8 then .short .list (t.toNat - 0xC0)
  else .long .list (t.toNat - 0xF7)

theorem readHead_cons (t : UInt8) (r : Bytes) : readHead (t :: r) = match tagOf t with
    | .byte => .ok (.byte, 0, t, r)
    | .short k n => .ok (k, n, 0, r)
    | .long k ll => (readSize ll r).map fun p => (k, p.1, 0, p.2) := by
  rw [readHead, tagOf]
  by_cases h1 : t.toNat < 0x80
  · rw [if_pos h1, if_pos (UInt8.lt_iff_toNat_lt.mpr h1)]
  rw [if_neg h1, if_neg (mt UInt8.lt_iff_toNat_lt.mp h1)]
  by_cases h2 : t.toNat < 0xB8
  · rw [if_pos h2, if_pos (UInt8.lt_iff_toNat_lt.mpr h2)]
  rw [if_neg h2, if_neg (mt UInt8.lt_iff_toNat_lt.mp h2)]
  by_cases h3 : t.toNat < 0xC0
  · rw [if_pos h3, if_pos (UInt8.lt_iff_toNat_lt.mpr h3)]
    dsimp only
    cases readSize (t.toNat - 183) r <;> rfl
  rw [if_neg h3, if_neg (mt UInt8.lt_iff_toNat_lt.mp h3)]
  by_cases h4 : t.toNat < 0xF8
  · rw [if_pos h4, if_pos (UInt8.lt_iff_toNat_lt.mpr h4)]
  rw [if_neg h4, if_neg (mt UInt8.lt_iff_toNat_lt.mp h4)]
  dsimp only
  cases readSize (t.toNat - 247) r <;> rfl

/-- the tag of the empty item of a kind; `base k + 55` is the tag before the shortest size field -/
def Tag.base : Kind → Nat
  | .list => 0xC0
  | _ => 0x80

theorem tagOf_spec (t : UInt8) : match tagOf t with
    | .byte => t.toNat < 0x80
    | .short k n => k ≠ .byte ∧ n < 56 ∧ t.toNat = Tag.base k + n
    | .long k ll => k ≠ .byte ∧ 1 ≤ ll ∧ ll ≤ 8 ∧ t.toNat = Tag.base k + 55 + ll := by
  -- between two boundaries `a ≤ t < a + w` the tag is `a + (t - a)` with `t - a < w`
  have short (a w : Nat) (h1 : ¬ t.toNat < a) (h2 : t.toNat < a + w) : t.toNat - a < w ∧ t.toNat = a + (t.toNat - a) :=
    ⟨Nat.sub_lt_left_of_lt_add (Nat.not_lt.mp h1) h2, (Nat.add_sub_cancel' (Nat.not_lt.mp h1)).symm⟩
  have long (a : Nat) (h1 : ¬ t.toNat < a + 1) (h2 : t.toNat < a + 9) :
      1 ≤ t.toNat - a ∧ t.toNat - a ≤ 8 ∧ t.toNat = a + (t.toNat - a) :=
    ⟨Nat.le_sub_of_add_le (Nat.add_comm .. ▸ Nat.not_lt.mp h1), Nat.sub_le_of_le_add (Nat.add_comm .. ▸ Nat.le_of_lt_succ h2),
      (Nat.add_sub_cancel' (Nat.le_of_succ_le (Nat.not_lt.mp h1))).symm⟩
  rw [tagOf]
  by_cases h1 : t.toNat < 0x80
  · rw [if_pos h1]; exact h1
  rw [if_neg h1]
  by_cases h2 : t.toNat < 0xB8
  · rw [if_pos h2]; exact ⟨nofun, short 0x80 56 h1 h2⟩
  rw [if_neg h2]
  by_cases h3 : t.toNat < 0xC0
  · rw [if_pos h3]; exact ⟨nofun, long 0xB7 h2 h3⟩
  rw [if_neg h3]
  by_cases h4 : t.toNat < 0xF8
  · rw [if_pos h4]; exact ⟨nofun, short 0xC0 56 h3 h4⟩
  rw [if_neg h4]
  exact ⟨nofun, long 0xF7 h4 t.toNat_lt⟩

theorem tagOf_short {t : UInt8} {k : Kind} {n : Nat} (hk : k ≠ .byte) (hn : n < 56) (ht : t.toNat = Tag.base k + n) :
    tagOf t = .short k n := by
  have ge (a : Nat) (h : a ≤ Tag.base k) : ¬ t.toNat < a := by rw [ht]; exact Nat.not_lt.mpr (Nat.le_add_right_of_le h)
  rw [tagOf]
  cases k with
  | byte => exact absurd rfl hk
  | string =>
    have ht : t.toNat = 0x80 + n := ht
    rw [if_neg (ge 0x80 (Nat.le_refl _)), ht, if_pos (show 0x80 + n < 0xB8 from Nat.add_lt_add_left hn 0x80), Nat.add_sub_cancel_left]
  | list =>
    have ht : t.toNat = 0xC0 + n := ht
    rw [if_neg (ge 0x80 (by decide)), if_neg (ge 0xB8 (by decide)), if_neg (ge 0xC0 (Nat.le_refl _)), ht,
      if_pos (show 0xC0 + n < 0xF8 from Nat.add_lt_add_left hn 0xC0), Nat.add_sub_cancel_left]

theorem tagOf_long {t : UInt8} {k : Kind} {ll : Nat} (hk : k ≠ .byte) (h1 : 1 ≤ ll) (h8 : ll ≤ 8)
    (ht : t.toNat = Tag.base k + 55 + ll) : tagOf t = .long k ll := by
  have ge (a : Nat) (h : a ≤ Tag.base k + 56) : ¬ t.toNat < a := by
    rw [ht]; exact Nat.not_lt.mpr (Nat.le_trans h (Nat.add_le_add_left h1 _))
  rw [tagOf]
  cases k with
  | byte => exact absurd rfl hk
  | string =>
    have ht : t.toNat = 0xB7 + ll := ht
    rw [if_neg (ge 0x80 (by decide)), if_neg (ge 0xB8 (Nat.le_refl _)), ht,
      if_pos (show 0xB7 + ll < 0xC0 from Nat.add_lt_add_left (Nat.lt_succ_of_le h8) _), Nat.add_sub_cancel_left]
  | list =>
    have ht : t.toNat = 0xF7 + ll := ht
    rw [if_neg (ge 0x80 (by decide)), if_neg (ge 0xB8 (by decide)), if_neg (ge 0xC0 (by decide)), if_neg (ge 0xF8 (Nat.le_refl _)),
      ht, Nat.add_sub_cancel_left]

theorem Tag.base_le (k : Kind) : Tag.base k ≤ 0xC0 := by cases k <;> decide

theorem readHead_encHead (k : Kind) (hk : k ≠ .byte) (n : Nat) (r : Bytes) (h : n < 2 ^ 64) :
    readHead (encHead (Tag.base k) (Tag.base k + 55) n ++ r) = .ok (k, n, 0, r) := by
  have hb := Tag.base_le k
  unfold encHead
  split
  · next hs =>
    rw [List.singleton_append, readHead_cons, tagOf_short hk hs (by rw [UInt8.toNat_ofNat']; omega)]
  · next hs =>
    have hl := beBytes_length_le n
    have hp := beBytes_length_pos n (by omega)
    rw [List.cons_append, readHead_cons, tagOf_long hk hp hl (by rw [UInt8.toNat_ofNat']; omega)]
    dsimp only
    rw [readSize_enc n r (by omega) h]
    rfl

theorem readHead_byte (b : UInt8) (r : Bytes) (h : b < 0x80) : readHead (b :: r) = .ok (.byte, 0, b, r) := by
  have h' : b.toNat < 0x80 := UInt8.lt_iff_toNat_lt.mp h
  rw [readHead_cons, tagOf, if_pos h']

theorem readHead_enc_str (n : Nat) (r : Bytes) (h : n < 2 ^ 64) :
    readHead (encHead 0x80 0xB7 n ++ r) = .ok (.string, n, 0, r) :=
  readHead_encHead .string nofun n r h

theorem readHead_enc_list (n : Nat) (r : Bytes) (h : n < 2 ^ 64) :
    readHead (encHead 0xC0 0xF7 n ++ r) = .ok (.list, n, 0, r) :=
  readHead_encHead .list nofun n r h

theorem encHead_ne_nil (a b n : Nat) : encHead a b n ≠ [] := by
  unfold encHead; split <;> simp

theorem encHead_length_pos (a b n : Nat) : 1 ≤ (encHead a b n).length := by
  unfold encHead; split <;> simp

/-- what an accepted header looks like: it is the canonical header of its size -/
def HeadCanon (b : Bytes) (k : Kind) (sz : Nat) (bv : UInt8) (r : Bytes) : Prop :=
  match k with
  | .byte => b = bv :: r ∧ bv < 0x80 ∧ sz = 0
  | .string => b = encHead 0x80 0xB7 sz ++ r ∧ sz < 2 ^ 64
  | .list => b = encHead 0xC0 0xF7 sz ++ r ∧ sz < 2 ^ 64

theorem HeadCanon.of_enc {b r : Bytes} {k : Kind} {sz : Nat} {bv : UInt8} (hk : k ≠ .byte)
    (hb : b = encHead (Tag.base k) (Tag.base k + 55) sz ++ r) (hsz : sz < 2 ^ 64) : HeadCanon b k sz bv r := by
  cases k with
  | byte => exact absurd rfl hk
  | string | list => exact ⟨hb, hsz⟩

theorem readHead_canon (b r : Bytes) (k : Kind) (sz : Nat) (bv : UInt8)
    (h : readHead b = .ok (k, sz, bv, r)) : HeadCanon b k sz bv r := by
  cases b with
  | nil => cases h
  | cons t r0 =>
    rw [readHead_cons] at h
    have sp := tagOf_spec t
    cases hT : tagOf t with
    | byte =>
      rw [hT] at h sp
      cases h
      exact ⟨rfl, UInt8.lt_iff_toNat_lt.mpr sp, rfl⟩
    | short k' n =>
      rw [hT] at h sp
      cases h
      obtain ⟨hk, hn, ht⟩ := sp
      refine .of_enc hk ?_ (by omega)
      rw [encHead, if_pos hn, ← ht, UInt8.ofNat_toNat]
      rfl
    | long k' ll =>
      rw [hT] at h sp
      dsimp only at h
      obtain ⟨hk, h1, h8, ht⟩ := sp
      cases hrs : readSize ll r0 with
      | error e => rw [hrs] at h; cases h
      | ok v =>
        rw [hrs] at h
        cases h
        obtain ⟨c1, c2, c3, c4⟩ := readSize_canon ll r0 v.2 v.1 h8 hrs
        refine .of_enc hk ?_ c4
        rw [encHead, if_neg (by omega), c2, ← ht, UInt8.ofNat_toNat, c1]
        rfl

/-- a header is at least its tag byte -/
theorem readHead_rest_lt {b r : Bytes} {k : Kind} {sz : Nat} {bv : UInt8} (h : readHead b = .ok (k, sz, bv, r)) :
    r.length < b.length := by
  have hc := readHead_canon b r k sz bv h
  cases k with
  | byte =>
    obtain ⟨hb, _⟩ := hc
    rw [hb]
    exact Nat.lt_succ_self _
  | string | list =>
    obtain ⟨hb, _⟩ := hc
    rw [hb, List.length_append]
    exact Nat.lt_add_of_pos_left (encHead_length_pos ..)

theorem encStr_general (p : Bytes) (h : single7 p = false) : encStr p = encHead 0x80 0xB7 p.length ++ p := by
  match p with
  | [] => rfl
  | [x] =>
    have : ¬ (x < 0x80) := by simpa [single7] using h
    simp [encStr, this]
  | _ :: _ :: _ => rfl

theorem encStr_single (x : UInt8) (h : x < 0x80) : encStr [x] = [x] := by simp [encStr, h]

theorem single7_iff (p : Bytes) : single7 p = true ↔ ∃ x, p = [x] ∧ x < 0x80 := by
  match p with
  | [] => simp [single7]
  | [x] => simp [single7]
  | _ :: _ :: _ => simp [single7]

theorem encStr_length (p : Bytes) : 1 ≤ (encStr p).length ∧ p.length ≤ (encStr p).length := by
  cases h : single7 p with
  | true =>
    obtain ⟨x, rfl, hx⟩ := (single7_iff p).mp h
    rw [encStr_single x hx]; simp
  | false =>
    rw [encStr_general p h]
    have := encHead_length_pos 0x80 0xB7 p.length
    simp; omega

theorem enc_length_pos (i : Item) : 1 ≤ (enc i).length := by
  cases i with
  | str bs => rw [enc]; exact (encStr_length bs).1
  | list is => rw [enc, List.length_append]; exact Nat.le_add_right_of_le (encHead_length_pos ..)

theorem enc_ne_nil (i : Item) : enc i ≠ [] :=
  List.length_pos_iff.mp (enc_length_pos i)

theorem split_ok {b c r : Bytes} {k : Kind} (h : split b = .ok (k, c, r)) :
    ∃ sz bv r0, readHead b = .ok (k, sz, bv, r0) ∧
      (k = .byte ∧ c = [bv] ∧ r = r0 ∨
       k ≠ .byte ∧ ¬ r0.length < sz ∧ c = r0.take sz ∧ r = r0.drop sz ∧ (k = .string → single7 c = false)) := by
  unfold split at h
  cases hh : readHead b with
  | error e => rw [hh] at h; cases h
  | ok v =>
    obtain ⟨k0, sz, bv, r0⟩ := v
    rw [hh] at h
    cases k0 with
    | byte => cases h; exact ⟨_, _, _, rfl, .inl ⟨rfl, rfl, rfl⟩⟩
    | string =>
      dsimp only at h
      split at h
      · cases h
      · next hlen =>
        split at h
        · cases h
        · next h7 => cases h; exact ⟨_, _, _, rfl, .inr ⟨nofun, hlen, rfl, rfl, fun _ => by simpa using h7⟩⟩
    | list =>
      dsimp only at h
      split at h
      · cases h
      · next hlen =>
        split at h
        · cases h
        · cases h; exact ⟨_, _, _, rfl, .inr ⟨nofun, hlen, rfl, rfl, nofun⟩⟩

theorem split_canon {b c r : Bytes} {k : Kind} (h : split b = .ok (k, c, r)) :
    b = (if k = .list then encHead 0xC0 0xF7 c.length ++ c else encStr c) ++ r := by
  obtain ⟨sz, bv, r0, hh, hc⟩ := split_ok h
  have hcan := readHead_canon b r0 k sz bv hh
  rcases hc with ⟨rfl, rfl, rfl⟩ | ⟨hkb, hlen, rfl, rfl, h7⟩
  · obtain ⟨hb, hbv, _⟩ := hcan
    rw [if_neg nofun, encStr_single _ hbv]
    exact hb
  · have hl : (r0.take sz).length = sz := by rw [List.length_take]; exact Nat.min_eq_left (Nat.le_of_not_lt hlen)
    cases k with
    | byte => exact absurd rfl hkb
    | string => rw [if_neg nofun, encStr_general _ (h7 rfl), hl, hcan.1, List.append_assoc, List.take_append_drop]
    | list => rw [if_pos rfl, hl, hcan.1, List.append_assoc, List.take_append_drop]

theorem decF_succ (f : Nat) (b : Bytes) : decF (f + 1) b = match split b with
    | .error e => .error e
    | .ok (.list, c, r) => match decListF f c with
      | .error e => .error e
      | .ok is => .ok (.list is, r)
    | .ok (_, c, r) => .ok (.str c, r) := by
  rw [decF, split]
  cases readHead b with
  | error e => rfl
  | ok v =>
    obtain ⟨k, sz, bv, r⟩ := v
    cases k with
    | byte => rfl
    | string =>
      dsimp only
      by_cases h1 : r.length < sz
      · rw [if_pos h1, if_pos h1]
      rw [if_neg h1, if_neg h1]
      by_cases h2 : single7 (r.take sz) = true
      · rw [if_pos h2, if_pos (by simpa using h2)]
      · rw [if_neg h2, if_neg (by simpa using h2)]
    | list =>
      dsimp only
      by_cases h1 : r.length < sz
      · rw [if_pos h1, if_pos h1]
      · rw [if_neg h1, if_neg h1, if_neg (by simp)]
        rfl

/-! ### C11 clause "re-encoding returns the same bytes": whatever the strict decoder accepts is the canonical encoding -/

theorem dec_canon_aux : ∀ (f : Nat),
    (∀ (b : Bytes) (i : Item) (rest : Bytes), decF f b = .ok (i, rest) → b = enc i ++ rest) ∧
    (∀ (b : Bytes) (is : List Item), decListF f b = .ok is → b = encList is) := by
  intro f
  induction f with
  | zero => exact ⟨fun b i rest h => by simp [decF] at h, fun b is h => by simp [decListF] at h⟩
  | succ f ih =>
    obtain ⟨ihP, ihQ⟩ := ih
    constructor
    · intro b i rest h
      rw [decF_succ] at h
      cases hs : split b with
      | error e => rw [hs] at h; cases h
      | ok v =>
        obtain ⟨k, c, r⟩ := v
        rw [hs] at h
        have hb := split_canon hs
        cases k with
        | byte | string => cases h; rw [hb, if_neg nofun, enc]
        | list =>
          dsimp only at h
          cases hd : decListF f c with
          | error e => rw [hd] at h; cases h
          | ok is => rw [hd] at h; cases h; rw [hb, if_pos rfl, enc, ← ihQ _ _ hd]
    · intro b is h
      cases b with
      | nil => rw [decListF] at h; cases h; rfl
      | cons x xs =>
        simp only [decListF] at h
        cases hd : decF f (x :: xs) with
        | error e => rw [hd] at h; cases h
        | ok v =>
          obtain ⟨i, r⟩ := v
          rw [hd] at h
          dsimp only at h
          cases hl : decListF f r with
          | error e => rw [hl] at h; cases h
          | ok is' =>
            rw [hl] at h
            cases h
            rw [ihP _ _ _ hd, ihQ _ _ hl]
            rfl

/-! ### C11 clause "decoding an encoding returns an equal value" -/

mutual
  theorem decF_enc : ∀ (i : Item), i.Sized → ∀ (f : Nat) (rest : Bytes), i.fuel ≤ f →
      decF f (enc i ++ rest) = .ok (i, rest)
    | .str bs, hs, f, rest, hf => by
      simp only [Item.Sized] at hs
      simp only [Item.fuel] at hf
      obtain ⟨f', rfl⟩ : ∃ f', f = f' + 1 := ⟨f - 1, by omega⟩
      simp only [enc]
      cases h7 : single7 bs with
      | true =>
        obtain ⟨x, rfl, hx⟩ := (single7_iff bs).mp h7
        rw [encStr_single x hx]
        simp only [decF, List.cons_append, List.nil_append, readHead_byte x rest hx]
      | false =>
        rw [encStr_general bs h7, List.append_assoc, decF, readHead_enc_str bs.length (bs ++ rest) hs]
        dsimp only
        rw [if_neg (by simp), List.take_left, List.drop_left, h7]
        rfl
    | .list is, hs, f, rest, hf => by
      simp only [Item.Sized] at hs
      simp only [Item.fuel] at hf
      obtain ⟨f', rfl⟩ : ∃ f', f = f' + 1 := ⟨f - 1, by omega⟩
      rw [enc, List.append_assoc, decF, readHead_enc_list (encList is).length (encList is ++ rest) hs.1]
      dsimp only
      rw [if_neg (by simp), List.take_left, List.drop_left, decListF_enc is hs.2 f' (by omega)]
  theorem decListF_enc : ∀ (is : List Item), SizedList is → ∀ (f : Nat), fuelList is ≤ f →
      decListF f (encList is) = .ok is
    | [], _, f, hf => by
      simp only [fuelList] at hf
      obtain ⟨f', rfl⟩ : ∃ f', f = f' + 1 := ⟨f - 1, by omega⟩
      simp [encList, decListF]
    | i :: is, hs, f, hf => by
      simp only [SizedList] at hs
      simp only [fuelList] at hf
      obtain ⟨f', rfl⟩ : ∃ f', f = f' + 1 := ⟨f - 1, by omega⟩
      simp only [encList]
      obtain ⟨x, xs, hx⟩ := List.exists_cons_of_ne_nil (l := enc i ++ encList is) (by simp [enc_ne_nil])
      rw [hx]
      simp only [decListF]
      rw [← hx, decF_enc i hs.1 f' (encList is) (by omega)]
      simp only
      rw [decListF_enc is hs.2 f' (by omega)]
end

mutual
  theorem fuel_le : ∀ (i : Item), i.fuel ≤ 2 * (enc i).length
    | .str bs => by
      have := enc_length_pos (.str bs)
      simp only [Item.fuel]; omega
    | .list is => by
      have := fuelList_le is
      have := encHead_length_pos 0xC0 0xF7 (encList is).length
      simp only [Item.fuel, enc, List.length_append]; omega
  theorem fuelList_le : ∀ (is : List Item), fuelList is ≤ 2 * (encList is).length + 1
    | [] => by simp [fuelList, encList]
    | i :: is => by
      have := fuel_le i
      have := fuelList_le is
      have := enc_length_pos i
      simp only [fuelList, encList, List.length_append]; omega
end

mutual
  theorem weight_le : ∀ (i : Item), i.weight ≤ 2 * (enc i).length
    | .str bs => by
      have := encStr_length bs
      simp only [Item.weight, enc]; omega
    | .list is => by
      have := weightList_le is
      have := encHead_length_pos 0xC0 0xF7 (encList is).length
      simp only [Item.weight, enc, List.length_append]; omega
  theorem weightList_le : ∀ (is : List Item), weightList is ≤ 2 * (encList is).length
    | [] => by simp [weightList, encList]
    | i :: is => by
      have := weight_le i
      have := weightList_le is
      simp only [weightList, encList, List.length_append]; omega
end

/-- lossless: decoding an encoding (followed by anything) returns the item and exactly the rest -/
theorem dec_enc (i : Item) (hs : i.Sized) (rest : Bytes) : dec (enc i ++ rest) = .ok (i, rest) := by
  unfold dec
  apply decF_enc i hs
  have := fuel_le i
  simp only [List.length_append]; omega

/-- canonical: the only byte string the strict decoder accepts for an item is its encoding -/
theorem enc_dec_canonical (b : Bytes) (i : Item) (rest : Bytes) (h : dec b = .ok (i, rest)) : b = enc i ++ rest :=
  (dec_canon_aux _).1 b i rest h

theorem decExact_enc (i : Item) (hs : i.Sized) : decExact (enc i) = .ok i := by
  have := dec_enc i hs []
  simp only [List.append_nil] at this
  simp [decExact, this]

/-- `DecodeBytes` then `EncodeToBytes` gives back the input bytes -/
theorem decExact_canonical (b : Bytes) (i : Item) (h : decExact b = .ok i) : enc i = b := by
  unfold decExact at h
  cases hd : dec b with
  | error e => rw [hd] at h; cases h
  | ok v =>
    obtain ⟨j, r⟩ := v
    rw [hd] at h
    cases r with
    | nil =>
      simp only at h
      injection h with h; subst h
      have := enc_dec_canonical b j [] hd
      simpa using this.symm
    | cons x xs => simp at h

/-- equal bytes ⇒ equal values: the encoding is injective, even as a prefix code -/
theorem enc_prefix_free (i j : Item) (hi : i.Sized) (r r' : Bytes) (h : enc i ++ r = enc j ++ r') (hj : j.Sized) :
    i = j ∧ r = r' := by
  have h1 := dec_enc i hi r
  have h2 := dec_enc j hj r'
  rw [h] at h1
  rw [h1] at h2
  injection h2 with h2
  injection h2 with a b
  exact ⟨a, b⟩

theorem enc_injective (i j : Item) (hi : i.Sized) (hj : j.Sized) (h : enc i = enc j) : i = j :=
  (enc_prefix_free i j hi [] [] (by simpa using h) hj).1

/-- safe on arbitrary input: `dec` is a total function into value-or-error (there is no third outcome; true of any
    function into `Except`, stated for the record) -/
theorem dec_total (b : Bytes) : (∃ i rest, dec b = .ok (i, rest)) ∨ (∃ e, dec b = .error e) := by
  cases h : dec b with
  | error e => exact Or.inr ⟨e, rfl⟩
  | ok v => exact Or.inl ⟨v.1, v.2, rfl⟩

/-- bounded allocation: what a successful decode builds (nodes + bytes) is at most twice the length of what it consumed -/
theorem alloc_bound (b : Bytes) (i : Item) (rest : Bytes) (h : dec b = .ok (i, rest)) :
    i.weight + 2 * rest.length ≤ 2 * b.length := by
  have hb := enc_dec_canonical b i rest h
  have := weight_le i
  rw [hb, List.length_append]; omega

theorem dec_progress (b : Bytes) (i : Item) (rest : Bytes) (h : dec b = .ok (i, rest)) : rest.length < b.length := by
  have hb := enc_dec_canonical b i rest h
  have := enc_length_pos i
  rw [hb, List.length_append]; omega

/-! non-vacuity: concrete encodings, checked by evaluation -/
example : enc (.list [.str [0x01], .str [0x80], .str [], .list []]) = [0xC5, 0x01, 0x81, 0x80, 0x80, 0xC0] := by decide
set_option maxRecDepth 10000 in
example : dec [0xC5, 0x01, 0x81, 0x80, 0x80, 0xC0, 0xFF] = .ok (.list [.str [0x01], .str [0x80], .str [], .list []], [0xFF]) := by rfl
/-! non-canonical inputs are rejected: single byte wrapped, long form for a short size, leading zero in the size -/
set_option maxRecDepth 10000 in
example : dec [0x81, 0x05] = .error .canonSize := by rfl
set_option maxRecDepth 10000 in
example : dec [0xB8, 0x05, 1, 2, 3, 4, 5] = .error .canonSize := by rfl
set_option maxRecDepth 10000 in
example : dec [0xB9, 0x00, 0x40] = .error .canonSize := by rfl
set_option maxRecDepth 10000 in
example : dec [0xC5, 0x83, 1, 2] = .error .valueTooLarge := by rfl
example : (Item.list [.str [0x01], .str [0x80]]).Sized := by simp [Item.Sized, SizedList, enc, encList, encStr, encHead]

end Props.C11
