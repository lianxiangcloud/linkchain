import LinkVerif.Props.C15More
import LinkVerif.Gen.MempoolLocks

/-!
# C15 — part 5: a cache hit means "basic-checked"; block verdicts do not depend on the cache

`AddTx` is not atomic for the dedup cache: the entry is put with `BasicChecked = false` before the basic check and other
operations (the consensus goroutine's `CheckBlock`, reaps, commits, other submissions) run in between (`Model.Mempool.PoolC`,
`putC` / `finishC`, `runC`).
* `cache_hit_implies_basic_checked`: along every such history, an entry `GetTxFromCache` returns passed the basic check;
* `block_verdict_cache_independent`: the validator-path verdict of a block of registered transactions is the verdict of a
  node with an empty cache on the same committed ledger — acceptance never depends on mempool contents;
* `getTxFromCache_uses_CheckAndGet`: T2 fact regenerated from mempool/mempool.go.
-/
namespace Props.C15
open Model.Ledger Model.Mempool

/-! ## the pool functions only remove ids from the cache; `addTx` adds the submitted id only after its basic check passed -/

/-- `AddTx`: the cache afterwards holds old ids, and the submitted id only if its basic check passed -/
theorem addTx_cache (p : Pool) (e : E) : ∀ x ∈ (addTx p e).2.cache, x ∈ p.cache ∨ (x = e.id ∧ basic e.t = .ok) := by
  have key := fun (hb : basic e.t = .ok) x (hx : x ∈ p.cache ++ [e.id]) =>
    (List.mem_append.mp hx).imp id (fun h1 => And.intro (List.mem_singleton.mp h1) hb)
  exact addTx_ind (P := fun q => ∀ x ∈ q.cache, x ∈ p.cache ∨ (x = e.id ∧ basic e.t = .ok)) p e (fun x hx => Or.inl hx)
    (fun q hq x hx => hq x (List.mem_filter.mp hx).1) (fun hb _ l _ x hx => key hb x ((recheckUtxo_move l _).cache x hx))
    (fun hb _ x hx => key hb x ((addAccount_spec (N := (· = e)) _ rfl).1.cache x hx))

theorem update_cache (p : Pool) (c' : St) (ids : List Nat) : ∀ x ∈ (update p c' ids).cache, x ∈ p.cache := by
  intro x hx
  obtain ⟨g, u, _, _, h⟩ := update_eq p c' ids
  rw [h] at hx
  exact (recheckGood_spec (N := fun _ => True) _ (reset p c') (fun _ _ => trivial)).1.cache x
    ((recheckUtxo_move _ _).cache x ((promoteAll_move (fun _ => False) _ _).cache x hx))

/-- the transaction registered under `id` (if any) passes the basic check -/
def BasicOK (reg : List TxRec) (id : Nat) : Prop := ∀ t, reg[id]? = some t → basic t = .ok

variable {reg : List TxRec} {pc : PoolC}

theorem BasicOK.of_entry {e : E} (hreg : reg[e.id]? = some e.t) (hb : basic e.t = .ok) : BasicOK reg e.id := by
  intro t ht; rw [hreg] at ht; cases ht; exact hb

theorem step_cache (reg : List TxRec) (p : Pool) (op : Op) : ∀ x ∈ (step reg p op).cache, x ∈ p.cache ∨ BasicOK reg x := by
  refine step_ind (P := fun q => ∀ x ∈ q.cache, x ∈ p.cache ∨ BasicOK reg x) reg p op (fun x hx => Or.inl hx)
    (fun id t ht x hx => ?_) (fun _ _ _ _ x hx => Or.inl (update_cache _ _ _ x hx))
  rcases addTx_cache p _ x hx with h1 | ⟨h1, hb⟩
  · exact Or.inl h1
  · rw [h1]; exact Or.inr (BasicOK.of_entry (e := { id := id, t := t }) ht hb)

/-! ## the invariant over histories with non-atomic AddTx -/

/-- every cache entry that is not in flight passed the basic check -/
def CacheOK (reg : List TxRec) (pc : PoolC) : Prop := ∀ id ∈ pc.p.cache, id ∉ pc.inflight → BasicOK reg id

def initC (cfg : Cfg) (w : Nat) (bal tbal : Int) : PoolC := { p := Model.Mempool.init cfg w bal tbal }

theorem putC_cacheOK (h : CacheOK reg pc) (e : E) : CacheOK reg (putC pc e) := by
  unfold putC
  split
  · exact h
  · intro x (hx : x ∈ pc.p.cache ++ [e.id]) (hin : x ∉ pc.inflight ++ [e.id])
    rcases List.mem_append.mp hx with h1 | h1
    · exact h x h1 (fun h2 => hin (List.mem_append_left _ h2))
    · exact absurd (List.mem_append_right _ h1) hin

theorem finishC_cacheOK (h : CacheOK reg pc) (e : E) (hreg : reg[e.id]? = some e.t) :
    CacheOK reg (finishC pc e).2 := by
  unfold finishC
  split
  · intro x (hx : x ∈ (addTx { pc.p with cache := pc.p.cache.filter (· != e.id) } e).2.cache) (hin : x ∉ pc.inflight.filter (· != e.id))
    rcases addTx_cache _ _ x hx with h1 | h1
    · have hm := List.mem_filter.mp h1
      exact h x hm.1 (fun h2 => hin (List.mem_filter.mpr ⟨h2, hm.2⟩))
    · rw [h1.1]; exact BasicOK.of_entry hreg h1.2
  · exact h

theorem stepC_cacheOK (reg : List TxRec) (h : CacheOK reg pc) (op : OpC) : CacheOK reg (stepC reg pc op) := by
  cases op with
  | seq op => exact fun x hx hin => (step_cache reg pc.p op x hx).elim (fun h1 => h x h1 hin) (fun h1 => h1)
  | put id =>
    simp only [stepC]
    split
    · exact putC_cacheOK h _
    · exact h
  | finish id =>
    simp only [stepC]
    split
    · exact finishC_cacheOK h _ ‹_›
    · exact h

theorem runC_cacheOK (reg : List TxRec) (cfg : Cfg) (w : Nat) (bal tbal : Int) (ops : List OpC) :
    CacheOK reg (runC reg (initC cfg w bal tbal) ops) :=
  foldl_preserves (P := CacheOK reg) (fun _ op h => stepC_cacheOK reg h op) ops _ (List.forall_mem_nil _)

theorem getTxFromCache_true {id : Nat} (h : getTxFromCache pc id = true) : id ∈ pc.p.cache ∧ id ∉ pc.inflight := by
  simpa [getTxFromCache] using h

/-- **cache_hit_implies_basic_checked**: after every history in which submissions are split into their two halves and
interleaved with anything else, whatever `GetTxFromCache` returns passed the basic check -/
theorem cache_hit_implies_basic_checked (reg : List TxRec) (cfg : Cfg) (w : Nat) (bal tbal : Int) (ops : List OpC) (id : Nat) (t : TxRec)
    (hit : getTxFromCache (runC reg (initC cfg w bal tbal) ops) id = true) (ht : reg[id]? = some t) : basic t = .ok := by
  obtain ⟨h1, h2⟩ := getTxFromCache_true hit
  exact runC_cacheOK reg cfg w bal tbal ops id h1 h2 t ht

/-- the pre-check of a block of registered transactions does not depend on the cache -/
theorem precheck_cache_independent (h : CacheOK reg pc) (es : List E) (hes : ∀ e ∈ es, Created reg e) :
    precheck (getTxFromCache pc) es = precheck (fun _ => false) es := by
  unfold precheck
  induction es with
  | nil => rfl
  | cons e r ih =>
    obtain ⟨he, hr⟩ := List.forall_mem_cons.mp hes
    simp only [List.all_cons, ih hr]
    congr 1
    cases hhit : getTxFromCache pc e.id with
    | false => rfl
    | true =>
      obtain ⟨h1, h2⟩ := getTxFromCache_true hhit
      have hb : basic e.t = .ok := h e.id h1 h2 e.t he
      simp [hb]

/-- **block_verdict_cache_independent**: on every node state reachable by any history (non-atomic submissions included) the
validator-path verdict of a block of registered transactions equals the verdict of a node that never saw a submission and
has the same committed ledger: acceptance does not depend on mempool contents -/
theorem block_verdict_cache_independent (reg : List TxRec) (cfg : Cfg) (w : Nat) (bal tbal : Int) (ops : List OpC) (ids : List Nat) :
    verdict (runC reg (initC cfg w bal tbal) ops) (entries reg ids) =
      verdictCold (runC reg (initC cfg w bal tbal) ops).p.c (entries reg ids) := by
  unfold verdict verdictCold
  rw [precheck_cache_independent (runC_cacheOK reg cfg w bal tbal ops) _ (entries_created reg ids)]

/-- T2 (regenerated from mempool/mempool.go): `GetTxFromCache` looks the transaction up with `CheckAndGet` and nothing else -/
theorem getTxFromCache_uses_CheckAndGet : Gen.MempoolLocks.getTxFromCacheCalls = ["CheckAndGet"] := rfl

/-! ## non-vacuity: inside the window the tampered transaction is in the cache but is not returned; a checked one is -/

def tamperedReg : List TxRec :=
  [ { kind := .uin, spends := 0, outs := [(0, 5)], gas := utxoGas, broken := some "proof" },
    { kind := .xfer, from_ := 0, to := 1, amount := 5, nonce := 0, gas := calGas 5 } ]

example :
    let pc := runC tamperedReg (initC {} 1 1000000000 1000) [.put 0, .seq (.submit 1)]
    pc.p.cache = [0, 1] ∧ getTxFromCache pc 0 = false ∧ getTxFromCache pc 1 = true ∧
    verdict pc (entries tamperedReg [0]) = false ∧
    (runC tamperedReg pc [.finish 0]).p.cache = [1] ∧ (runC tamperedReg pc [.finish 0]).inflight = [] := by decide

/-- what the seeded defect does (`Get` instead of `CheckAndGet`: every cached id is a hit) flips that verdict -/
example :
    let pc := runC tamperedReg (initC {} 1 1000000000 1000) [.put 0]
    (execOk pc.p.c (entries tamperedReg [0]) && precheck (fun id => pc.p.cache.contains id) (entries tamperedReg [0])) = true ∧
    verdict pc (entries tamperedReg [0]) = false := by decide

end Props.C15
