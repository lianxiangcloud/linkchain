/-
C03: fast sync.  `Model.Commit.fsLoop` is the single-peer semantics of `blockchain/reactor.go` poolRoutine +
`blockchain/pool.go`, tied by a differential run against the REAL reactor (harness/c03/fsync*.go).  The theorem: every height
the node applies has a commit that `verifyCommit` accepts for the id of the block AS RECEIVED, under the validator set in force
at that height — hence (`verifyCommit_sound`) signed by more than two thirds of that set for exactly that block.
(Chain linkage between consecutive applied blocks is the application's `CheckBlock`, not modelled here.)
-/
import LinkVerif.Props.C03

namespace Props.C03
open Go Model.Vote Model.VoteSet Model.Commit

def FsAccepted (verify : Verify) (chain : List UInt8) (h : Nat) (x : FsH) : Prop :=
  ∃ c, x.commit = some c ∧ verifyCommit verify x.vals chain x.bid h c = .ok ()

/-- a stop at height `h` reports `h - 1` applied, so no entry from `h` on is claimed -/
theorem fs_stop {verify : Verify} {chain : List UInt8} {h : Nat} {hs : List FsH} {a : Nat} {st st' : FsStop} (hh : 1 ≤ h)
    (e : (h - 1, st') = (a, st)) :
    h - 1 ≤ a ∧ ∀ (i : Nat) (x : FsH), hs[i]? = some x → h + i ≤ a → x.avail = true ∧ FsAccepted verify chain (h + i) x := by
  simp only [Prod.mk.injEq] at e
  exact ⟨by omega, fun i x _ hle => by omega⟩

/-- FAST SYNC APPLIES A PREFIX OF ACCEPTED COMMITS: if the loop (started at height `h` with `hs`) reports `applied = a`, then
every entry below height `a + 1` is available and carries an accepted commit -/
theorem fastsync_prefix_sound (verify : Verify) (chain : List UInt8) (complete : Bool) (h : Nat) (hs : List FsH) (a : Nat) (st : FsStop)
    (hh : 1 ≤ h) (hr : fsLoop verify chain complete h hs = (a, st)) :
    h - 1 ≤ a ∧ ∀ (i : Nat) (x : FsH), hs[i]? = some x → h + i ≤ a → x.avail = true ∧ FsAccepted verify chain (h + i) x := by
  induction hs generalizing h with
  | nil => exact fs_stop hh hr
  | cons x rest ih =>
    cases rest with
    | nil => exact fs_stop hh hr
    | cons y rest =>
      rw [fsLoop] at hr
      by_cases hav : (!x.avail || !y.avail) = true
      · rw [if_pos hav] at hr; exact fs_stop hh hr
      rw [if_neg hav] at hr
      cases hc : x.commit with
      | none => rw [hc] at hr; exact fs_stop hh hr
      | some c =>
        rw [hc] at hr
        simp only at hr
        cases hv : verifyCommit verify x.vals chain x.bid h c with
        | error e => rw [hv] at hr; exact fs_stop hh hr
        | ok u =>
          rw [hv] at hr
          obtain ⟨hle, hall⟩ := ih (h + 1) (by omega) hr
          refine ⟨by omega, fun i z hz hia => ?_⟩
          cases i with
          | zero =>
            cases hz
            simp only [Bool.or_eq_true, Bool.not_eq_true', not_or, Bool.not_eq_false] at hav
            exact ⟨hav.1, c, hc, hv⟩
          | succ i =>
            have := hall i z hz (by omega)
            rwa [show h + 1 + i = h + (i + 1) by omega] at this

/-- … therefore every applied height was signed by > 2/3 of the set in force at that height for exactly the received block -/
theorem fastsync_applied_needs_two_thirds (verify : Verify) (chain : List UInt8) (complete : Bool) (hs : List FsH) (a : Nat) (st : FsStop)
    (hr : fsLoop verify chain complete 1 hs = (a, st)) (i : Nat) (x : FsH) (hx : hs[i]? = some x) (hi : 1 + i ≤ a)
    (hno : NoOverflow x.vals) :
    ∃ c r, x.commit = some c ∧ AllSlotsGood verify chain (1 + i) r x.vals c.precommits ∧
      3 * countedPower x.bid x.vals c.precommits > 2 * sumPowers x.vals := by
  obtain ⟨_, hall⟩ := fastsync_prefix_sound verify chain complete 1 hs a st (by omega) hr
  obtain ⟨_, c, hc, hok⟩ := hall i x hx hi
  obtain ⟨_, r, hg, hq⟩ := verifyCommit_sound verify x.vals chain x.bid (1 + i) c hno hok
  exact ⟨c, r, hc, hg, hq⟩

/-! non-vacuity: three heights served, the commit for height 2 is one vote short: height 1 is applied, height 2 is not -/
def fsGood (h : Nat) : Commit := ⟨exB, [some { exVote 0 exB with height := h, sig := .signed 0 (msgOf [99] { exVote 0 exB with height := h }) },
  some { exVote 1 exB with height := h, sig := .signed 1 (msgOf [99] { exVote 1 exB with height := h }) },
  some { exVote 2 exB with height := h, sig := .signed 2 (msgOf [99] { exVote 2 exB with height := h }) }, none]⟩
def fsShort (h : Nat) : Commit := ⟨exB, (fsGood h).precommits.take 2 ++ [none, none]⟩

example : fsLoop symVerify [99] true 1 [⟨exVals 4, exB, true, some (fsGood 1)⟩, ⟨exVals 4, exB, true, some (fsShort 2)⟩, ⟨exVals 4, exB, true, none⟩]
    = (1, FsStop.badCommit) := by decide
example : fsLoop symVerify [99] true 1 [⟨exVals 4, exB, true, some (fsGood 1)⟩, ⟨exVals 4, exB, true, some (fsGood 2)⟩, ⟨exVals 4, exB, true, none⟩]
    = (2, FsStop.caughtUp) := by decide
/-- a nil LastCommit is refused like any other invalid commit (fix f5d5bad; before it the node halted) -/
example : fsLoop symVerify [99] true 1 [⟨exVals 4, exB, true, none⟩, ⟨exVals 4, exB, true, none⟩] = (0, FsStop.badCommit) := by decide

end Props.C03
