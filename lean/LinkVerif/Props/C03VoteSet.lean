/-
C03: the vote set (`Model.VoteSet`, mirror of `types/vote_set.go`).
Step theorems that hold for ANY state and ANY vote, hence along any sequence of `addVote`/`setPeerMaj23`:
  * a two-thirds majority, once reported, never changes (`maj23_stable_*`, `maj23_stable_run`);
  * a majority is reported only at a step where that block's tally crosses the quorum (`maj23_set_only_at_quorum`);
  * votes rejected for index / address / size / step / signature / non-deterministic signature, and duplicates,
    leave the state untouched (`rejected_unchanged`);
  * a conflicting vote is surfaced as evidence naming both votes of the same validator for different blocks
    (`conflict_is_evidence`), and a peer's claim never changes a tally or the majority (`peer_claim_inert`);
  * quorum intersection: two block ids with more than 2/3 each share validators with more than 1/3
    (`quorum_intersection`), so non-equivocating validators cannot produce two majorities (`at_most_one_maj23_honest`).
-/
import LinkVerif.Props.C03Arith

namespace Props.C03
open Go Gen.CommitArith Model.Vote Model.VoteSet

theorem lookup_upsert (bb : List (BlockID × BlockVotes)) (k b : BlockID) (x : BlockVotes) :
    lookup (upsert bb k x) b = if k = b then some x else lookup bb b := by
  induction bb with
  | nil => rfl
  | cons e rest ih =>
    obtain ⟨k', bv'⟩ := e
    simp only [upsert]
    split
    · rename_i hk; subst hk; simp only [lookup]; split <;> rfl
    · rename_i hk
      simp only [lookup, ih]
      by_cases hkb : k = b
      · subst hkb; rw [if_neg hk, if_pos rfl, if_pos rfl]
      · rw [if_neg hkb, if_neg hkb]

theorem lookup_upsert_self (bb : List (BlockID × BlockVotes)) (k : BlockID) (bv : BlockVotes) :
    lookup (upsert bb k bv) k = some bv := by
  rw [lookup_upsert, if_pos rfl]

def setSlot (s : VS) (i : Nat) (v : Vote) (sum' : Int) : VS :=
  { s with votes := s.votes.set i (some v), bits := s.bits.set i true, sum := sum' }

/-- the three outcomes of the first half of `addVerifiedVote` -/
def Stage1 (s : VS) (v : Vote) (i : Nat) (p : Int) (s1 : VS) (conf : Option Vote) : Prop :=
  (s.votes.getD i none = none ∧ s1 = setSlot s i v (wrapI64 (s.sum + p)) ∧ conf = none) ∨
  (∃ ex, s.votes.getD i none = some ex ∧ ex.bid ≠ v.bid ∧ conf = some ex ∧
     ((s.maj23 = some v.bid ∧ s1 = setSlot s i v s.sum) ∨ (s.maj23 ≠ some v.bid ∧ s1 = s)))

/-- the fields that no operation changes -/
structure Cfg where
  vals : List Val
  height : Nat
  round : Int
  type : Nat
  chain : List UInt8

def cfg (s : VS) : Cfg := ⟨s.vals, s.height, s.round, s.type, s.chain⟩

section
variable {s s' s1 : VS} {v : Vote} {i : Nat} {p : Int} {a : Bool} {c conf : Option Vote} {bv : BlockVotes} {b : BlockID}

theorem stage1_frame (h : Stage1 s v i p s1 conf) :
    s1.maj23 = s.maj23 ∧ s1.byBlock = s.byBlock ∧ cfg s1 = cfg s := by
  rcases h with ⟨_, rfl, _⟩ | ⟨_, _, _, _, ⟨_, rfl⟩ | ⟨_, rfl⟩⟩ <;> exact ⟨rfl, rfl, rfl⟩

theorem addVerifiedVote_decompose (h : addVerifiedVote s v i p = some (s', a, c)) :
    ∃ s1, Stage1 s v i p s1 c ∧
      ((s' = s1 ∧ a = false ∧ c.isSome = true) ∨
       ∃ bv, (lookup s1.byBlock v.bid = some bv ∨
               (lookup s1.byBlock v.bid = none ∧ bv = newBlockVotes false s1.vals.length)) ∧
              s' = tally s1 v i p bv ∧ a = true) := by
  unfold addVerifiedVote at h
  simp only at h
  split at h
  · cases h
  · rename_i s1 conf hst
    have hS : Stage1 s v i p s1 conf := by
      split at hst
      · rename_i ex hex
        split at hst
        · cases hst
        · rename_i hne
          split at hst
          · rename_i hm
            cases hst
            exact Or.inr ⟨ex, hex, hne, rfl, Or.inl ⟨hm, rfl⟩⟩
          · rename_i hm
            cases hst
            exact Or.inr ⟨ex, hex, hne, rfl, Or.inr ⟨hm, rfl⟩⟩
      · rename_i hex
        cases hst
        exact Or.inl ⟨hex, rfl, rfl⟩
    refine ⟨s1, ?_⟩
    split at h
    · rename_i bv hl
      split at h
      · rename_i hc
        cases h
        exact ⟨hS, Or.inl ⟨rfl, rfl, (Bool.and_eq_true _ _ ▸ hc).1⟩⟩
      · cases h
        exact ⟨hS, Or.inr ⟨bv, Or.inl hl, rfl, rfl⟩⟩
    · rename_i hl
      split at h
      · rename_i hc
        cases h
        exact ⟨hS, Or.inl ⟨rfl, rfl, hc⟩⟩
      · cases h
        -- the model sizes the fresh entry by `s.vals`, which is `s1.vals`
        obtain ⟨_, _, hc⟩ := stage1_frame hS
        have hvals : s1.vals = s.vals := congrArg Cfg.vals hc
        exact ⟨hS, Or.inr ⟨_, Or.inr ⟨hl, hvals ▸ rfl⟩, rfl, rfl⟩⟩

/-- `votesByBlock[k] = bv'` -/
def withBlock (s : VS) (k : BlockID) (bv' : BlockVotes) : VS := { s with byBlock := upsert s.byBlock k bv' }

/-- the first quorum: remember the block id and copy its votes over the canonical ones -/
def decideOn (s : VS) (b : BlockID) (bvv : List (Option Vote)) : VS := { s with maj23 := some b, votes := overlay s.votes bvv }

theorem tally_eq (s : VS) (v : Vote) (i : Nat) (p : Int) (bv : BlockVotes) :
    tally s v i p bv =
      if (crossedQuorum bv.sum (quorum (totalPower s.vals)) (bv.add v i p).sum && s.maj23.isNone) = true
      then decideOn (withBlock s v.bid (bv.add v i p)) v.bid (bv.add v i p).votes
      else withBlock s v.bid (bv.add v i p) := by
  unfold tally withBlock decideOn
  simp only

theorem tally_cfg (s : VS) (v : Vote) (i : Nat) (p : Int) (bv : BlockVotes) : cfg (tally s v i p bv) = cfg s := by
  rw [tally_eq]; split <;> rfl

theorem tally_maj23_keep (hb : s.maj23 = some b) : (tally s v i p bv).maj23 = some b := by
  rw [tally_eq, if_neg]
  · exact hb
  · rw [hb, Option.isNone_some, Bool.and_false]
    exact Bool.false_ne_true

theorem tally_maj23_set (hn : s.maj23 = none) (hs : (tally s v i p bv).maj23 = some b) :
    b = v.bid ∧ ∃ bv', lookup (tally s v i p bv).byBlock b = some bv' ∧ quorum (totalPower s.vals) ≤ bv'.sum := by
  rw [tally_eq] at hs ⊢
  split at hs
  · rename_i hc
    rw [if_pos hc]
    cases hs
    exact ⟨rfl, _, lookup_upsert_self _ _ _, quorum_le_of_crossed hc⟩
  · cases hn.symm.trans hs

theorem addVerifiedVote_cfg (h : addVerifiedVote s v i p = some (s', a, c)) : cfg s' = cfg s := by
  obtain ⟨s1, hS, hrest⟩ := addVerifiedVote_decompose h
  obtain ⟨_, _, hc⟩ := stage1_frame hS
  rcases hrest with ⟨rfl, _⟩ | ⟨bv, _, rfl, _⟩
  · exact hc
  · exact (tally_cfg s1 v i p bv).trans hc

theorem addVerifiedVote_maj23_keep (h : addVerifiedVote s v i p = some (s', a, c)) (hb : s.maj23 = some b) : s'.maj23 = some b := by
  obtain ⟨s1, hS, hrest⟩ := addVerifiedVote_decompose h
  obtain ⟨hm, _, _⟩ := stage1_frame hS
  have h1 : s1.maj23 = some b := hm.trans hb
  rcases hrest with ⟨rfl, _⟩ | ⟨bv, _, rfl, _⟩
  · exact h1
  · exact tally_maj23_keep h1

theorem addVerifiedVote_maj23_set (h : addVerifiedVote s v i p = some (s', a, c)) (hn : s.maj23 = none) (hs : s'.maj23 = some b) :
    b = v.bid ∧ ∃ bv', lookup s'.byBlock b = some bv' ∧ quorum (totalPower s.vals) ≤ bv'.sum := by
  obtain ⟨s1, hS, hrest⟩ := addVerifiedVote_decompose h
  obtain ⟨hm, _, hc⟩ := stage1_frame hS
  rcases hrest with ⟨rfl, _⟩ | ⟨bv, _, rfl, _⟩
  · rw [hm, hn] at hs; cases hs
  · obtain ⟨e, bv', hl, hq⟩ := tally_maj23_set (hm.trans hn) hs
    rw [show s1.vals = s.vals from congrArg Cfg.vals hc] at hq
    exact ⟨e, bv', hl, hq⟩

end

/-- the step relation of a vote set: one accepted-or-rejected vote, or one peer claim -/
inductive Step (verify : Verify) : VS → VS → Prop
  | vote (s : VS) (v : Vote) (r : AddRes) : addVote verify s v = some r → Step verify s r.st
  | peer (s : VS) (peer : List UInt8) (bid : BlockID) : Step verify s (setPeerMaj23 s peer bid).1

/-- finite runs: any sequence of votes and peer claims -/
inductive Run (verify : Verify) : VS → VS → Prop
  | refl (s : VS) : Run verify s s
  | tail (s t u : VS) : Run verify s t → Step verify t u → Run verify s u

/-- the end of `addVote`: what is answered once the vote has passed every check and gone through `addVerifiedVote` -/
def finishAdd (v : Vote) : Option (VS × Bool × Option Vote) → Option AddRes
  | none => none
  | some (s', added, some c) => some ⟨s', added, .conflict c v⟩
  | some (s', added, none) => if added then some ⟨s', true, .none⟩ else none

structure Checked (verify : Verify) (s : VS) (v : Vote) (i : Nat) (val : Val) : Prop where
  slot : s.vals[i]? = some val
  idx : (i : Int) = v.idx
  addr : v.addr = val.addr
  height : v.height = s.height
  round : v.round = s.round
  type : v.type = s.type
  sig : verify val.key (msgOf s.chain v) v.sig = true

inductive AddOutcome (verify : Verify) (s : VS) (v : Vote) (o : Option AddRes) : Prop
  | rejected (e : AddErr) (ho : o = some ⟨s, false, e⟩) (he : ∀ a b, e ≠ .conflict a b)
  | checked (i : Nat) (val : Val) (hck : Checked verify s v i val) (hget : getVote s i v.bid = none)
      (ho : o = finishAdd v (addVerifiedVote s v i val.power))

theorem AddOutcome.ite {verify : Verify} {s : VS} {v : Vote} {c : Prop} [Decidable c] {e : AddErr} {x : Option AddRes}
    (he : ∀ a b, e ≠ .conflict a b) (hx : ¬ c → AddOutcome verify s v x) :
    AddOutcome verify s v (if c then some ⟨s, false, e⟩ else x) := by
  by_cases hc : c
  · rw [if_pos hc]; exact .rejected e rfl he
  · rw [if_neg hc]; exact hx hc

theorem addVote_outcome (verify : Verify) (s : VS) (v : Vote) : AddOutcome verify s v (addVote verify s v) := by
  unfold addVote
  refine .ite (fun _ _ => nofun) fun h1 => .ite (fun _ _ => nofun) fun h2 => .ite (fun _ _ => nofun) fun h3 =>
    .ite (fun _ _ => nofun) fun h4 => ?_
  simp only
  cases hval : s.vals[v.idx.toNat]? with
  | none => exact .rejected _ rfl fun _ _ => nofun
  | some val =>
    refine .ite (fun _ _ => nofun) fun h5 => ?_
    cases hget : getVote s v.idx.toNat v.bid with
    | some ex => exact .ite (fun _ _ => nofun) fun _ => .rejected _ rfl fun _ _ => nofun
    | none =>
      have ⟨e1, e2, e3⟩ : v.height = s.height ∧ v.round = s.round ∧ v.type = s.type := by simpa [not_or] using h4
      exact .ite (fun _ _ => nofun) fun _ => .ite (fun _ _ => nofun) fun h8 =>
        .checked _ val ⟨hval, by omega, Decidable.not_not.1 h5, e1, e2, e3, by simpa using h8⟩ hget (by unfold finishAdd; rfl)

theorem finishAdd_some {v : Vote} {x : Option (VS × Bool × Option Vote)} {r : AddRes} (h : finishAdd v x = some r) :
    ∃ c, x = some (r.st, r.added, c) ∧
      ((c = none ∧ r.added = true ∧ r.err = .none) ∨ ∃ cv, c = some cv ∧ r.err = .conflict cv v) := by
  rcases x with _ | ⟨s', a, _ | cv⟩
  · cases h
  · cases a
    · cases h
    · cases h; exact ⟨none, rfl, Or.inl ⟨rfl, rfl, rfl⟩⟩
  · cases h; exact ⟨some cv, rfl, Or.inr ⟨cv, rfl, rfl⟩⟩

/-- every state change of `addVote` goes through `addVerifiedVote` -/
theorem addVote_cases {verify : Verify} {s : VS} {v : Vote} {r : AddRes} (h : addVote verify s v = some r) :
    (r.st = s ∧ r.added = false ∧ ∀ a b, r.err ≠ .conflict a b) ∨
    ∃ (i : Nat) (val : Val) (c : Option Vote), Checked verify s v i val ∧
      addVerifiedVote s v i val.power = some (r.st, r.added, c) ∧
      ((c = none ∧ r.added = true ∧ r.err = .none) ∨ ∃ cv, c = some cv ∧ r.err = .conflict cv v) := by
  rcases addVote_outcome verify s v with ⟨e, he, hrej⟩ | ⟨i, val, hck, _, he⟩
  · rw [he] at h; cases h; exact Or.inl ⟨rfl, rfl, hrej⟩
  · obtain ⟨c, hc, hres⟩ := finishAdd_some (he ▸ h)
    exact Or.inr ⟨i, val, c, hck, hc, hres⟩

/-- REJECTED VOTES LEAVE THE STATE UNCHANGED: wrong index / address / size / height-round-type / signature,
a second signature for the same slot and block, and exact duplicates -/
theorem rejected_unchanged (verify : Verify) (s : VS) (v : Vote) (r : AddRes) (h : addVote verify s v = some r)
    (hrej : r.err = .index ∨ r.err = .address ∨ r.err = .size ∨ r.err = .step ∨ r.err = .nondet ∨ r.err = .sig ∨
            (r.err = .none ∧ r.added = false)) : r.st = s := by
  rcases addVote_cases h with h1 | ⟨i, val, c, _, _, hres⟩
  · exact h1.1
  · exfalso
    rcases hres with ⟨_, ha, he⟩ | ⟨cv, _, he⟩
    · rw [he, ha] at hrej; simp at hrej
    · rw [he] at hrej; simp at hrej

/-- only votes that pass every check reach the tallies: right index and address, the set's height, round and
type, and a signature that verifies under the key of the validator at that index over exactly this vote -/
theorem counted_vote_is_valid (verify : Verify) (s : VS) (v : Vote) (r : AddRes) (h : addVote verify s v = some r)
    (hch : r.st ≠ s) :
    ∃ (i : Nat) (val : Val), s.vals[i]? = some val ∧ (i : Int) = v.idx ∧ v.addr = val.addr ∧ v.height = s.height ∧ v.round = s.round ∧
      v.type = s.type ∧ verify val.key (msgOf s.chain v) v.sig = true := by
  rcases addVote_cases h with h1 | ⟨i, val, _, hck, _⟩
  · exact absurd h1.1 hch
  · exact ⟨i, val, hck.slot, hck.idx, hck.addr, hck.height, hck.round, hck.type, hck.sig⟩

/-- A MAJORITY NEVER CHANGES once reported (vote step) -/
theorem maj23_stable_vote {verify : Verify} {s : VS} {v : Vote} {r : AddRes} {b : BlockID}
    (h : addVote verify s v = some r) (hb : s.maj23 = some b) : r.st.maj23 = some b := by
  rcases addVote_cases h with h1 | ⟨i, val, c, _, havv, _⟩
  · rw [h1.1]; exact hb
  · exact addVerifiedVote_maj23_keep havv hb

theorem setPeerMaj23_frame (s : VS) (peer : List UInt8) (bid : BlockID) :
    ∃ bb pp, (setPeerMaj23 s peer bid).1 = { s with byBlock := bb, peers := pp } := by
  unfold setPeerMaj23
  split
  · exact ⟨s.byBlock, s.peers, rfl⟩
  · simp only
    split
    · split <;> exact ⟨_, _, rfl⟩
    · exact ⟨_, _, rfl⟩

/-- a peer's claim changes neither the majority, nor the round total, nor the canonical votes (it only starts tracking a block id) -/
theorem peer_claim_inert (s : VS) (peer : List UInt8) (bid : BlockID) :
    (setPeerMaj23 s peer bid).1.maj23 = s.maj23 ∧ (setPeerMaj23 s peer bid).1.sum = s.sum ∧
    (setPeerMaj23 s peer bid).1.votes = s.votes ∧ (setPeerMaj23 s peer bid).1.bits = s.bits ∧
    (setPeerMaj23 s peer bid).1.vals = s.vals := by
  obtain ⟨bb, pp, e⟩ := setPeerMaj23_frame s peer bid
  rw [e]
  exact ⟨rfl, rfl, rfl, rfl, rfl⟩

theorem maj23_stable_step {verify : Verify} {s s' : VS} {b : BlockID} (h : Step verify s s') (hb : s.maj23 = some b) :
    s'.maj23 = some b := by
  cases h with
  | vote v r hr => exact maj23_stable_vote hr hb
  | peer p bid => rw [(peer_claim_inert s p bid).1]; exact hb

/-- … along ANY sequence of votes and peer claims: "a vote set reports a two-thirds majority for at most one block id" -/
theorem maj23_stable_run (verify : Verify) (s s' : VS) (b : BlockID) (h : Run verify s s')
    (hb : s.maj23 = some b) : s'.maj23 = some b := by
  induction h with
  | refl => exact hb
  | tail t u _ hstep ih => exact maj23_stable_step hstep ih

theorem step_cfg {verify : Verify} {s s' : VS} (h : Step verify s s') : cfg s' = cfg s := by
  cases h with
  | vote v r hr =>
    rcases addVote_cases hr with h1 | ⟨i, val, c, _, havv, _⟩
    · rw [h1.1]
    · exact addVerifiedVote_cfg havv
  | peer p bid =>
    obtain ⟨bb, pp, e⟩ := setPeerMaj23_frame s p bid
    rw [e]; rfl

theorem run_cfg {verify : Verify} {s s' : VS} (h : Run verify s s') : cfg s' = cfg s := by
  induction h with
  | refl => rfl
  | tail t u _ hstep ih => exact (step_cfg hstep).trans ih

/-- A MAJORITY IS REPORTED ONLY AT A QUORUM: the step that sets it is an accepted, fully checked vote for that very
block, and after it the block's tally is at least `quorum total`, i.e. (by `quorum_iff`) strictly more than 2/3 -/
theorem maj23_set_only_at_quorum (verify : Verify) (s : VS) (v : Vote) (r : AddRes) (b : BlockID)
    (h : addVote verify s v = some r) (hn : s.maj23 = none) (hs : r.st.maj23 = some b) :
    b = v.bid ∧ ∃ bv, lookup r.st.byBlock b = some bv ∧ quorum (totalPower s.vals) ≤ bv.sum := by
  rcases addVote_cases h with h1 | ⟨i, val, c, _, havv, _⟩
  · rw [h1.1, hn] at hs; cases hs
  · exact addVerifiedVote_maj23_set havv hn hs

theorem two_thirds_of_quorum_le {vals : List Val} {sum : Int} (hno : NoOverflow vals)
    (hq : quorum (totalPower vals) ≤ sum) : 3 * sum > 2 * sumPowers vals := by
  rw [totalPower_eq hno] at hq
  exact (quorum_iff (sumPowers_nonneg hno.1) hno.2).1 hq

/-- CONFLICTS SURFACE AS EVIDENCE: the error carries the new vote and the earlier one, which is the vote in the slot of
the new vote's index and is for a different block id -/
theorem conflict_is_evidence (verify : Verify) (s : VS) (v : Vote) (r : AddRes) (a b : Vote)
    (h : addVote verify s v = some r) (he : r.err = .conflict a b) :
    b = v ∧ a.bid ≠ v.bid ∧ ∃ i : Nat, (i : Int) = v.idx ∧ s.votes.getD i none = some a := by
  rcases addVote_cases h with ⟨_, _, hnc⟩ | ⟨i, val, c, hck, havv, hres⟩
  · exact absurd he (hnc a b)
  · rcases hres with ⟨_, _, he'⟩ | ⟨cv, rfl, he'⟩
    · rw [he'] at he; cases he
    · rw [he'] at he
      cases he
      obtain ⟨s1, hS, _⟩ := addVerifiedVote_decompose havv
      rcases hS with ⟨_, _, hconf⟩ | ⟨ex, hex, hne, hconf, _⟩
      · cases hconf
      · cases hconf
        exact ⟨rfl, hne, i, hck.idx, hex⟩

/-- power of the validators marked in a Boolean list -/
def powerWhere : List Val → List Bool → Int
  | v :: vs, b :: bs => (if b then v.power else 0) + powerWhere vs bs
  | _, _ => 0

def andBits : List Bool → List Bool → List Bool
  | a :: as, b :: bs => (a && b) :: andBits as bs
  | _, _ => []

theorem powerWhere_bounds (vals : List Val) (bs : List Bool) (hp : ∀ v ∈ vals, 0 ≤ v.power) :
    0 ≤ powerWhere vals bs ∧ powerWhere vals bs ≤ sumPowers vals := by
  induction vals, bs using powerWhere.induct with
  | case1 v vs b bs ih =>
    obtain ⟨hv, hp'⟩ := List.forall_mem_cons.1 hp
    have := ih hp'
    rw [sumPowers_cons, powerWhere]
    split <;> omega
  | case2 vals bs hne => rw [powerWhere.eq_2 _ _ hne]; exact ⟨Int.le_refl 0, sumPowers_nonneg hp⟩

theorem powerWhere_mono (vals : List Val) (x y : List Bool) (hp : ∀ v ∈ vals, 0 ≤ v.power)
    (h : ∀ i : Nat, x[i]? = some true → y[i]? = some true) : powerWhere vals x ≤ powerWhere vals y := by
  induction vals generalizing x y with
  | nil => simp [powerWhere]
  | cons v vs ih =>
    obtain ⟨hv, hp'⟩ := List.forall_mem_cons.1 hp
    cases x with
    | nil => exact (powerWhere_bounds (v :: vs) y hp).1
    | cons a as =>
      have h0 := h 0
      cases y with
      | nil =>
        have := ih as [] hp' (fun i hi => nomatch h (i + 1) hi)
        cases a
        · simpa [powerWhere] using this
        · simp at h0
      | cons b bs =>
        have := ih as bs hp' (fun i hi => h (i + 1) hi)
        simp only [powerWhere]
        cases a <;> cases b <;> simp at h0 ⊢ <;> omega

theorem powerWhere_set (vals : List Val) (bs : List Bool) (i : Nat) (val : Val)
    (hv : vals[i]? = some val) (hb : bs[i]? = some false) :
    powerWhere vals (bs.set i true) = powerWhere vals bs + val.power := by
  induction vals generalizing bs i with
  | nil => simp at hv
  | cons w vs ih =>
    cases bs with
    | nil => simp at hb
    | cons b bs =>
      cases i with
      | zero =>
        cases hv; cases hb
        simp [powerWhere]; omega
      | succ i =>
        simp only [List.set_cons_succ, powerWhere, ih bs i hv hb]; omega

theorem powerWhere_inter (vals : List Val) (x y : List Bool) (hp : ∀ v ∈ vals, 0 ≤ v.power) :
    powerWhere vals x + powerWhere vals y ≤ sumPowers vals + powerWhere vals (andBits x y) := by
  induction vals generalizing x y with
  | nil => simp [powerWhere, sumPowers]
  | cons v vs ih =>
    -- against an empty mask the claim is the upper bound of the other tally
    cases x with
    | nil => simpa [powerWhere, andBits] using (powerWhere_bounds (v :: vs) y hp).2
    | cons a as =>
      cases y with
      | nil => simpa [powerWhere, andBits] using (powerWhere_bounds (v :: vs) (a :: as) hp).2
      | cons b bs =>
        obtain ⟨hv, hp'⟩ := List.forall_mem_cons.1 hp
        have := ih as bs hp'
        rw [sumPowers_cons]
        simp only [powerWhere, andBits]
        cases a <;> cases b <;> simp <;> omega

/-- QUORUM INTERSECTION: if the voters of two block ids each hold more than 2/3, the validators that voted for
BOTH hold more than 1/3 of the total -/
theorem quorum_intersection (vals : List Val) (x y : List Bool) (hp : ∀ v ∈ vals, 0 ≤ v.power)
    (hx : 3 * powerWhere vals x > 2 * sumPowers vals) (hy : 3 * powerWhere vals y > 2 * sumPowers vals) :
    3 * powerWhere vals (andBits x y) > sumPowers vals := by
  have := powerWhere_inter vals x y hp
  omega

theorem powerWhere_none {vals : List Val} {z : List Bool} (hz : ∀ b ∈ z, b = false) : powerWhere vals z = 0 := by
  induction vals, z using powerWhere.induct with
  | case1 v vs b bs ih =>
    obtain ⟨rfl, hz'⟩ := List.forall_mem_cons.1 hz
    rw [powerWhere, ih hz']; rfl
  | case2 vals bs hne => exact powerWhere.eq_2 _ _ hne

/-- … so validators that do not equivocate (nobody voted for both) cannot give two block ids a majority -/
theorem at_most_one_maj23_honest (vals : List Val) (x y : List Bool) (hp : ∀ v ∈ vals, 0 ≤ v.power)
    (hdisj : ∀ b ∈ andBits x y, b = false)
    (hx : 3 * powerWhere vals x > 2 * sumPowers vals) (hy : 3 * powerWhere vals y > 2 * sumPowers vals) : False := by
  have h := quorum_intersection vals x y hp hx hy
  rw [powerWhere_none hdisj] at h
  have := sumPowers_nonneg hp
  omega

/-- … and with a Byzantine set `z` below one third, every validator in the intersection being Byzantine is impossible:
two majorities need an equivocator outside `z` -/
theorem two_majorities_need_honest_equivocator (vals : List Val) (x y z : List Bool) (hp : ∀ v ∈ vals, 0 ≤ v.power)
    (hz : 3 * powerWhere vals z < sumPowers vals)
    (hx : 3 * powerWhere vals x > 2 * sumPowers vals) (hy : 3 * powerWhere vals y > 2 * sumPowers vals) :
    powerWhere vals (andBits x y) > powerWhere vals z := by
  have h := quorum_intersection vals x y hp hx hy
  omega

/-! ### Non-vacuity -/

def nvVals : List Val := (List.range 4).map (fun i => { addr := [UInt8.ofNat i], kaddr := [UInt8.ofNat i], key := i, power := 1 })
def nvB : BlockID := ⟨zeroHash, 1, [1]⟩
def nvB2 : BlockID := ⟨zeroHash, 2, [2]⟩
def nvVote (i : Nat) (b : BlockID) : Vote :=
  let v : Vote := { id := i, addr := [UInt8.ofNat i], idx := i, size := 4, height := 5, round := 0, tsSec := 0, tsNsec := 0, type := 2, bid := b, sig := .nil }
  { v with sig := .signed i (msgOf [99] v) }

def runVotes (s : Option VS) (vs : List Vote) : Option VS :=
  vs.foldl (fun st v => st.bind (fun s => (addVote symVerify s v).map (·.st))) s

/-- three of four equal validators make the majority; a fourth vote for another block does not change it;
an equivocation of validator 0 is answered with evidence -/
example : ((runVotes (newVS [99] 5 0 2 nvVals) [nvVote 0 nvB, nvVote 1 nvB]).map (·.maj23)) = some none := by decide
example : ((runVotes (newVS [99] 5 0 2 nvVals) [nvVote 0 nvB, nvVote 1 nvB, nvVote 2 nvB]).map (·.maj23)) = some (some nvB) := by decide
example : ((runVotes (newVS [99] 5 0 2 nvVals) [nvVote 0 nvB, nvVote 1 nvB, nvVote 2 nvB, nvVote 3 nvB2]).map (·.maj23)) = some (some nvB) := by decide
example : (((runVotes (newVS [99] 5 0 2 nvVals) [nvVote 0 nvB]).bind (fun s => addVote symVerify s (nvVote 0 nvB2))).map (·.err))
    = some (.conflict (nvVote 0 nvB) (nvVote 0 nvB2)) := by decide
example : (((newVS [99] 5 0 2 nvVals).bind (fun s => addVote symVerify s { nvVote 0 nvB with round := 1 })).map (·.err)) = some .step := by decide

end Props.C03
