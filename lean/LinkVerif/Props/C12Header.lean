/-
C12: `Header.Hash` commits to the value of every hashed header field.
Generic in the digest type; the laws are hypotheses: `Inj2 H2`, the key/value pair hash `KV` injective in
the pair, the field hash `FH` injective.
-/
import LinkVerif.Model.BlockId
import LinkVerif.Props.C12Merkle

namespace Props.C12
open Model.Merkle Model.BlockId

theorem insertByKey_perm {D : Type} (x : Bytes × D) (l : List (Bytes × D)) : (insertByKey x l).Perm (x :: l) := by
  induction l with
  | nil => exact List.Perm.refl _
  | cons y rest ih =>
    simp only [insertByKey]
    split
    · exact List.Perm.refl _
    · exact (List.Perm.cons y ih).trans (List.Perm.swap x y rest)

theorem sortByKey_perm {D : Type} (l : List (Bytes × D)) : (sortByKey l).Perm l := by
  induction l with
  | nil => exact List.Perm.refl _
  | cons x rest ih =>
    simp only [sortByKey, List.foldr_cons]
    exact (insertByKey_perm x _).trans (List.Perm.cons x ih)

theorem eq_of_perm_of_keys {K V : Type} {l1 l2 : List (K × V)} (hp : l1.Perm l2) (hk : l1.map (·.1) = l2.map (·.1))
    (hn : (l1.map (·.1)).Nodup) : l1 = l2 := by
  induction l1 generalizing l2 with
  | nil => exact hp.nil_eq
  | cons a t1 ih =>
    cases l2 with
    | nil => cases hk
    | cons b t2 =>
      simp only [List.map_cons, List.cons.injEq] at hk
      simp only [List.map_cons, List.nodup_cons] at hn
      have hab : a = b := (List.mem_cons.mp (hp.subset List.mem_cons_self)).resolve_right
        fun h => hn.1 (hk.2 ▸ List.mem_map_of_mem (f := (·.1)) h)
      subst hab
      rw [ih (List.Perm.cons_inv hp) hk.2 hn.2]

/-- `SimpleHashFromMap` commits to the values of a map whose key list is known and free of duplicates: the sorted
entry lists have equal roots and equal length, so they are equal; sorting only permutes, and a permutation that
keeps a duplicate-free key sequence is the identity. -/
theorem mapRootG_zip_inj {D : Type} [Inhabited D] {H2 : D → D → D} (hinj : Inj2 H2)
    {KV : Bytes → D → D} (hKV : ∀ k v k' v', KV k v = KV k' v' → k = k' ∧ v = v')
    {ks : List Bytes} (hnd : ks.Nodup) {xs ys : List D} (hx : xs.length = ks.length) (hy : ys.length = ks.length)
    (h : mapRootG H2 KV (ks.zip xs) = mapRootG H2 KV (ks.zip ys)) : xs = ys := by
  unfold mapRootG at h
  have hkx : (ks.zip xs).map (·.1) = ks := List.map_fst_zip (by omega)
  have hky : (ks.zip ys).map (·.1) = ks := List.map_fst_zip (by omega)
  have hleaves := root_inj_same_length hinj (by simp [(sortByKey_perm _).length_eq, hx, hy]) h
  have hsorted : sortByKey (ks.zip xs) = sortByKey (ks.zip ys) :=
    (List.map_inj_right fun _ _ e => Prod.ext_iff.mpr (hKV _ _ _ _ e)).mp hleaves
  have hperm : (ks.zip xs).Perm (ks.zip ys) := (sortByKey_perm _).symm.trans (hsorted ▸ sortByKey_perm _)
  have heq := congrArg (List.map (·.2)) (eq_of_perm_of_keys hperm (hkx.trans hky.symm) (hkx.symm ▸ hnd))
  rwa [List.map_snd_zip (by omega), List.map_snd_zip (by omega)] at heq

theorem hashed_keys_nodup : (hashedFields.map (fun kf => kf.1.toUTF8.toList)).Nodup := by decide +kernel

/-- **header_hash_commits** (the header half of `perturb_changes_id`): two assignments of the 17 hashed
header fields with the same `Header.Hash` are the same assignment.  Changing any hashed field therefore
changes the block hash. -/
theorem header_hash_commits {D : Type} [Inhabited D] (H2 : D → D → D) (hinj : Inj2 H2)
    (KV : Bytes → D → D) (hKV : ∀ k v k' v', KV k v = KV k' v' → k = k' ∧ v = v')
    (FH : FVal → D) (hFH : Function.Injective FH)
    (vs ws : List FVal) (hv : vs.length = hashedFields.length) (hw : ws.length = hashedFields.length)
    (h : headerHashG H2 KV FH vs = headerHashG H2 KV FH ws) : vs = ws := by
  unfold headerHashG at h
  have he : ∀ us : List FVal, (hashedFields.zip us).map (fun kfv => (kfv.1.1.toUTF8.toList, FH kfv.2)) =
      (hashedFields.map fun kf => kf.1.toUTF8.toList).zip (us.map FH) := fun us => by
    rw [List.zip_map]
    rfl
  rw [he vs, he ws] at h
  have hvals := mapRootG_zip_inj hinj hKV hashed_keys_nodup (by simp [hv]) (by simp [hw]) h
  exact (List.map_inj_right fun _ _ e => hFH e).mp hvals

/-- non-vacuity: a digest type on which the three laws hold together (free terms) -/
inductive HT where
  | nil
  | field (v : FVal)
  | pair (k : Bytes) (v : HT)
  | node (l r : HT)

instance : Inhabited HT := ⟨.nil⟩

example : Inj2 HT.node ∧ (∀ k v k' v', HT.pair k v = HT.pair k' v' → k = k' ∧ v = v') ∧ Function.Injective HT.field :=
  ⟨fun _ _ _ _ => HT.node.inj, fun _ _ _ _ => HT.pair.inj, fun _ _ => HT.field.inj⟩

end Props.C12
