/-
C04 — a validator key never signs conflicting votes or proposals, even across restarts.

The theorems quantify over ALL event lists of the micro-step machine `Model.FilePV`
(`Ev.req q` = a caller enters SignVote / SignProposal / SignVoteWithoutSave, `Ev.tick` = the call in flight
advances by one micro-step, `Ev.crash` = the process dies and the next one starts from the key file,
`Ev.crashTorn r` = it dies INSIDE the rename, `Ev.writeFails n` = the write of the temp file reports an error), i.e. over
all request sequences with a crash inserted between any two micro-steps of any call, including between signing
and persisting and between persisting and handing out the signature — under the hypothesis `Admissible St.init evs`
(a crash inside a rename leaves the old or the new content; no signing call is entered on an object whose save panicked).

A *release* is an entry `(q, .released sig ts post)` of the ghost log `St.out`: the call for request `q` handed
signature `sig` to its caller inside a vote whose timestamp is `ts` and whose sign-bytes are `post`.
Releases of recording calls (`q.save = true`: SignVote, SignProposal) are the subject of the property.
-/
import LinkVerif.Props.C04Check

namespace Props.C04
open Model.FilePV

def RecOK (r : Rec) : Prop :=
  (r.sb = none ∧ r.sig = none) ∨ (∃ p g, r.sb = some p ∧ r.sig = some g ∧ g.msg = p.bytes)

theorem RecOK.bytes_of_sig {r : Rec} (h : RecOK r) (g : Sig) (hg : r.sig = some g) : ∃ p, r.sb = some p ∧ p.bytes = g.msg := by
  rcases h with ⟨_, h2⟩ | ⟨p', g', h1, h2, h3⟩
  · rw [h2] at hg; cases hg
  · rw [h2] at hg; cases hg; exact ⟨p', h1, h3.symm⟩

theorem RecOK.msg {r : Rec} (h : RecOK r) (p : Payload) (g : Sig) (hp : r.sb = some p) (hg : r.sig = some g) : g.msg = p.bytes := by
  obtain ⟨p', hp', h'⟩ := h.bytes_of_sig g hg
  cases hp.symm.trans hp'
  exact h'.symm

def recOf (q : Req) (sg : Sig) : Rec := { hrs := q.hrs, sb := some q.p, sig := some sg }

/-- what is known at each program point of the call in flight -/
def PcInv (s : St) : Prop :=
  match s.pc with
  | .idle => s.poisoned = false → s.mem = s.disk ∧ s.shadow = s.disk
  | .check _ => s.mem = s.disk ∧ s.shadow = s.disk
  | .sign q => s.mem = s.disk ∧ s.shadow = s.disk ∧ HRS.lt s.disk.hrs q.hrs
  | .setMem q sg => s.mem = s.disk ∧ s.shadow = s.disk ∧ HRS.lt s.disk.hrs q.hrs ∧ sg.msg = q.p.bytes
  | .setShadow q sg => s.mem = recOf q sg ∧ s.shadow = s.disk ∧ HRS.lt s.disk.hrs q.hrs
  | .openTemp q sg => s.mem = recOf q sg ∧ s.shadow = recOf q sg ∧ HRS.lt s.disk.hrs q.hrs
  | .writeTemp q sg => s.mem = recOf q sg ∧ s.shadow = recOf q sg ∧ HRS.lt s.disk.hrs q.hrs
  | .closeTemp q sg => s.mem = recOf q sg ∧ s.shadow = recOf q sg ∧ HRS.lt s.disk.hrs q.hrs ∧ s.temp = some (recOf q sg)
  | .rename q sg => s.mem = recOf q sg ∧ s.shadow = recOf q sg ∧ HRS.lt s.disk.hrs q.hrs ∧ s.temp = some (recOf q sg)
  | .unlink1 q sg => s.mem = recOf q sg ∧ s.shadow = recOf q sg ∧ s.disk = recOf q sg
  | .unlink2 q sg => s.mem = recOf q sg ∧ s.shadow = recOf q sg ∧ s.disk = recOf q sg
  | .release q o => (s.poisoned = false → s.mem = s.disk ∧ s.shadow = s.disk) ∧
      match o with
      | .released g _ post => post = g.msg ∧ HRS.le s.disk.hrs q.hrs ∧ (q.save = true → s.disk.hrs = q.hrs ∧ s.disk.sig = some g)
      | _ => True

/-- pairwise facts about the log (newest first): a later release is never below an earlier recording release,
and at the same HRS it carries the same signature and the same signed content -/
def HistOK : List (Req × Outcome) → Prop
  | [] => True
  | e2 :: rest =>
    (∀ g2 ts2 post2, e2.2 = .released g2 ts2 post2 → ∀ e1 ∈ rest, ∀ g1 ts1 post1, e1.2 = .released g1 ts1 post1 → e1.1.save = true →
      HRS.le e1.1.hrs e2.1.hrs ∧ (e2.1.save = true → e1.1.hrs = e2.1.hrs → g1 = g2 ∧ post1 = post2)) ∧ HistOK rest

structure DiskInv (disk : Rec) (out : List (Req × Outcome)) (pers : List Rec) : Prop where
  recDisk : RecOK disk
  /-- every recording release is covered by the key file: the file's HRS is at least the release's, and if equal
  the file holds exactly that signature -/
  covers : ∀ e ∈ out, ∀ g ts post, e.2 = .released g ts post →
      post = g.msg ∧ (e.1.save = true → HRS.le e.1.hrs disk.hrs ∧ (e.1.hrs = disk.hrs → disk.sig = some g))
  hist : HistOK out
  persSorted : pers.Pairwise (fun newer older => HRS.lt older.hrs newer.hrs)
  persHead : ∀ r rest, pers = r :: rest → r = disk
  persNone : pers = [] → disk.sig = none
  relPers : ∀ e ∈ out, ∀ g ts post, e.2 = .released g ts post → e.1.save = true → ∃ r ∈ pers, r.hrs = e.1.hrs ∧ r.sig = some g

structure Inv (s : St) : Prop where
  d : DiskInv s.disk s.out s.persisted
  recMem : RecOK s.mem
  pc : PcInv s

theorem inv_init : Inv St.init where
  d := {
    recDisk := Or.inl ⟨rfl, rfl⟩
    covers := fun _ he => nomatch he
    hist := trivial
    persSorted := List.Pairwise.nil
    persHead := fun _ _ h => nomatch h
    persNone := fun _ => rfl
    relPers := fun _ he => nomatch he }
  recMem := Or.inl ⟨rfl, rfl⟩
  pc := fun _ => ⟨rfl, rfl⟩

theorem recOK_recOf (q : Req) (sg : Sig) (h : sg.msg = q.p.bytes) : RecOK (recOf q sg) :=
  Or.inr ⟨q.p, sg, rfl, rfl, h⟩

section
variable {disk : Rec} {out : List (Req × Outcome)} {pers : List Rec} (h : DiskInv disk out pers)
include h

theorem DiskInv.persCover : ∀ r ∈ pers, HRS.le r.hrs disk.hrs ∧ (r.hrs = disk.hrs → r = disk) := by
  intro r hr
  cases pers with
  | nil => cases hr
  | cons a rest =>
    cases h.persHead a rest rfl
    rcases List.mem_cons.1 hr with rfl | hr'
    · exact ⟨HRS.le_refl _, fun _ => rfl⟩
    · have hlt := List.rel_of_pairwise_cons h.persSorted hr'
      exact ⟨HRS.le_of_lt hlt, fun heq => absurd heq (HRS.ne_of_lt hlt)⟩

/-- the rename, or a crash inside an atomic rename that left the new content -/
theorem DiskInv.land (n : Rec) (hn : RecOK n) (hlt : HRS.lt disk.hrs n.hrs) : DiskInv n out (n :: pers) := by
  refine {
    recDisk := hn
    hist := h.hist
    covers := ?covers
    persSorted := ?persSorted
    persHead := ?persHead
    persNone := nofun
    relPers := ?relPers }
  case covers =>
    intro e he g ts post hrel
    have ⟨hpost, hc⟩ := h.covers e he g ts post hrel
    refine ⟨hpost, fun hsv => ?_⟩
    have hlt' := HRS.lt_of_le_of_lt (hc hsv).1 hlt
    exact ⟨HRS.le_of_lt hlt', fun heq => absurd heq (HRS.ne_of_lt hlt')⟩
  case persSorted =>
    exact List.pairwise_cons.2 ⟨fun r hr => HRS.lt_of_le_of_lt (h.persCover r hr).1 hlt, h.persSorted⟩
  case persHead => intro r rest heq; cases heq; rfl
  case relPers =>
    intro e he g ts post hrel hsv
    obtain ⟨r, hr, h1, h2⟩ := h.relPers e he g ts post hrel hsv
    exact ⟨r, List.mem_cons_of_mem _ hr, h1, h2⟩

/-- handing an outcome to the caller, given what the program point knows about a signature in it -/
theorem DiskInv.cons (q : Req) (o : Outcome)
    (ho : ∀ g ts post, o = .released g ts post →
      post = g.msg ∧ HRS.le disk.hrs q.hrs ∧ (q.save = true → disk.hrs = q.hrs ∧ disk.sig = some g)) :
    DiskInv disk ((q, o) :: out) pers := by
  refine { h with covers := ?covers, hist := ⟨?hist, h.hist⟩, relPers := ?relPers }
  case covers =>
    intro e he g ts post hrel
    rcases List.mem_cons.1 he with rfl | he'
    · obtain ⟨hpost, _, hsave⟩ := ho g ts post hrel
      refine ⟨hpost, fun hsv => ?_⟩
      have ⟨h1, h2⟩ := hsave hsv
      exact ⟨h1 ▸ HRS.le_refl _, fun _ => h2⟩
    · exact h.covers e he' g ts post hrel
  case hist =>
    intro g2 ts2 post2 h2 e1 he1 g1 ts1 post1 h1 hsv1
    obtain ⟨hpost, hle, hsave⟩ := ho g2 ts2 post2 h2
    have ⟨hp1, hc1⟩ := h.covers e1 he1 g1 ts1 post1 h1
    have ⟨hle1, heq1⟩ := hc1 hsv1
    refine ⟨HRS.le_trans hle1 hle, fun hsv2 hsame => ?_⟩
    -- both are the signature the key file holds at this HRS
    have ⟨hd, hsig⟩ := hsave hsv2
    cases hsig.symm.trans (heq1 (hsame.trans hd.symm))
    exact ⟨rfl, by rw [hp1, hpost]⟩
  case relPers =>
    intro e he g ts post hrel hsv
    rcases List.mem_cons.1 he with rfl | he'
    · obtain ⟨_, _, hsave⟩ := ho g ts post hrel
      have ⟨h1, h2⟩ := hsave hsv
      cases pers with
      | nil => rw [h.persNone rfl] at h2; cases h2
      | cons a rest =>
        cases h.persHead a rest rfl
        exact ⟨_, List.mem_cons_self, h1, h2⟩
    · exact h.relPers e he' g ts post hrel hsv

end

theorem DiskInv.release {disk : Rec} {out : List (Req × Outcome)} {pers : List Rec} (h : DiskInv disk out pers)
    (q : Req) (g : Sig) (ts : String) (post : Bytes) (hpost : post = g.msg) (hle : HRS.le disk.hrs q.hrs)
    (hsave : q.save = true → disk.hrs = q.hrs ∧ disk.sig = some g) : DiskInv disk ((q, .released g ts post) :: out) pers :=
  h.cons q _ fun _ _ _ h' => by cases h'; exact ⟨hpost, hle, hsave⟩

section
variable {m : Rec} {q : Req} (hstep : q.hrs.s ≠ -1)
include hstep

theorem decideCall_fresh (hlt : HRS.lt m.hrs q.hrs) : decideCall m q = .sign q := by
  unfold decideCall
  rw [if_neg hstep, checkRec_fresh m q.hrs hlt]
  rfl

theorem decideCall_below (hlt : HRS.lt q.hrs m.hrs) :
    ∃ code, decideCall m q = .release q (.refused code) := by
  have ⟨_, h1, _⟩ := checkRec_regression m q.hrs hlt
  unfold decideCall
  rw [if_neg hstep]
  generalize checkRec m q.hrs = c at h1
  obtain ⟨same, code⟩ := c
  exact ⟨code, by simp only; rw [if_neg (by omega), if_pos (by omega)]⟩

theorem decideCall_at (hsame : m.hrs = q.hrs) :
    decideCall m q = match m.sb, m.sig with
      | none, _ => .release q (.refused 4)
      | some _, none => .release q .panicked
      | some lp, some ls =>
        if q.p.bytes = lp.bytes then .release q (.released ls q.p.ts q.p.bytes)
        else if lp.ok = false then .release q .panicked
        else if q.p.core = lp.core then .release q (.released ls lp.ts lp.bytes)
        else .release q (.refused conflictCode) := by
  unfold decideCall
  rw [if_neg hstep, ← hsame, checkRec_same]
  cases m.sb <;> cases m.sig <;> rfl

end

theorem decideCall_cases (m : Rec) (q : Req) :
    (HRS.lt m.hrs q.hrs ∧ decideCall m q = .sign q) ∨
    ∃ o, decideCall m q = .release q o ∧
      ∀ g ts post, o = .released g ts post → m.hrs = q.hrs ∧ m.sig = some g ∧ ∃ lp, m.sb = some lp ∧ post = lp.bytes ∧
        ((q.p.bytes = lp.bytes ∧ ts = q.p.ts) ∨ (q.p.bytes ≠ lp.bytes ∧ q.p.core = lp.core ∧ ts = lp.ts)) := by
  by_cases hstep : q.hrs.s = -1
  · exact Or.inr ⟨.panicked, by unfold decideCall; rw [if_pos hstep], nofun⟩
  rcases HRS.trichotomy m.hrs q.hrs with hlt | hsame | hgt
  · exact Or.inl ⟨hlt, decideCall_fresh hstep hlt⟩
  · right
    rw [decideCall_at hstep hsame]
    cases hsb : m.sb with
    | none => exact ⟨_, rfl, nofun⟩
    | some lp =>
      cases hsg : m.sig with
      | none => exact ⟨_, rfl, nofun⟩
      | some ls =>
        simp only
        split
        · rename_i hb
          exact ⟨_, rfl, fun g ts post h => by cases h; exact ⟨hsame, rfl, lp, rfl, hb, Or.inl ⟨hb, rfl⟩⟩⟩
        split
        · exact ⟨_, rfl, nofun⟩
        split
        · rename_i hb _ hc
          exact ⟨_, rfl, fun g ts post h => by cases h; exact ⟨hsame, rfl, lp, rfl, rfl, Or.inr ⟨hb, hc, rfl⟩⟩⟩
        · exact ⟨_, rfl, nofun⟩
  · obtain ⟨code, h⟩ := decideCall_below hstep hgt
    exact Or.inr ⟨_, h, nofun⟩

theorem pcInv_decide (s : St) (q : Req) (hm : s.mem = s.disk) (hsh : s.shadow = s.disk) (hrec : RecOK s.mem) :
    PcInv { s with pc := decideCall s.mem q } := by
  rcases decideCall_cases s.mem q with ⟨hlt, hd⟩ | ⟨o, hd, ho⟩
  · rw [hd]
    exact ⟨hm, hsh, hm ▸ hlt⟩
  · rw [hd]
    refine ⟨fun _ => ⟨hm, hsh⟩, ?_⟩
    cases o with
    | released g ts post =>
      obtain ⟨hhrs, hsig, lp, hsb, hpost, _⟩ := ho g ts post rfl
      exact ⟨by rw [hpost, hrec.msg lp g hsb hsig], by rw [← hm, hhrs]; exact HRS.le_refl _,
        fun _ => by rw [← hm]; exact ⟨hhrs, hsig⟩⟩
    | _ => trivial

theorem inv_restart (s : St) (hd : DiskInv s.disk s.out s.persisted) : Inv (restart s) :=
  ⟨hd, hd.recDisk, by simp [PcInv, restart]⟩

theorem inv_step (s : St) (e : Ev) (hi : Inv s) (hat : e.admissibleAt s) : Inv (step s e) := by
  obtain ⟨hd, hrm, hpc⟩ := hi
  cases e with
  | req q =>
    cases hq : s.pc <;> simp only [step, hq]
    case idle =>
      simp only [PcInv, hq] at hpc
      exact ⟨hd, hrm, hpc hat⟩
    all_goals exact ⟨hd, hrm, hpc⟩
  | crash => exact inv_restart s hd
  | crashTorn r =>
    cases hq : s.pc <;> simp only [step, hq]
    case rename q sg =>
      simp only [PcInv, hq] at hpc
      obtain ⟨hmem, _, hlt, htemp⟩ := hpc
      split
      · exact inv_restart s hd
      · rename_i hne
        -- an atomic rename left the new content: the record lands in the key file
        have hr : r = recOf q sg := by rw [hat.resolve_left hne, htemp]; rfl
        exact inv_restart _ (hr ▸ hd.land (recOf q sg) (hmem ▸ hrm) hlt)
    all_goals exact inv_restart s hd
  | writeFails n =>
    -- the failed save releases nothing and touches neither the key file nor the logs; the call ends with a panic
    cases hq : s.pc <;> simp only [step, hq]
    case writeTemp q sg => exact ⟨hd, hrm, by simp [PcInv]⟩
    case openTemp q sg => exact ⟨hd, hrm, by simp [PcInv]⟩
    all_goals exact ⟨hd, hrm, hpc⟩
  | reset => exact absurd hat id
  | tick =>
    cases hq : s.pc <;> simp only [PcInv, hq] at hpc <;> simp only [step, tick, hq]
    case idle => exact ⟨hd, hrm, by simp only [PcInv, hq]; exact hpc⟩
    case check q => exact ⟨hd, hrm, pcInv_decide s q hpc.1 hpc.2 hrm⟩
    case sign q =>
      obtain ⟨hmem, hsh, hlt⟩ := hpc
      split
      · exact ⟨hd, hrm, hmem, hsh, hlt, rfl⟩
      · rename_i hns
        exact ⟨hd, hrm, fun _ => ⟨hmem, hsh⟩, rfl, HRS.le_of_lt hlt, fun hsv => absurd hsv hns⟩
    case setMem q sg =>
      obtain ⟨_, hsh, hlt, hmsg⟩ := hpc
      exact ⟨hd, recOK_recOf q sg hmsg, rfl, hsh, hlt⟩
    case setShadow q sg =>
      obtain ⟨hmem, _, hlt⟩ := hpc
      exact ⟨hd, hrm, hmem, rfl, hlt⟩
    case writeTemp q sg =>
      -- the SHADOW record goes into the temp file
      obtain ⟨hmem, hsh, hlt⟩ := hpc
      exact ⟨hd, hrm, hmem, hsh, hlt, congrArg some hsh⟩
    case rename q sg =>
      -- the key file becomes the new record; every earlier release is strictly below it
      obtain ⟨hmem, hsh, hlt, htemp⟩ := hpc
      have hdisk : s.temp.getD s.disk = recOf q sg := by rw [htemp]; rfl
      rw [hdisk]
      exact ⟨hd.land (recOf q sg) (hmem ▸ hrm) hlt, hrm, hmem, hsh, rfl⟩
    case unlink2 q sg =>
      obtain ⟨hmem, hsh, hdm⟩ := hpc
      have hmsg : sg.msg = q.p.bytes := hrm.msg q.p sg (by rw [hmem]; rfl) (by rw [hmem]; rfl)
      exact ⟨hd, hrm, fun _ => ⟨hmem.trans hdm.symm, hsh.trans hdm.symm⟩, hmsg.symm, hdm ▸ HRS.le_refl _,
        fun _ => hdm ▸ ⟨rfl, rfl⟩⟩
    case release q o =>
      obtain ⟨hms, ho⟩ := hpc
      exact ⟨hd.cons q o fun _ _ _ h => by subst h; exact ho, hrm, hms⟩
    -- `openTemp`, `closeTemp`, `unlink1` only move the program counter
    all_goals exact ⟨hd, hrm, hpc⟩

theorem inv_run (s : St) (evs : List Ev) (hi : Inv s) (hat : Admissible s evs) : Inv (run s evs) := by
  induction evs generalizing s with
  | nil => exact hi
  | cons e rest ih => exact ih (step s e) (inv_step s e hi hat.1) hat.2

theorem inv_reachable (evs : List Ev) (hat : Admissible St.init evs) : Inv (run St.init evs) := inv_run _ _ inv_init hat

theorem histOK_split {l1 l2 : List (Req × Outcome)} {e2 : Req × Outcome} (h : HistOK (l1 ++ e2 :: l2)) : HistOK (e2 :: l2) := by
  induction l1 with
  | nil => exact h
  | cons a l ih => exact ih h.2

theorem Inv.released_pair {s : St} (hi : Inv s) {l1 l2 : List (Req × Outcome)} {q1 q2 : Req} {g1 g2 : Sig}
    {ts1 ts2 : String} {p1 p2 : Bytes} (hout : s.out = l1 ++ (q2, .released g2 ts2 p2) :: l2)
    (h1 : (q1, Outcome.released g1 ts1 p1) ∈ l2) (hs1 : q1.save = true) :
    HRS.le q1.hrs q2.hrs ∧ (q2.save = true → q1.hrs = q2.hrs → g1 = g2 ∧ p1 = p2) := by
  have hh := hi.d.hist
  rw [hout] at hh
  exact (histOK_split hh).1 g2 ts2 p2 rfl _ h1 g1 ts1 p1 rfl hs1

/-- **one_payload_per_hrs.** In every history, two releases of recording calls at the same (height, round, step)
carry the same signature, i.e. the key has released exactly one payload there. -/
theorem one_payload_per_hrs (evs : List Ev) (hat : Admissible St.init evs) (l1 l2 : List (Req × Outcome)) (q1 q2 : Req) (g1 g2 : Sig) (ts1 ts2 : String) (p1 p2 : Bytes)
    (hout : (run St.init evs).out = l1 ++ (q2, .released g2 ts2 p2) :: l2)
    (h1 : (q1, Outcome.released g1 ts1 p1) ∈ l2) (hs1 : q1.save = true) (hs2 : q2.save = true) (hsame : q1.hrs = q2.hrs) :
    g1 = g2 ∧ g1.msg = g2.msg := by
  have h := (((inv_reachable evs hat).released_pair hout h1 hs1).2 hs2 hsame).1
  exact ⟨h, by rw [h]⟩

/-- **no_regression.** A release (recording or not) never happens at an HRS below an earlier recording release. -/
theorem no_regression (evs : List Ev) (hat : Admissible St.init evs) (l1 l2 : List (Req × Outcome)) (q1 q2 : Req) (g1 g2 : Sig) (ts1 ts2 : String) (p1 p2 : Bytes)
    (hout : (run St.init evs).out = l1 ++ (q2, .released g2 ts2 p2) :: l2)
    (h1 : (q1, Outcome.released g1 ts1 p1) ∈ l2) (hs1 : q1.save = true) :
    HRS.le q1.hrs q2.hrs :=
  ((inv_reachable evs hat).released_pair hout h1 hs1).1

/-- the same as a refusal statement: whatever a later call for a strictly lower HRS hands to its caller, it is
not a signature -/
theorem lower_request_refused (evs : List Ev) (hat : Admissible St.init evs) (l1 l2 : List (Req × Outcome)) (q1 q2 : Req) (o2 : Outcome) (g1 : Sig) (ts1 : String) (p1 : Bytes)
    (hout : (run St.init evs).out = l1 ++ (q2, o2) :: l2)
    (h1 : (q1, Outcome.released g1 ts1 p1) ∈ l2) (hs1 : q1.save = true) (hlow : HRS.lt q2.hrs q1.hrs) :
    (∃ code, o2 = .refused code) ∨ o2 = .panicked := by
  cases o2 with
  | refused code => exact Or.inl ⟨code, rfl⟩
  | panicked => exact Or.inr rfl
  | released g2 ts2 p2 =>
    exact absurd hlow (HRS.not_lt_of_le (no_regression evs hat l1 l2 q1 q2 g1 g2 ts1 ts2 p1 p2 hout h1 hs1))

/-- **replay_returns_original.** A repeated request at an HRS already signed either is refused or returns the
ORIGINAL signature inside a vote whose signed content (sign-bytes, hence timestamp) is the original's. -/
theorem replay_returns_original (evs : List Ev) (hat : Admissible St.init evs) (l1 l2 : List (Req × Outcome)) (q1 q2 : Req) (o2 : Outcome) (g1 : Sig) (ts1 : String) (p1 : Bytes)
    (hout : (run St.init evs).out = l1 ++ (q2, o2) :: l2)
    (h1 : (q1, Outcome.released g1 ts1 p1) ∈ l2) (hs1 : q1.save = true) (hs2 : q2.save = true) (hsame : q1.hrs = q2.hrs) :
    (∃ ts2, o2 = .released g1 ts2 p1) ∨ (∃ code, o2 = .refused code) ∨ o2 = .panicked := by
  cases o2 with
  | refused code => exact Or.inr (Or.inl ⟨code, rfl⟩)
  | panicked => exact Or.inr (Or.inr rfl)
  | released g2 ts2 p2 =>
    have := ((inv_reachable evs hat).released_pair hout h1 hs1).2 hs2 hsame
    exact Or.inl ⟨ts2, by rw [this.1, this.2]⟩

theorem released_signature_signs_returned_vote (evs : List Ev) (hat : Admissible St.init evs) (q : Req) (g : Sig) (ts : String) (post : Bytes)
    (h : (q, Outcome.released g ts post) ∈ (run St.init evs).out) : post = g.msg :=
  ((inv_reachable evs hat).d.covers _ h g ts post rfl).1

theorem step_out (s : St) (e : Ev) :
    (step s e).out = s.out ∨ ∃ q o, s.pc = .release q o ∧ (step s e).out = (q, o) :: s.out ∧ (step s e).disk = s.disk := by
  cases e with
  | tick =>
    simp only [step, tick]
    split
    all_goals try (left; rfl)
    -- left over: `sign` (an `if` on `q.save`) and `release`
    · split <;> (left; rfl)
    · rename_i q o hq
      exact Or.inr ⟨q, o, hq, rfl, rfl⟩
  | crashTorn r =>
    simp only [step]
    split
    · split <;> (left; rfl)
    · left; rfl
  | crash => left; rfl
  | _ => simp only [step]; split <;> (left; rfl)

/-- **persist_before_release.** At the moment an event hands a signature of a recording call to the caller,
the key file already records that HRS with exactly that signature and its sign-bytes (and the event itself does
not touch the file). -/
theorem persist_before_release (evs : List Ev) (hat : Admissible St.init evs) (e : Ev) (q : Req) (g : Sig) (ts : String) (post : Bytes)
    (hnew : (step (run St.init evs) e).out = (q, .released g ts post) :: (run St.init evs).out) (hs : q.save = true) :
    (run St.init evs).disk.hrs = q.hrs ∧ (run St.init evs).disk.sig = some g ∧
      (∃ p, (run St.init evs).disk.sb = some p ∧ p.bytes = g.msg) ∧ (step (run St.init evs) e).disk = (run St.init evs).disk := by
  have hi : Inv (run St.init evs) := inv_reachable evs hat
  generalize run St.init evs = s at *
  rcases step_out s e with h | ⟨q', o, hq, hout, hdisk⟩
  · rw [h] at hnew; exact absurd hnew.symm (List.cons_ne_self _ _)
  · rw [hout] at hnew
    simp only [List.cons.injEq, Prod.mk.injEq, and_true] at hnew
    obtain ⟨rfl, rfl⟩ := hnew
    have hpc := hi.pc
    simp only [PcInv, hq] at hpc
    obtain ⟨_, _, _, hsave⟩ := hpc
    have ⟨h1, h2⟩ := hsave hs
    exact ⟨h1, h2, hi.d.recDisk.bytes_of_sig g h2, hdisk⟩

/-- **failed_save_releases_nothing.** If the write of the temp file reports an error (after any number `n` of
bytes), the call hands a panic to its caller — no signature —, and neither the key file nor the log of persisted
records nor the set of signatures handed out changes; the object is left poisoned (it holds the record the key
file does not). -/
theorem failed_save_releases_nothing (s : St) (n : Nat) (q : Req) (sg : Sig) (hpc : s.pc = .writeTemp q sg) :
    (run s [.writeFails n, .tick]).out = (q, .panicked) :: s.out ∧ (run s [.writeFails n, .tick]).disk = s.disk ∧
    (run s [.writeFails n, .tick]).persisted = s.persisted ∧ (run s [.writeFails n, .tick]).signed = s.signed ∧
    (run s [.writeFails n, .tick]).pc = .idle ∧ (run s [.writeFails n, .tick]).poisoned = true := by
  simp [run, step, tick, hpc]

/-- the same when the temp file cannot even be created (`OpenFile` error) -/
theorem failed_open_releases_nothing (s : St) (n : Nat) (q : Req) (sg : Sig) (hpc : s.pc = .openTemp q sg) :
    (run s [.writeFails n, .tick]).out = (q, .panicked) :: s.out ∧ (run s [.writeFails n, .tick]).disk = s.disk ∧
    (run s [.writeFails n, .tick]).persisted = s.persisted ∧ (run s [.writeFails n, .tick]).poisoned = true := by
  simp [run, step, tick, hpc]

/-- **a stored record whose sign-bytes are not canonical JSON never signs.** At the recorded HRS, a request whose
sign-bytes differ from stored sign-bytes that do not unmarshal (a damaged or hand-edited key file) ends in the panic
of `check*OnlyDifferByTimestamp`: nothing is handed out, nothing is written. -/
theorem unparsable_record_never_signs (m : Rec) (q : Req) (lp : Payload) (ls : Sig) (hsb : m.sb = some lp) (hsg : m.sig = some ls)
    (hsame : m.hrs = q.hrs) (hstep : q.hrs.s ≠ -1) (hbad : lp.ok = false) (hne : q.p.bytes ≠ lp.bytes) :
    decideCall m q = .release q .panicked := by
  rw [decideCall_at hstep hsame, hsb, hsg]
  simp only
  rw [if_neg hne, if_pos hbad]

/-- a write error can only occur where a write is in flight -/
theorem writeFails_elsewhere_noop (s : St) (n : Nat) (h : ∀ q sg, s.pc ≠ .writeTemp q sg) (h' : ∀ q sg, s.pc ≠ .openTemp q sg) :
    step s (.writeFails n) = s := by
  cases hq : s.pc with
  | writeTemp q sg => exact absurd hq (h q sg)
  | openTemp q sg => exact absurd hq (h' q sg)
  | _ => simp [step, hq]

/-- **released_after_persisted.** Every signature a recording call ever handed out is the signature of a record
that had become the content of the key file before (the model half; the source-order half is
`signVote_saves_before_release`, `signProposal_saves_before_release`, `saveSigned_copies_record_before_save`). -/
theorem released_after_persisted (evs : List Ev) (hat : Admissible St.init evs) (q : Req) (g : Sig) (ts : String) (post : Bytes)
    (h : (q, Outcome.released g ts post) ∈ (run St.init evs).out) (hs : q.save = true) :
    ∃ r ∈ (run St.init evs).persisted, r.hrs = q.hrs ∧ r.sig = some g :=
  (inv_reachable evs hat).d.relPers _ h g ts post rfl hs

/-- **persisted_strictly_increasing.** The records that ever became the content of the key file are strictly
increasing in (height, round, step): the key file never held two different records for one HRS, released or not. -/
theorem persisted_strictly_increasing (evs : List Ev) (hat : Admissible St.init evs) :
    (run St.init evs).persisted.Pairwise (fun newer older => HRS.lt older.hrs newer.hrs) :=
  (inv_reachable evs hat).d.persSorted

theorem persisted_head_is_disk (evs : List Ev) (hat : Admissible St.init evs) (r : Rec) (rest : List Rec)
    (h : (run St.init evs).persisted = r :: rest) :
    r = (run St.init evs).disk ∧ ∀ r' ∈ rest, HRS.lt r'.hrs (run St.init evs).disk.hrs := by
  have hd := (inv_reachable evs hat).d
  have hr := hd.persHead r rest h
  have hs := hd.persSorted
  rw [h, List.pairwise_cons] at hs
  exact ⟨hr, fun r' h' => hr ▸ hs.1 r' h'⟩

theorem persisted_unique_per_hrs (evs : List Ev) (hat : Admissible St.init evs) (r1 r2 : Rec)
    (h1 : r1 ∈ (run St.init evs).persisted) (h2 : r2 ∈ (run St.init evs).persisted) (hsame : r1.hrs = r2.hrs) : r1 = r2 :=
  have hs := persisted_strictly_increasing evs hat
  List.Pairwise.forall_of_forall_of_flip (R := fun a b : Rec => a.hrs = b.hrs → a = b) (fun _ _ _ => rfl)
    (hs.imp fun h e => absurd e.symm (HRS.ne_of_lt h)) (hs.imp fun h e => absurd e (HRS.ne_of_lt h)) h1 h2 hsame

/-- **at most one persisted-but-unreleased record can still be released** (with `overwritten_record_never_released`):
a recording release at the HRS of a persisted record carries that record's signature. -/
theorem release_matches_persisted (evs : List Ev) (hat : Admissible St.init evs) (q : Req) (g : Sig) (ts : String) (post : Bytes) (r : Rec)
    (h : (q, Outcome.released g ts post) ∈ (run St.init evs).out) (hs : q.save = true)
    (hr : r ∈ (run St.init evs).persisted) (hsame : r.hrs = q.hrs) : r.sig = some g := by
  obtain ⟨r', hr', h1, h2⟩ := released_after_persisted evs hat q g ts post h hs
  have := persisted_unique_per_hrs evs hat r r' hr hr' (by rw [hsame, h1])
  rw [this]; exact h2

theorem admissible_append (s : St) (a b : List Ev) : Admissible s (a ++ b) ↔ Admissible s a ∧ Admissible (run s a) b := by
  induction a generalizing s with
  | nil => simp [Admissible, run]
  | cons e rest ih =>
    simp only [List.cons_append, Admissible, run, List.foldl_cons]
    rw [ih, and_assoc]; rfl

theorem run_append (s : St) (a b : List Ev) : run s (a ++ b) = run (run s a) b := List.foldl_append

theorem step_disk (s : St) (e : Ev) (hat : e.admissibleAt s) :
    (step s e).disk = s.disk ∨ ∃ q sg, s.pc = .rename q sg ∧ (step s e).disk = s.temp.getD s.disk := by
  cases e with
  | tick =>
    simp only [step, tick]
    split
    all_goals try (left; rfl)
    -- left over: `sign` (an `if` on `q.save`) and `rename`
    · split <;> (left; rfl)
    · rename_i q sg hq
      exact Or.inr ⟨q, sg, hq, rfl⟩
  | crashTorn r =>
    simp only [step]
    split
    · rename_i q sg hq
      split
      · left; rfl
      · rename_i hne
        exact Or.inr ⟨q, sg, hq, hat.resolve_left hne⟩
    · left; rfl
  | crash => left; rfl
  | reset => exact absurd hat id
  | _ => simp only [step]; split <;> (left; rfl)

def Later (s s' : St) : Prop :=
  HRS.le s.disk.hrs s'.disk.hrs ∧ ∃ l, s'.out = l ++ s.out ∧
    ∀ q g ts post, (q, Outcome.released g ts post) ∈ l → q.save = true → HRS.le s.disk.hrs q.hrs

theorem Later.trans {a b c : St} (hab : Later a b) (hbc : Later b c) : Later a c := by
  obtain ⟨h1, l0, hl0, h0⟩ := hab
  obtain ⟨h3, l, hl, h4⟩ := hbc
  refine ⟨HRS.le_trans h1 h3, l ++ l0, by rw [List.append_assoc, ← hl0]; exact hl, fun q g ts post hm hsv => ?_⟩
  rcases List.mem_append.1 hm with hm | hm
  · exact HRS.le_trans h1 (h4 q g ts post hm hsv)
  · exact h0 q g ts post hm hsv

theorem step_mono (s : St) (e : Ev) (hi : Inv s) (hat : e.admissibleAt s) : Later s (step s e) := by
  have hpc := hi.pc
  constructor
  · rcases step_disk s e hat with h | ⟨q, sg, hq, h⟩
    · rw [h]; exact HRS.le_refl _
    · simp only [PcInv, hq] at hpc
      obtain ⟨_, _, hlt, htemp⟩ := hpc
      rw [h, htemp]; exact HRS.le_of_lt hlt
  · rcases step_out s e with h | ⟨q, o, hq, hout, _⟩
    · exact ⟨[], h, fun _ _ _ _ hm => nomatch hm⟩
    · refine ⟨[(q, o)], hout, fun q' g ts post hm _ => ?_⟩
      cases List.mem_singleton.1 hm
      simp only [PcInv, hq] at hpc
      obtain ⟨_, _, hle, _⟩ := hpc
      exact hle

theorem run_mono (s : St) (evs : List Ev) (hi : Inv s) (hat : Admissible s evs) : Later s (run s evs) := by
  induction evs generalizing s with
  | nil => exact ⟨HRS.le_refl _, [], rfl, fun _ _ _ _ hm => nomatch hm⟩
  | cons e rest ih => exact (step_mono s e hi hat.1).trans (ih _ (inv_step s e hi hat.1) hat.2)

/-- **an overwritten record is dead.** Once a persisted record is no longer the content of the key file, no
continuation (requests, crashes at any point, atomic renames) ever hands out a signature of a recording call at
its HRS again. With `persisted_head_is_disk`: at any time the only persisted-but-unreleased record a caller can
still obtain is the one currently in the key file — at most one. -/
theorem overwritten_record_never_released (evs evs' : List Ev) (hat : Admissible St.init (evs ++ evs')) (r : Rec)
    (hr : r ∈ (run St.init evs).persisted) (hne : r ≠ (run St.init evs).disk) :
    ∃ l, (run St.init (evs ++ evs')).out = l ++ (run St.init evs).out ∧
      ∀ q g ts post, (q, Outcome.released g ts post) ∈ l → q.save = true → q.hrs ≠ r.hrs := by
  have ⟨ha, hb⟩ := (admissible_append St.init evs evs').1 hat
  have hi := inv_reachable evs ha
  have ⟨_, l, hl, h⟩ := run_mono (run St.init evs) evs' hi hb
  refine ⟨l, by rw [run_append]; exact hl, ?_⟩
  intro q g ts post hm hsv heq
  have hle := h q g ts post hm hsv
  have ⟨hle', heq'⟩ := hi.d.persCover r hr
  rw [heq] at hle
  exact hne (heq' (HRS.le_antisymm hle' hle))

/-- **same HRS, only the timestamp differs (or nothing differs): the stored signature is handed out, byte for
byte, and no second signature is ever computed.** For a call at exactly the recorded HRS (any state reachable by
any history): the key computes NO signature (`signed` unchanged), the key file and the log of persisted records are
untouched, and if the call hands out a signature it is the one stored in the key file, inside a vote whose
sign-bytes are the stored sign-bytes; the vote keeps its own timestamp only if its sign-bytes were already
identical to the stored ones, otherwise it gets the stored timestamp and the request's core equals the stored core. -/
theorem same_hrs_call_returns_stored (s : St) (q : Req) (hi : Inv s) (hidle : s.pc = .idle) (hnp : s.poisoned = false) (hsame : s.mem.hrs = q.hrs) (hstep : q.hrs.s ≠ -1) :
    ∃ o, (call s q).out = (q, o) :: s.out ∧ (call s q).signed = s.signed ∧ (call s q).disk = s.disk ∧
      (call s q).persisted = s.persisted ∧
      ∀ g ts post, o = .released g ts post → s.disk.sig = some g ∧ ∃ lp, s.disk.sb = some lp ∧ post = lp.bytes ∧
        ((q.p.bytes = lp.bytes ∧ ts = q.p.ts) ∨ (q.p.bytes ≠ lp.bytes ∧ q.p.core = lp.core ∧ ts = lp.ts)) := by
  have hmd : s.mem = s.disk := by have := hi.pc; simp only [PcInv, hidle] at this; exact (this hnp).1
  rcases decideCall_cases s.mem q with ⟨hlt, _⟩ | ⟨o, hd, ho⟩
  · exact absurd (hsame ▸ hlt) (HRS.lt_irrefl _)
  · have hc : call s q = { s with out := (q, o) :: s.out } := by
      simp [call, step, hidle, finish, tick, hd]
    rw [hc]
    exact ⟨o, rfl, rfl, rfl, rfl, fun g ts post h => hmd ▸ (ho g ts post h).2⟩

/-- **C04 for the recording calls (SignVote, SignProposal)**: over all admissible histories — requests, crashes at
any point (incl. inside an atomic rename), write errors of the temp file after any number of bytes
(`Ev.writeFails`), restarts —, after a recording release at HRS `x`: (a) nothing is signed at a lower HRS, (b) at `x`
itself only the original signature over the original content is ever handed out again, (c) whenever a recording call
hands out a signature the key file already records it, and (d) the key file never holds two records for one HRS. -/
def C04_statement : Prop :=
  (∀ (evs : List Ev), Admissible St.init evs → ∀ (l1 l2 : List (Req × Outcome)) (q1 q2 : Req) (o2 : Outcome) (g1 : Sig) (ts1 : String) (p1 : Bytes),
    (run St.init evs).out = l1 ++ (q2, o2) :: l2 → (q1, Outcome.released g1 ts1 p1) ∈ l2 → q1.save = true →
      (HRS.lt q2.hrs q1.hrs → ∀ g2 ts2 p2, o2 ≠ .released g2 ts2 p2) ∧
      (q2.save = true → q1.hrs = q2.hrs → ∀ g2 ts2 p2, o2 = .released g2 ts2 p2 → g2 = g1 ∧ p2 = p1))
  ∧ (∀ (evs : List Ev), Admissible St.init evs → ∀ (e : Ev) (q : Req) (g : Sig) (ts : String) (post : Bytes),
      (step (run St.init evs) e).out = (q, .released g ts post) :: (run St.init evs).out → q.save = true →
      (run St.init evs).disk.hrs = q.hrs ∧ (run St.init evs).disk.sig = some g)
  ∧ (∀ (evs : List Ev), Admissible St.init evs →
      (run St.init evs).persisted.Pairwise (fun newer older => HRS.lt older.hrs newer.hrs))

theorem C04_holds : C04_statement := by
  refine ⟨?_, ?_, persisted_strictly_increasing⟩
  · intro evs hat l1 l2 q1 q2 o2 g1 ts1 p1 hout h1 hs1
    refine ⟨fun hlow g2 ts2 p2 ho => ?_, fun hs2 hsame g2 ts2 p2 ho => ?_⟩
    · subst ho
      exact HRS.not_lt_of_le ((inv_reachable evs hat).released_pair hout h1 hs1).1 hlow
    · subst ho
      have := ((inv_reachable evs hat).released_pair hout h1 hs1).2 hs2 hsame
      exact ⟨this.1.symm, this.2.symm⟩
  · intro evs hat e q g ts post hnew hs
    have := persist_before_release evs hat e q g ts post hnew hs
    exact ⟨this.1, this.2.1⟩

/-- the same demand on EVERY method of the signing interface, i.e. including `SignVoteWithoutSave`
(`save = false`): two releases at the same HRS carry the same signature -/
def C04_statement_full_interface : Prop :=
  ∀ (evs : List Ev), Admissible St.init evs → ∀ (l1 l2 : List (Req × Outcome)) (q1 q2 : Req) (g1 g2 : Sig) (ts1 ts2 : String) (p1 p2 : Bytes),
    (run St.init evs).out = l1 ++ (q2, .released g2 ts2 p2) :: l2 → (q1, Outcome.released g1 ts1 p1) ∈ l2 →
    q1.hrs = q2.hrs → g1 = g2

/-- the recording-call statement WITHOUT the rename-atomicity hypothesis -/
def C04_statement_without_atomic_rename : Prop :=
  ∀ (evs : List Ev) (l1 l2 : List (Req × Outcome)) (q1 q2 : Req) (g1 g2 : Sig) (ts1 ts2 : String) (p1 p2 : Bytes),
    (run St.init evs).out = l1 ++ (q2, .released g2 ts2 p2) :: l2 → (q1, Outcome.released g1 ts1 p1) ∈ l2 →
    q1.save = true → q2.save = true → q1.hrs = q2.hrs → g1 = g2

def exA (save : Bool) : Req := { hrs := ⟨5, 0, 2⟩, p := { bytes := [1], core := [10], ts := "t1" }, save := save }
def exB (save : Bool) : Req := { hrs := ⟨5, 0, 2⟩, p := { bytes := [2], core := [20], ts := "t1" }, save := save }
def exC : Req := { hrs := ⟨6, 0, 2⟩, p := { bytes := [3], core := [30], ts := "t1" }, save := true }
def ticks (n : Nat) : List Ev := List.replicate n Ev.tick

instance (s : St) (e : Ev) : Decidable (e.admissibleAt s) := by
  cases e <;> simp only [Ev.admissibleAt] <;> exact inferInstance

instance decAdmissible : (s : St) → (evs : List Ev) → Decidable (Admissible s evs)
  | _, [] => isTrue trivial
  | s, e :: rest =>
    have := decAdmissible (step s e) rest
    by simp only [Admissible]; exact inferInstance

/-- **false of the current code**: `SignVoteWithoutSave` signs block A and then block B at the same HRS -/
theorem C04_full_interface_counterexample : ¬ C04_statement_full_interface := by
  intro h
  have := h ([.req (exA false)] ++ ticks 3 ++ [.req (exB false)] ++ ticks 3) (by decide) [] [(exA false, .released ⟨[1]⟩ "t1" [1])]
    (exA false) (exB false) ⟨[1]⟩ ⟨[2]⟩ "t1" "t1" [1] [2] (by decide) (by simp) rfl
  exact absurd this (by decide)

/-- restricted to the recording calls the statement holds (`one_payload_per_hrs`), and unrecorded calls in between
do not disturb it; `Props.C04.signVoteWithoutSave_has_no_caller` keeps the
restriction honest for the node. -/
theorem C04_full_interface_partial (evs : List Ev) (hat : Admissible St.init evs) (l1 l2 : List (Req × Outcome)) (q1 q2 : Req) (g1 g2 : Sig) (ts1 ts2 : String) (p1 p2 : Bytes)
    (hout : (run St.init evs).out = l1 ++ (q2, .released g2 ts2 p2) :: l2) (h1 : (q1, Outcome.released g1 ts1 p1) ∈ l2)
    (hs1 : q1.save = true) (hs2 : q2.save = true) (hsame : q1.hrs = q2.hrs) : g1 = g2 :=
  (one_payload_per_hrs evs hat l1 l2 q1 q2 g1 g2 ts1 ts2 p1 p2 hout h1 hs1 hs2 hsame).1

/-- **rename atomicity is needed**: A is signed, persisted and released at 5/0/2; a call for 6/0/2 dies inside a
rename that leaves an EMPTY record in the key file; after the restart a different block B is signed at 5/0/2. -/
theorem rename_atomicity_needed : ¬ C04_statement_without_atomic_rename := by
  intro h
  have := h ([.req (exA true)] ++ ticks 11 ++ [.req exC] ++ ticks 7 ++ [.crashTorn Rec.zero, .req (exB true)] ++ ticks 11)
    [] [(exA true, .released ⟨[1]⟩ "t1" [1])] (exA true) (exB true) ⟨[1]⟩ ⟨[2]⟩ "t1" "t1" [1] [2] (by decide) (by simp) rfl rfl rfl
  exact absurd this (by decide)

/-- with the hypothesis it holds (this is `one_payload_per_hrs`) -/
theorem C04_with_atomic_rename (evs : List Ev) (hat : Admissible St.init evs) (l1 l2 : List (Req × Outcome)) (q1 q2 : Req) (g1 g2 : Sig) (ts1 ts2 : String) (p1 p2 : Bytes)
    (hout : (run St.init evs).out = l1 ++ (q2, .released g2 ts2 p2) :: l2) (h1 : (q1, Outcome.released g1 ts1 p1) ∈ l2)
    (hs1 : q1.save = true) (hs2 : q2.save = true) (hsame : q1.hrs = q2.hrs) : g1 = g2 :=
  (one_payload_per_hrs evs hat l1 l2 q1 q2 g1 g2 ts1 ts2 p1 p2 hout h1 hs1 hs2 hsame).1

/-- the recording-call statement for callers that RECOVER from the panic of a failed save and go on using the same
object (atomic renames still assumed) -/
def C04_statement_with_retry_after_save_panic : Prop :=
  ∀ (evs : List Ev), AtomicRun St.init evs → ∀ (l1 l2 : List (Req × Outcome)) (q1 q2 : Req) (g1 g2 : Sig) (ts1 ts2 : String) (p1 p2 : Bytes),
    (run St.init evs).out = l1 ++ (q2, .released g2 ts2 p2) :: l2 → (q1, Outcome.released g1 ts1 p1) ∈ l2 →
    q1.save = true → q2.save = true → q1.hrs = q2.hrs → g1 = g2

instance (s : St) (e : Ev) : Decidable (e.atomicAt s) := by
  cases e <;> simp only [Ev.atomicAt] <;> exact inferInstance

instance decAtomicRun : (s : St) → (evs : List Ev) → Decidable (AtomicRun s evs)
  | _, [] => isTrue trivial
  | s, e :: rest =>
    have := decAtomicRun (step s e) rest
    by simp only [AtomicRun]; exact inferInstance

/-- **"a panic of a failed save ends the process" is needed**: `saveSigned` assigns the record to the object BEFORE
`save()`, so after the panic of a failed save the object holds a record the key file does not.  A caller that
recovered and asked again would get that signature through the same-HRS branch (nothing is written on that
branch); after a restart the key file knows nothing and a different block is signed at the same HRS.
No in-tree caller does this (the consensus receive routine does not continue after a panic). -/
theorem save_panic_retry_breaks_C04 : ¬ C04_statement_with_retry_after_save_panic := by
  intro h
  have := h ([.req (exA true)] ++ ticks 5 ++ [.writeFails 0, .tick, .req (exA true)] ++ ticks 2 ++ [.crash, .req (exB true)] ++ ticks 11)
    (by decide) [] [(exA true, .released ⟨[1]⟩ "t1" [1]), (exA true, .panicked)] (exA true) (exB true) ⟨[1]⟩ ⟨[2]⟩ "t1" "t1" [1] [2]
    (by decide) (by simp) rfl rfl rfl
  exact absurd this (by decide)

/-- histories in which an operator may run `unsafe_reset_priv_validator` (`FilePV.Reset`) at any idle moment -/
def AdmissibleOrReset : St → List Ev → Prop
  | _, [] => True
  | s, e :: rest => (e = .reset ∨ e.admissibleAt s) ∧ AdmissibleOrReset (step s e) rest

def C04_statement_with_operator_reset : Prop :=
  ∀ (evs : List Ev), AdmissibleOrReset St.init evs → ∀ (l1 l2 : List (Req × Outcome)) (q1 q2 : Req) (g1 g2 : Sig) (ts1 ts2 : String) (p1 p2 : Bytes),
    (run St.init evs).out = l1 ++ (q2, .released g2 ts2 p2) :: l2 → (q1, Outcome.released g1 ts1 p1) ∈ l2 →
    q1.save = true → q2.save = true → q1.hrs = q2.hrs → g1 = g2

instance decAdmissibleOrReset : (s : St) → (evs : List Ev) → Decidable (AdmissibleOrReset s evs)
  | _, [] => isTrue trivial
  | s, e :: rest =>
    have := decAdmissibleOrReset (step s e) rest
    by simp only [AdmissibleOrReset]; exact inferInstance

/-- **`Reset` erases the protection** (it is what the CLI command `unsafe_reset_priv_validator` calls; no other caller):
A signed at 5/0/2, reset, B signed at 5/0/2.  `Ev.reset` is therefore never admissible. -/
theorem operator_reset_breaks_C04 : ¬ C04_statement_with_operator_reset := by
  intro h
  have := h ([.req (exA true)] ++ ticks 11 ++ [.reset, .req (exB true)] ++ ticks 11) (by decide)
    [] [(exA true, .released ⟨[1]⟩ "t1" [1])] (exA true) (exB true) ⟨[1]⟩ ⟨[2]⟩ "t1" "t1" [1] [2] (by decide) (by simp) rfl rfl rfl
  exact absurd this (by decide)

/-- crash between `sign` and `rename` (the process dies at the entry of rename): nothing was released and
nothing is recorded, so a different block at the same HRS is signed afterwards -/
example : (run St.init ([.req (exA true)] ++ ticks 7 ++ [.crash, .req (exB true)] ++ ticks 11)).out
    = [(exB true, .released ⟨[2]⟩ "t1" [2])] := by decide

/-- crash right after `rename` (before the signature is handed out): the record is on disk, so the different
block is refused ("Conflicting data"), and the original request gets the persisted signature -/
example : (run St.init ([.req (exA true)] ++ ticks 8 ++ [.crash, .req (exB true)] ++ ticks 2 ++ [.req (exA true)] ++ ticks 2)).out
    = [(exA true, .released ⟨[1]⟩ "t1" [1]), (exB true, .refused conflictCode)] := by decide

/-- a crash INSIDE an atomic rename that left the new content behaves like the second case, one that left the old
content like the first; both runs satisfy `Admissible` -/
example : Admissible St.init ([.req (exA true)] ++ ticks 7 ++ [.crashTorn (recOf (exA true) ⟨[1]⟩), .req (exB true)] ++ ticks 2) ∧
    (run St.init ([.req (exA true)] ++ ticks 7 ++ [.crashTorn (recOf (exA true) ⟨[1]⟩), .req (exB true)] ++ ticks 2)).out
      = [(exB true, .refused conflictCode)] := by decide

example : Admissible St.init ([.req (exA true)] ++ ticks 7 ++ [.crashTorn Rec.zero, .req (exB true)] ++ ticks 11) ∧
    (run St.init ([.req (exA true)] ++ ticks 7 ++ [.crashTorn Rec.zero, .req (exB true)] ++ ticks 11)).out
      = [(exB true, .released ⟨[2]⟩ "t1" [2])] := by decide

/-- the hypotheses of the main theorems are satisfiable: a history with two releases at one HRS (replay with a
different timestamp returns the original content, the key computed ONE signature) and a refused lower request -/
example : let s := run St.init ([.req (exA true)] ++ ticks 11 ++
      [.req { exA true with p := { bytes := [3], core := [10], ts := "t2" } }] ++ ticks 2 ++
      [.req { exA true with hrs := ⟨4, 9, 3⟩ }] ++ ticks 2)
    s.out = [({ exA true with hrs := ⟨4, 9, 3⟩ }, .refused 1),
       ({ exA true with p := { bytes := [3], core := [10], ts := "t2" } }, .released ⟨[1]⟩ "t1" [1]),
       (exA true, .released ⟨[1]⟩ "t1" [1])] ∧ s.signed = [(⟨5, 0, 2⟩, ⟨[1]⟩)] ∧ s.persisted = [recOf (exA true) ⟨[1]⟩] := by decide

/-- a failed save in an admissible history: A is signed and released at 5/0/2; the save of C at 6/0/2 fails after 3
bytes: C's caller gets a panic, the key file still holds A's record, and after the restart the conflicting B at
5/0/2 is refused while C can be signed again -/
example : let evs := [.req (exA true)] ++ ticks 11 ++ [.req exC] ++ ticks 5 ++ [.writeFails 3, .tick, .crash, .req (exB true)] ++ ticks 2 ++ [.req exC] ++ ticks 11
    Admissible St.init evs ∧
    (run St.init evs).out = [(exC, .released ⟨[3]⟩ "t1" [3]), (exB true, .refused conflictCode), (exC, .panicked), (exA true, .released ⟨[1]⟩ "t1" [1])] ∧
    (run St.init evs).persisted = [recOf exC ⟨[3]⟩, recOf (exA true) ⟨[1]⟩] := by decide

/-- a damaged record at the recorded HRS: the different request panics, the next round is signed -/
example : let bad : Rec := { hrs := ⟨5, 0, 2⟩, sb := some { bytes := [9], core := [0], ts := "-", ok := false }, sig := some ⟨[9]⟩ }
    let s0 : St := { St.init with disk := bad, mem := bad, shadow := bad }
    (run s0 ([.req (exA true)] ++ ticks 2 ++ [.req exC] ++ ticks 11)).out
      = [(exC, .released ⟨[3]⟩ "t1" [3]), (exA true, .panicked)] := by decide

/-- a well-formed recording request strictly above the record is served with a fresh signature over exactly the
submitted sign-bytes (no crash) -/
theorem fresh_request_served (s : St) (q : Req) (hidle : s.pc = .idle) (hlt : HRS.lt s.mem.hrs q.hrs) (hstep : q.hrs.s ≠ -1)
    (hsave : q.save = true) :
    (call s q).out = (q, .released ⟨q.p.bytes⟩ q.p.ts q.p.bytes) :: s.out ∧ (call s q).disk = recOf q ⟨q.p.bytes⟩ := by
  simp [call, step, hidle, finish, tick, decideCall_fresh hstep hlt, hsave, recOf]

/-- the driver's composite steps `finish` and `finishKill` are event lists without torn renames: what the correspondence
run exercises through them is an instance of the histories the theorems quantify over (its two steps with a failing
save, `finishFail` and `finishFailOpen`, insert one `Ev.writeFails`; nothing is stated about them) -/
theorem admissible_ticks (s : St) (k : Nat) : Admissible s (ticks k) := by
  induction k generalizing s with
  | zero => trivial
  | succ k ih => exact ⟨trivial, ih _⟩

theorem finish_is_run (n : Nat) (s : St) : ∃ k, finish n s = run s (ticks k) := by
  induction n generalizing s with
  | zero => exact ⟨0, rfl⟩
  | succ n ih =>
    unfold finish
    split
    · exact ⟨0, rfl⟩
    · obtain ⟨k, hk⟩ := ih (tick s)
      exact ⟨k + 1, by rw [hk]; rfl⟩

theorem finishKill_is_run (name : String) (n fuel seen : Nat) (s : St) :
    ∃ evs, (finishKill name n fuel seen s).1 = run s evs ∧ Admissible s evs := by
  induction fuel generalizing s seen with
  | zero => exact ⟨[], rfl, trivial⟩
  | succ fuel ih =>
    unfold finishKill
    split
    · exact ⟨[], rfl, trivial⟩
    · split
      · split
        · exact ⟨[.crash], rfl, trivial, trivial⟩
        · obtain ⟨evs, h, ha⟩ := ih (seen + 1) (tick s)
          exact ⟨.tick :: evs, by rw [h]; rfl, trivial, ha⟩
      · obtain ⟨evs, h, ha⟩ := ih seen (tick s)
        exact ⟨.tick :: evs, by rw [h]; rfl, trivial, ha⟩

end Props.C04
