/-
C19: composed refinements.
  * `prefixdb_over_memdb_refines` : PrefixDB over the MemDB model = the restricted, stripped reference, for every op sequence
    (lookups, writes, forward/reverse iteration, batches).
  * `prefix_batch_atomic_ordered` : a batch built through a view applies exactly its ops, in order, under the prefix, nothing else.
  * `engines_agree` : the four engine models on ANY op sequence, with the exact empty-key behaviour of bolt and badger
    (no hypothesis on the keys, unlike `backends_agree`).
Precondition made explicit (contract of `types.go`: "No writes may happen within a domain while an iterator exists over it"):
every `Op.iter`/`Op.riter` is an iterator that is created, drained and closed with no write in between.  `NoWriteInDomain` below
states that for step-wise traces and `memdb_stepwise_iter` shows the step-wise MemDB iterator then delivers exactly the drained
answer; what each engine does when the precondition is violated is recorded there too.
-/
import LinkVerif.Model.KV
import LinkVerif.Props.C19

namespace Props.C19
open Model.KV

theorem sorted_eq_of_get {a b : Ref} (ha : Sorted a) (hb : Sorted b) (h : ∀ k, Ref.get a k = Ref.get b k) : a = b :=
  sorted_ext ha hb fun ⟨k, v⟩ => by rw [Ref.mem_iff_get ha, Ref.mem_iff_get hb, h]

theorem restrict_sorted (p : Bytes) {m : Ref} (hs : Sorted m) : Sorted (restrict p m) := by
  refine List.pairwise_map.mpr ((List.Pairwise.filter _ hs).imp_of_mem fun {a b} ha hb hab => ?_)
  obtain ⟨ta, hta⟩ := (hasPrefix_iff p a.1).mp (List.mem_filter.mp ha).2
  obtain ⟨tb, htb⟩ := (hasPrefix_iff p b.1).mp (List.mem_filter.mp hb).2
  rw [hta, htb, blt_append_left] at hab
  simp only [strip, hta, htb, List.drop_left]
  exact hab

theorem writeBatch_pfx {σ : Type} (I : DBI σ) (p : Bytes) (db : σ) (ops : List BOp) :
    writeBatch (pfxI I p) db ops = writeBatch I db (prefixBatch p ops) := by
  unfold writeBatch prefixBatch
  rw [List.foldl_map]
  congr 1
  funext d o
  cases o <;> rfl

theorem batchEffect_prefixBatch (p : Bytes) (ops : List BOp) (k : Bytes) (old : Option Bytes) :
    batchEffect (prefixBatch p ops) (p ++ k) old = batchEffect ops k old := by
  unfold batchEffect prefixBatch
  rw [List.foldl_map]
  congr 1
  funext cur op
  cases op <;> simp only [prefixOp, List.append_cancel_left_eq]

/-- both sides are sorted and every lookup ends with the last op of the batch on that key; `Set`/`Delete` through the view are
the one-op batches -/
theorem restrict_writeBatch (p : Bytes) {m : Ref} (hs : Sorted m) (ops : List BOp) :
    restrict p (writeBatch refI m (prefixBatch p ops)) = writeBatch refI (restrict p m) ops := by
  refine sorted_eq_of_get (restrict_sorted p (writeBatch_sorted hs _)) (writeBatch_sorted (restrict_sorted p hs) _) fun k => ?_
  rw [← get_append_restrict, Ref.get_writeBatch, Ref.get_writeBatch, batchEffect_prefixBatch, get_append_restrict]

/-- A VIEW OF A REFINEMENT IS A REFINEMENT: the prefix view touches its store only through the store's own operations -/
theorem Refines.pfx {σ τ : Type} {I : DBI σ} {J : DBI τ} {R : σ → τ → Prop} (h : Refines I J R) (p : Bytes) :
    Refines (pfxI I p) (pfxI J p) R where
  set k v hab := h.set (p ++ k) v hab
  del k hab := h.del (p ++ k) hab
  get k hab := h.get (p ++ k) hab
  iter s e hab := by
    show prefixTake p (I.iter _ _ _) = prefixTake p (J.iter _ _ _)
    rw [h.iter _ _ hab]
  riter s e hab := by
    have hr : ∀ s e, I.riter _ s e = J.riter _ s e := fun s e => h.riter s e hab
    show (pfxRIter I _ p s e).getD [] = (pfxRIter J _ p s e).getD []
    simp only [pfxRIter, hr]

theorem Refines.trans {σ τ υ : Type} {I : DBI σ} {J : DBI τ} {K : DBI υ} {R : σ → τ → Prop} {S : τ → υ → Prop}
    (h₁ : Refines I J R) (h₂ : Refines J K S) : Refines I K (fun a c => ∃ b, R a b ∧ S b c) where
  set k v := fun ⟨_, hab, hbc⟩ => ⟨_, h₁.set k v hab, h₂.set k v hbc⟩
  del k := fun ⟨_, hab, hbc⟩ => ⟨_, h₁.del k hab, h₂.del k hbc⟩
  get k := fun ⟨_, hab, hbc⟩ => (h₁.get k hab).trans (h₂.get k hbc)
  iter s e := fun ⟨_, hab, hbc⟩ => (h₁.iter s e hab).trans (h₂.iter s e hbc)
  riter s e := fun ⟨_, hab, hbc⟩ => (h₁.riter s e hab).trans (h₂.riter s e hbc)

theorem pfx_refines_restrict (p : Bytes) (hp : p ≠ []) :
    Refines (pfxI refI p) refI (fun m m' => Sorted m ∧ m' = restrict p m) where
  set k v h := ⟨Ref.set_sorted h.1 _ _, h.2 ▸ (restrict_writeBatch p h.1 [.set k v]).symm⟩
  del k h := ⟨Ref.del_sorted h.1 _, h.2 ▸ (restrict_writeBatch p h.1 [.del k]).symm⟩
  get k h := by rw [h.2]; exact get_append_restrict p _ k
  iter s e h := by rw [h.2]; exact prefixdb_iter_refines p _ s e
  riter s e h := by
    rw [h.2]
    show (pfxRIter refI _ p s e).getD [] = _
    rw [prefixdb_riter_refines p _ s e h.1 hp]
    rfl

/-- PREFIXDB OVER MEMDB REFINES: for a non-empty prefix, ANY store content (`Sim db ref`: the MemDB's Go map and its sorted
reference) and EVERY sequence of view operations - Set/Delete, Get/Has, Iterator/ReverseIterator with any bounds, written batches -
the view over the MemDB model answers exactly like the reference map `restrict p ref` (the entries under the prefix, stripped).
PRECONDITION (types.go): each iterator is created, drained and closed with no write in between - `Op.iter`/`Op.riter` are atomic. -/
theorem prefixdb_over_memdb_refines (p : Bytes) (hp : p ≠ []) {db : MemDB} {ref : Ref} (h : Sim db ref) (ops : List Op) :
    runI (pfxI memI p) db ops = runI refI (restrict p ref) ops :=
  ((memdb_refines.pfx p).trans (pfx_refines_restrict p hp)).run ⟨ref, h, h.sorted, rfl⟩ ops

theorem writeBatch_pfx_isolated (p : Bytes) (m : Ref) (ops : List BOp) (k' : Bytes) (h : hasPrefix p k' = false) :
    Ref.get (writeBatch refI m (prefixBatch p ops)) k' = Ref.get m k' := by
  have hne : ∀ k, p ++ k ≠ k' := fun k e => by rw [← e, (hasPrefix_iff p _).mpr ⟨k, rfl⟩] at h; cases h
  rw [Ref.get_writeBatch]
  unfold batchEffect prefixBatch
  rw [List.foldl_map]
  exact List.foldlRecOn ops _ (motive := fun cur => cur = Ref.get m k') rfl fun cur hc op _ => by
    subst hc
    cases op with
    | set k v | del k => exact if_neg (hne k)

/-- PREFIX BATCH, ATOMIC AND ORDERED: writing a batch that was built through a view (`prefixBatch p ops` = the calls `ops` in call
order, each under `p ++ key`) (1) changes the view exactly as the plain batch `ops` changes the view's reference map - every key
ends with the value of the LAST op on it, in the batch's own order - and (2) changes nothing outside the prefix. -/
theorem prefix_batch_atomic_ordered (p : Bytes) {m : Ref} (hs : Sorted m) (ops : List BOp) :
    restrict p (writeBatch refI m (prefixBatch p ops)) = writeBatch refI (restrict p m) ops ∧
    (∀ k, Ref.get (restrict p (writeBatch refI m (prefixBatch p ops))) k = batchEffect ops k (Ref.get (restrict p m) k)) ∧
    (∀ k', hasPrefix p k' = false → Ref.get (writeBatch refI m (prefixBatch p ops)) k' = Ref.get m k') := by
  refine ⟨restrict_writeBatch p hs ops, fun k => ?_, writeBatch_pfx_isolated p m ops⟩
  rw [restrict_writeBatch p hs ops]
  exact Ref.get_writeBatch (restrict p m) ops k

/-- after `Reset` the view's batch is empty and writes nothing -/
theorem prefix_batch_reset (p : Bytes) (m : Ref) : writeBatch refI m (prefixBatch p []) = m := rfl

/-- NO ALIASING: recording one more op appends exactly one op and leaves every earlier recorded op (key included) as it was;
the i-th recorded op is the i-th call under the prefix.  Go-level law behind it: `prefixBatch.Set/Delete` hands the source batch
`append(cp(prefix), key...)`, a slice no later call writes to; the harness observation `batch-keeps-only-last-key` (views built on a
prefix slice WITH spare capacity, several keys per batch, two batches interleaved) is the run-time tie of this law. -/
theorem prefix_batch_no_alias (p : Bytes) (ops : List BOp) (op : BOp) (i : Nat) :
    prefixBatch p (ops ++ [op]) = prefixBatch p ops ++ [prefixOp p op] ∧
    (prefixBatch p ops)[i]? = (ops[i]?).map (prefixOp p) := by
  unfold prefixBatch
  exact ⟨by simp, by simp⟩

theorem prefixOp_injective (p : Bytes) : Function.Injective (prefixOp p) := by
  intro a b h
  cases a <;> cases b <;> simp [prefixOp] at h ⊢ <;> exact h

/-- two batches of one view recorded in ANY interleaving: each holds exactly its own calls, in its own order -/
def recordTwo (p : Bytes) : List (Bool × BOp) → List BOp × List BOp
  | [] => ([], [])
  | (which, op) :: rest =>
    let (b1, b2) := recordTwo p rest
    if which then (prefixOp p op :: b1, b2) else (b1, prefixOp p op :: b2)

theorem prefix_batches_interleaved (p : Bytes) (calls : List (Bool × BOp)) :
    recordTwo p calls = (prefixBatch p ((calls.filter (·.1)).map (·.2)), prefixBatch p ((calls.filter (fun c => !c.1)).map (·.2))) := by
  induction calls with
  | nil => rfl
  | cons c rest ih =>
    obtain ⟨w, op⟩ := c
    simp only [recordTwo, ih]
    cases w <;> simp [prefixBatch]

example : recordTwo [0x70] [(true, .set [1] [1]), (false, .set [0x0a] [0x0a]), (true, .set [2] [2])]
    = ([.set [0x70, 1] [1], .set [0x70, 2] [2]], [.set [0x70, 0x0a] [0x0a]]) := rfl
example : restrict [0x70] (writeBatch refI [([0x6f], [9])] (prefixBatch [0x70] [.set [1] [1], .set [2] [2], .del [1]]))
    = [([2], [2])] := rfl

/-- one op on an engine, with its empty-key rules (`Model.KV.Engine`) -/
def stepE (e : Engine) (I : DBI Ref) (m : Ref) : Op → Ref × Out
  | .set k v => if e.stores k then (I.set m k v, .unit) else (m, .unit)
  | .del k => if e.panicsOnDelete k then (m, .panic) else (I.del m k, .unit)
  | .get k => if e.panicsOnRead k then (m, .panic) else (m, .val (I.get m k))
  | .has k => if e.panicsOnRead k then (m, .panic) else (m, .bool (I.get m k).isSome)
  | .iter s t => (m, .kvs (I.iter m s t))
  | .riter s t => (m, .kvs (I.riter m s t))
  | .write b => (writeBatch I m (e.batchOps b), .unit)

def runE (e : Engine) (I : DBI Ref) : Ref → List Op → List Out
  | _, [] => []
  | m, op :: rest => let (m', o) := stepE e I m op; o :: runE e I m' rest

/-- the op the reference sees instead: a refused write becomes a delete of that (absent) key, a batch loses its refused ops -/
def sanitize (e : Engine) : Op → Op
  | .set k v => if e.stores k then .set k v else .del k
  | .write b => .write (e.batchOps b)
  | op => op

def panics (e : Engine) : Op → Bool
  | .del k => e.panicsOnDelete k
  | .get k => e.panicsOnRead k
  | .has k => e.panicsOnRead k
  | _ => false

def markPanics (e : Engine) : List Op → List Out → List Out
  | op :: ops, o :: outs => (if panics e op then Out.panic else o) :: markPanics e ops outs
  | _, _ => []

theorem del_absent {m : Ref} {k : Bytes} (h : Ref.get m k = none) : Ref.del m k = m := by
  refine List.filter_eq_self.mpr fun kv hkv => ?_
  have hk : kv.1 ≠ k := fun hk => by
    have hm : k ∈ keysOf m := List.mem_map.mpr ⟨kv, hkv, hk⟩
    rw [mem_keys_iff_get, h] at hm
    cases hm
  simp [hk]

theorem special_key {e : Engine} {k : Bytes} (h : e.stores k = false ∨ e.panicsOnDelete k = true) : k = [] := by
  cases k with
  | nil => rfl
  | cons b bs => cases e <;> simp [Engine.stores, Engine.panicsOnDelete] at h

theorem stepE_eq (e : Engine) (I : DBI Ref) (hdel : I.del = Ref.del) {m : Ref} (h0 : NoEmpty m) (op : Op) :
    stepE e I m op = ((stepI I m (sanitize e op)).1, if panics e op then Out.panic else (stepI I m (sanitize e op)).2) := by
  cases op with
  | set k v =>
    cases hk : e.stores k with
    | true => simp [stepE, sanitize, stepI, panics, hk]
    | false =>
      obtain rfl := special_key (Or.inl hk)
      simp [stepE, sanitize, stepI, panics, hk, hdel, del_absent h0]
  | del k =>
    cases hp : e.panicsOnDelete k with
    | true =>
      obtain rfl := special_key (Or.inr hp)
      simp [stepE, sanitize, stepI, panics, hp, hdel, del_absent h0]
    | false => simp [stepE, sanitize, stepI, panics, hp]
  | get k | has k => cases hp : e.panicsOnRead k <;> simp [stepE, sanitize, stepI, panics, hp]
  | _ => simp [stepE, sanitize, stepI, panics]

theorem sanitize_noEmptyKey (e : Engine) (he : e.stores [] = false) (op : Op) : (sanitize e op).noEmptyKey := by
  cases op with
  | set k v =>
    rw [sanitize]
    split
    · next hk => exact fun h => Bool.false_ne_true (he.symm.trans (h ▸ hk))
    · trivial
  | write b =>
    intro op hop
    have := (List.mem_filter.mp hop).2
    cases op with
    | set k v => exact fun hk => Bool.false_ne_true (he.symm.trans (hk ▸ this))
    | del k => trivial
  | _ => trivial

/-- ENGINE RUN: for an engine that refuses the empty key, ANY op sequence answers like the reference on the sanitized sequence,
with the engine's panics marked (a sanitized op writes no empty key, so the store never holds it: `stepI_noEmpty`).  `I` is the engine's `DBI`. -/
theorem engine_run (e : Engine) (I : DBI Ref) (hset : I.set = Ref.set) (hdel : I.del = Ref.del)
    (he : e.stores [] = false) {m : Ref} (h0 : NoEmpty m) (ops : List Op) :
    runE e I m ops = markPanics e ops (runI I m (ops.map (sanitize e))) := by
  induction ops generalizing m with
  | nil => rfl
  | cons op rest ih =>
    rw [List.map_cons, runI_cons, markPanics, ← ih (stepI_noEmpty hset hdel h0 _ (sanitize_noEmptyKey e he op)), runE,
      stepE_eq e I hdel h0 op]

/-- ALL ENGINES, ANY OP SEQUENCE (no hypothesis on keys): memdb and goleveldb answer like the reference; bolt answers like the
reference on the sequence in which every refused (empty-key) write is a no-op; badger likewise, except that `Get`/`Has`/`Delete` of
the empty key panic.  Consequently all four agree on every sequence that does not touch the empty key (`backends_agree`). -/
theorem engines_agree (ops : List Op) :
    runI memI ⟨[]⟩ ops = runI refI [] ops ∧
    runI ldbI [] ops = runI refI [] ops ∧
    runE .bolt refI [] ops = runI refI [] (ops.map (sanitize .bolt)) ∧
    runE .bdg bdgI [] ops = markPanics .bdg ops (runI refI [] (ops.map (sanitize .bdg))) := by
  refine ⟨memdb_refines_ref ops, rfl, ?_, ?_⟩
  · rw [engine_run .bolt refI rfl rfl rfl (show NoEmpty [] from rfl) ops]
    generalize ([] : Ref) = m
    induction ops generalizing m with
    | nil => rfl
    | cons o os ih =>
      have hp : panics .bolt o = false := by cases o <;> rfl
      rw [List.map_cons, runI_cons, markPanics, hp, if_neg Bool.false_ne_true, ih]
  · rw [engine_run .bdg bdgI rfl rfl rfl (show NoEmpty [] from rfl) ops]
    congr 1
    apply bdg_run_eq_ref List.Pairwise.nil rfl
    intro op hop
    obtain ⟨o, _, rfl⟩ := List.mem_map.mp hop
    exact sanitize_noEmptyKey .bdg rfl o

/-! ## iterators and writes between their steps

Contract (`libs/db/types.go`): "No writes may happen within a domain while an iterator exists over it."  In `Op`, an iteration is
one atomic op, i.e. the contract is built into `runI`; `memdb_stepwise_iter` states it as an explicit precondition for the step-wise
iterator of the MemDB model.  What the engines do when the contract is BROKEN (observed on the real adapters, not a guarantee):
  goleveldb, badger : full snapshot taken at creation (keys and values);
  memdb             : keys as of creation, values as of the `Value()` call; a key deleted meanwhile is still delivered, with a nil value
                      (`memdb_stepwise_keys_snapshot`);
  bolt              : no snapshot - every `Next` re-seeks the stored current key in the live bucket: later inserts ahead of the cursor are
                      seen, the current item is the one fetched by the previous `Next` (old value, even if deleted), and deleting the
                      current key makes a forward iterator SKIP the next key.
Within the contract all four deliver the content as of creation; the harness stream `stepwise` (iterators stepped between reads and
writes outside their domains) ties that to the engines. -/

/-- PRECONDITION: during the life of the iterator no map state differs from the creation state on a key the iterator will deliver -/
def NoWriteInDomain (it : MemIt) (db0 : MemDB) (history : List MemDB) : Prop :=
  ∀ now ∈ history, ∀ k ∈ it.keys, now.get k = db0.get k

theorem memit_run_eq (keys : List Bytes) (db0 : MemDB) (history : List MemDB)
    (h : NoWriteInDomain ⟨keys⟩ db0 history) (hlen : keys.length ≤ history.length) :
    MemIt.run ⟨keys⟩ history = db0.drain keys := by
  induction keys generalizing history with
  | nil => cases history <;> simp [MemIt.run, MemIt.step, MemDB.drain]
  | cons k ks ih =>
    cases history with
    | nil => simp at hlen
    | cons now later =>
      simp only [MemIt.run, MemIt.step, h now List.mem_cons_self k List.mem_cons_self,
        ih later (fun n hn x hx => h n (List.mem_cons_of_mem _ hn) x (List.mem_cons_of_mem _ hx)) (Nat.le_of_succ_le_succ hlen)]
      rfl

/-- STEP-WISE = DRAINED, under the contract: a MemDB iterator that is stepped while the map changes only outside its domain
delivers exactly `Iterator(s, e)` resp. `ReverseIterator(s, e)` of the creation state, i.e. (with `Sim`) the reference iteration -/
theorem memdb_stepwise_iter {db0 : MemDB} {ref : Ref} (hsim : Sim db0 ref) (s e : Bound) (rev : Bool) (history : List MemDB)
    (h : NoWriteInDomain (db0.openIt s e rev) db0 history) (hlen : (db0.openIt s e rev).keys.length ≤ history.length) :
    (db0.openIt s e rev).run history = (if rev then Ref.riter ref s e else Ref.iter ref s e) := by
  refine (memit_run_eq (db0.openIt s e rev).keys db0 history h hlen).trans ?_
  cases rev with
  | false => exact memdb_iter_spec hsim s e
  | true => exact memdb_riter_spec hsim s e

/-- outside the contract: the delivered KEYS are still those of the creation state, whatever happened to the map -/
theorem memdb_stepwise_keys_snapshot (keys : List Bytes) (history : List MemDB) (hlen : keys.length ≤ history.length) :
    (MemIt.run ⟨keys⟩ history).map (·.1) = keys := by
  induction keys generalizing history with
  | nil => cases history <;> simp [MemIt.run, MemIt.step]
  | cons k ks ih =>
    cases history with
    | nil => simp at hlen
    | cons now later =>
      simp only [MemIt.run, MemIt.step, List.map_cons]
      rw [ih later (by simpa using hlen)]

/-- ... and a key deleted meanwhile is delivered with the nil (empty) value -/
example : MemIt.run (MemDB.openIt ⟨[([1], [1]), ([5], [5])]⟩ none none false) [⟨[([1], [1]), ([5], [5])]⟩, ⟨[([1], [1])]⟩]
    = [([1], [1]), ([5], [])] := rfl

example : runE .bdg bdgI [] [.set [] [1], .set [1] [1], .get [], .del [], .write [.set [] [2], .set [2] [2]], .iter none none]
    = [.unit, .unit, .panic, .panic, .unit, .kvs [([1], [1]), ([2], [2])]] := rfl
example : runE .bolt refI [] [.set [] [1], .get [], .del [], .write [.set [] [2], .set [2] [2]], .iter none none]
    = [.unit, .val none, .unit, .unit, .kvs [([2], [2])]] := rfl

/-- SEEK (store adapters): after `Seek(k)` a forward iterator delivers exactly the reference iteration of `[k, end)` - every
delivered key is at or above `k` and below the end bound, in ascending order - and the answer says whether there is any -/
theorem seek_forward_spec {m : Ref} (hs : Sorted m) (c : Cursor) (hc : c.rev = false) (k : Bound) :
    (seekStore refI m c k).1.rest = Ref.iter m k c.e ∧
    (seekStore refI m c k).2 = !(Ref.iter m k c.e).isEmpty ∧
    (seekStore refI m c k).1.s = k ∧ (seekStore refI m c k).1.e = c.e ∧
    Sorted (seekStore refI m c k).1.rest ∧ ∀ kv ∈ (seekStore refI m c k).1.rest, inFwd kv.1 k c.e = true := by
  have h : (seekStore refI m c k).1.rest = Ref.iter m k c.e := by simp [seekStore, hc, refI]
  refine ⟨h, by simp [seekStore, hc, refI], rfl, rfl, ?_, ?_⟩
  · rw [h]; exact (Ref.iter_spec hs k c.e).1
  · rw [h]; intro kv hkv; exact (List.mem_filter.mp hkv).2

theorem seek_reverse_spec (m : Ref) (c : Cursor) (hc : c.rev = true) (k : Bound) :
    (seekStore refI m c k).1.rest = Ref.riter m k c.e ∧ (seekStore refI m c k).1.s = k := by
  simp [seekStore, hc, refI]

/-- FULL STATEMENT: `Seek` on an iterator of a PrefixDB view repositions it like `Seek` on the view's reference map -/
def prefix_seek_statement : Prop :=
  ∀ (m : Ref) (p : Bytes) (c : Cursor) (k : Bound), p ≠ [] → c.rev = false →
    (seekView refI m p c k).1.rest = Ref.iter (restrict p m) k c.e

/-- FALSE of the current code (KNOWN FINDING prefix-seek-no-effect): `prefixIterator.Seek` has a value receiver, the caller's iterator
is not moved at all: view {01, 03}, a fresh iterator, Seek(03), and the next item is still 01 -/
theorem prefix_seek_counterexample : ¬ prefix_seek_statement := by
  intro h
  have := h [([0x70, 1], [1]), ([0x70, 3], [3])] [0x70]
    { rest := [([1], [1]), ([3], [3])], s := none, e := none, rev := false } (some [3]) (by decide) rfl
  revert this
  decide

/-- PARTIAL: what it does instead - nothing -/
theorem prefix_seek_partial {σ : Type} (I : DBI σ) (db : σ) (p : Bytes) (c : Cursor) (k : Bound) :
    (seekView I db p c k).1 = c := rfl

theorem seekStore_congr {σ τ : Type} {I : DBI σ} {J : DBI τ} {a : σ} {b : τ} (c : Cursor) (k : Bound)
    (hi : I.iter a k c.e = J.iter b k c.e) (hr : I.riter a k c.e = J.riter b k c.e) : seekStore I a c k = seekStore J b c k := by
  unfold seekStore
  rw [hi, hr]

/-- ALL FOUR ADAPTERS' `Seek` AGREE (86092ca included: badger's Seek with the empty key on a reverse iterator is invalid, like its
constructor): on related stores - `Sim db ref` for memdb, the reference itself for goleveldb and bolt, a sorted reference without the
empty key for badger (it cannot hold one) - `Seek(k)` leaves every adapter's iterator with the same items, the same `Domain()` and
the same answer, for every key incl. nil and the empty key, forward and reverse -/
theorem seek_adapters_agree {db : MemDB} {ref : Ref} (h : Sim db ref) (h0 : NoEmpty ref) (c : Cursor) (k : Bound) :
    seekStore memI db c k = seekStore refI ref c k ∧
    seekStore ldbI ref c k = seekStore refI ref c k ∧
    seekStore bdgI ref c k = seekStore refI ref c k :=
  ⟨seekStore_congr c k (memdb_iter_spec h k c.e) (memdb_riter_spec h k c.e), rfl,
    seekStore_congr c k rfl (bdg_riter_eq_ref h.sorted h0 k c.e)⟩

/-- the empty key on a reverse iterator: nothing at or below it, on every adapter -/
example : (seekStore bdgI [([1], [1]), ([3], [3])] { rest := [([3], [3])], s := none, e := none, rev := true } (some [])).1.rest = []
    ∧ (seekStore refI [([1], [1]), ([3], [3])] { rest := [([3], [3])], s := none, e := none, rev := true } (some [])).1.rest = [] := by decide

/-- FULL STATEMENT: nothing of a batch is visible before `Write`, whatever its size -/
def big_batch_atomic_statement : Prop := ∀ (e : Engine) (n : Nat), bigBatchEarly e n = 0

/-- FALSE of the current code (KNOWN FINDING big-batch-split): 100001 ops on bolt, 40000 on badger -/
theorem big_batch_atomic_counterexample : ¬ big_batch_atomic_statement := by
  intro h
  have := h .bdg 40000
  revert this
  decide

/-- PARTIAL: memBatch and goleveldb at every size; bolt up to 100000 ops; badger below the 40000 small entries observed (`bigBatchEarly`) -/
theorem big_batch_atomic_partial (n : Nat) :
    bigBatchEarly .mem n = 0 ∧ bigBatchEarly .ldb n = 0 ∧ (n ≤ 100000 → bigBatchEarly .bolt n = 0) ∧ (n < 40000 → bigBatchEarly .bdg n = 0) := by
  refine ⟨rfl, rfl, ?_, ?_⟩
  · intro hn; simp [bigBatchEarly]; omega
  · intro hn; simp [bigBatchEarly]; omega

/-- `ValueSize()`: 0 after Reset on every adapter -/
theorem valueSize_reset (e : Engine) (sz : Nat) : e.valueSize sz .reset = 0 := rfl

/-- memBatch counts the bytes of the values (+1 per delete) -/
theorem valueSize_mem (sz n : Nat) : Engine.valueSize .mem sz (.set n) = sz + n ∧ Engine.valueSize .mem sz .del = sz + 1 := ⟨rfl, rfl⟩

/-- FULL STATEMENT (what `libs/trie/database.go` relies on when it flushes at `ValueSize() >= IdealBatchSize`): the counter is at
least the number of value bytes queued -/
def valuesize_counts_bytes_statement : Prop :=
  ∀ (e : Engine) (sz n : Nat), sz + n ≤ e.valueSize sz (.set n)

/-- FALSE - a fact about the adapters, NOT a clause of C19 (a flush-threshold/performance matter, recorded as an observation):
goleveldb never counts (always 0), bolt and badger count ops -/
theorem valuesize_counts_bytes_counterexample : ¬ valuesize_counts_bytes_statement := by
  intro h
  have := h .ldb 0 1
  revert this
  decide

theorem valuesize_counts_bytes_partial (sz n : Nat) : sz + n ≤ Engine.valueSize .mem sz (.set n) := Nat.le_refl _

example : (seekStore refI [([2], [2]), ([4], [4]), ([6], [6])] { rest := [], s := some [3], e := some [7], rev := false } (some [1])).1.rest
    = [([2], [2]), ([4], [4]), ([6], [6])] := rfl

end Props.C19
