/-
C05, second part — what the application derives from the committed state at the end of a block is a function of that state
and of the block: the election of the next candidates, the bookkeeping between elections, the evidence fold, the bloom.
Model: `Model.Election` (differentially tested against the real election on every election of every generated chain: the
`elect` ops of the C05 harness).
-/
import LinkVerif.Model.Election
import LinkVerif.Props.C05

namespace Props.C05Election
open Model.Election

/-- the order the candidates contract lists its candidates in: ascending keys (a `std::set`); for the model, the stable merge
sort by a key -/
def canonical (k : Cand → Nat) (cs : List Cand) : List Cand := cs.mergeSort (fun x y => decide (k x ≤ k y))

theorem canonical_perm (k : Cand → Nat) {cs cs' : List Cand} (hk : ∀ a b, a ∈ cs → b ∈ cs → k a = k b → a = b)
    (h : cs.Perm cs') : canonical k cs = canonical k cs' :=
  Props.C05.mergeSort_eq_of_perm (fun a b c h₁ h₂ => by simp only [decide_eq_true_eq] at *; omega)
    (fun a b => by simp only [Bool.or_eq_true, decide_eq_true_eq]; omega)
    (fun a b ha hb h₁ h₂ => hk a b ha hb (by simp only [decide_eq_true_eq] at h₁ h₂; omega)) h

/-- C05, next candidates: for fixed rates, last-commit hash and float stream, the elected list depends on the SET of candidates
(keys distinct, as the contract's set guarantees), not on the order in which anything enumerated them -/
theorem elect_set_function (a b c : Nat) (hash : Bytes) (floats : List Nat) (k : Cand → Nat) {cs cs' : List Cand}
    (hk : ∀ x y, x ∈ cs → y ∈ cs → k x = k y → x = y) (h : cs.Perm cs') :
    elect a b c hash floats (canonical k cs) = elect a b c hash floats (canonical k cs') := by
  rw [canonical_perm k hk h]

/-- `updateCandidatesbyOrder` outside election heights keeps the relative order of the candidates it keeps in front -/
theorem reorder_front (l : List InOrder) : (reorder l).take ((l.filter (fun v => v.produce > -threshold)).length) = l.filter (fun v => v.produce > -threshold) := by
  unfold reorder; simp

/-- a punished candidate (duplicate vote) leaves the list at the next block -/
theorem reorder_drops_punished (l : List InOrder) (v : InOrder) (hv : v ∈ reorder l) : v.produce ≠ punishThreshold ∨ v.produce > -threshold := by
  unfold reorder at hv
  simp only [List.mem_append, List.mem_filter, List.mem_map, decide_eq_true_eq] at hv
  rcases hv with h | ⟨w, _, rfl⟩
  · exact Or.inr h.2
  · left; simp [punishThreshold]

/-- the evidence of a block is applied in the order the block lists it: a fold, so the evidence of two blocks composes -/
theorem applyEvidence_append (m : Nat) (l : List InOrder) (e₁ e₂ : List Ev) :
    applyEvidence m l (e₁ ++ e₂) = applyEvidence m (applyEvidence m l e₁) e₂ := by
  unfold applyEvidence; rw [List.foldl_append]

theorem upd_addrs (l : List InOrder) (who : Bytes) {f : InOrder → InOrder} (hf : ∀ v, (f v).addr = v.addr) :
    (upd l who f).map (·.addr) = l.map (·.addr) := by
  rw [upd, List.map_map]
  exact List.map_congr_left fun v _ => by simp only [Function.comp, apply_ite InOrder.addr, hf, ite_self]

theorem applyEv_addrs (m : Nat) (l : List InOrder) (e : Ev) : (applyEv m l e).map (·.addr) = l.map (·.addr) := by
  cases e with
  | dup who => exact upd_addrs l who fun _ => rfl
  | fault round p q =>
    show (if round > 0 then upd _ q _ else _).map _ = _
    rw [apply_ite (List.map _), upd_addrs _ q fun v => by simp only [apply_ite InOrder.addr, ite_self],
      upd_addrs l p fun v => by simp only [apply_ite InOrder.addr, ite_self], ite_self]

/-- evidence never changes who is in the list nor the order -/
theorem applyEvidence_addrs (m : Nat) (evs : List Ev) : ∀ l : List InOrder, (applyEvidence m l evs).map (·.addr) = l.map (·.addr) := by
  induction evs with
  | nil => exact fun _ => rfl
  | cons e es ih => exact fun l => (ih (applyEv m l e)).trans (applyEv_addrs m l e)

/-- C05, bloom: `CreateBloom` is an OR over the logs of the receipts, so any enumeration order of the same logs gives the same
bloom (the receipt hash, in contrast, is DEFINED by the order of the receipts = the order of the block's transactions) -/
theorem bloom_perm {l₁ l₂ : List Nat} (h : l₁.Perm l₂) : bloomOf l₁ = bloomOf l₂ :=
  h.foldl_eq' (fun x _ y _ z => by rw [Nat.or_assoc, Nat.or_comm x y, ← Nat.or_assoc]) 0

example : reorder [⟨[1], 0, 5⟩, ⟨[2], -3, 5⟩, ⟨[3], -10, 0⟩, ⟨[4], 1, 5⟩] = [⟨[1], 0, 5⟩, ⟨[4], 1, 5⟩, ⟨[2], 0, 5⟩] := by decide
example : applyEvidence 500 [⟨[1], 2, 5⟩, ⟨[2], -1, 5⟩] [.fault 1 [1] [2]] = [⟨[1], 0, 6⟩, ⟨[2], -2, 4⟩] := by decide
example : applyEvidence 500 [⟨[1], 2, 5⟩] [.dup [1]] = [⟨[1], -10, 0⟩] := by decide
example : bloomOf [1, 4, 2] = bloomOf [2, 1, 4] := bloom_perm (by decide)

end Props.C05Election
