/-
C03: what the canonical-JSON sign-bytes bind.  A well-delimited PARTIAL of `C03_signBytes_binds_statement`:
the chain id (with Go's JSON string escaping: a `"` or `\` in the chain id cannot close the string early), the height, the
round and the vote type are recovered from the sign-bytes, for a fixed block id and time.  (The block-id rendering is taken
up in `C03BlockId` and `C03Parts`; the time rendering stays open.)
-/
import LinkVerif.Model.Vote
import Std.Data.String.ToNat
import Std.Data.String.ToInt

namespace Props.C03
open Model.Vote

/-- A stream of codewords closed by a delimiter is read back uniquely, provided one codeword can be read off the front of
any stream (`step`) and no codeword stream starts with the delimiter (`nod`). -/
theorem code_cancel {α β : Type} (f : α → List β) (P : α → Prop) (d : β)
    (step : ∀ a b, P a → P b → ∀ r r', f a ++ r = f b ++ r' → a = b ∧ r = r')
    (nod : ∀ a, P a → ∀ r r', d :: r ≠ f a ++ r')
    {xs ys : List α} {r r' : List β} (hx : ∀ a ∈ xs, P a) (hy : ∀ a ∈ ys, P a)
    (h : xs.flatMap f ++ d :: r = ys.flatMap f ++ d :: r') : xs = ys ∧ r = r' := by
  induction xs generalizing ys with
  | nil =>
    cases ys with
    | nil => exact ⟨rfl, (List.cons.inj h).2⟩
    | cons y ys =>
      rw [List.flatMap_cons, List.append_assoc] at h
      exact absurd h (nod y (hy y List.mem_cons_self) _ _)
  | cons x xs ih =>
    cases ys with
    | nil =>
      rw [List.flatMap_cons, List.append_assoc] at h
      exact absurd h.symm (nod x (hx x List.mem_cons_self) _ _)
    | cons y ys =>
      rw [List.flatMap_cons, List.flatMap_cons, List.append_assoc, List.append_assoc] at h
      obtain ⟨hx0, hx'⟩ := List.forall_mem_cons.1 hx
      obtain ⟨hy0, hy'⟩ := List.forall_mem_cons.1 hy
      obtain ⟨e, h'⟩ := step x y hx0 hy0 _ _ h
      obtain ⟨e', hr⟩ := ih hx' hy' h'
      exact ⟨by rw [e, e'], hr⟩

theorem delim_cancel {α : Type} (P : α → Prop) {d : α} (hd : ¬ P d) {xs ys r r' : List α}
    (hx : ∀ c ∈ xs, P c) (hy : ∀ c ∈ ys, P c) (h : xs ++ d :: r = ys ++ d :: r') : xs = ys ∧ r = r' := by
  rw [← List.flatMap_singleton' xs, ← List.flatMap_singleton' ys] at h
  exact code_cancel (fun c => [c]) P d (fun _ _ _ _ _ _ e => List.cons.inj e)
    (fun a ha _ _ e => hd ((List.cons.inj e).1 ▸ ha)) hx hy h

theorem isDigit_of_mem_toString (n : Nat) : ∀ c ∈ (toString n).toList, c.isDigit = true := by
  intro c hc
  have e : toString n = String.ofList (Nat.toDigits 10 n) := Nat.repr_eq_ofList_toDigits
  rw [e, String.toList_ofList] at hc
  exact Nat.isDigit_of_mem_toDigits (by decide) (by decide) hc

theorem natField_cancel {n n' : Nat} {d : Char} (hd : d.isDigit = false) {r r' : List Char}
    (h : (toString n).toList ++ d :: r = (toString n').toList ++ d :: r') : n = n' ∧ r = r' := by
  obtain ⟨e, hr⟩ := delim_cancel (fun c => c.isDigit = true) (by simp [hd]) (isDigit_of_mem_toString n) (isDigit_of_mem_toString n') h
  exact ⟨Nat.repr_injective (String.ext e), hr⟩

theorem isDigit_or_minus_of_mem_toString (a : Int) : ∀ c ∈ (toString a).toList, c.isDigit = true ∨ c = '-' := by
  intro c hc
  have e : toString a = if 0 ≤ a then a.toNat.repr else "-" ++ (-a).toNat.repr := Int.repr_eq_if
  rw [e] at hc
  split at hc
  · exact Or.inl (isDigit_of_mem_toString _ c hc)
  · simp only [String.toList_append, List.mem_append] at hc
    rcases hc with hc | hc
    · right; simpa using hc
    · exact Or.inl (isDigit_of_mem_toString _ c hc)

theorem intField_cancel {a a' : Int} {r r' : List Char}
    (h : (toString a).toList ++ '"' :: r = (toString a').toList ++ '"' :: r') : a = a' ∧ r = r' := by
  obtain ⟨e, hr⟩ := delim_cancel (fun c => c.isDigit = true ∨ c = '-') (d := '"') (by decide) (isDigit_or_minus_of_mem_toString a) (isDigit_or_minus_of_mem_toString a') h
  exact ⟨Int.repr_injective (String.ext e), hr⟩

def unhex (c : Char) : Nat :=
  if c.toNat < 58 then c.toNat - 48 else if c.toNat < 71 then c.toNat - 55 else c.toNat - 87

theorem hexLo_spec (k : Nat) (h : k < 16) : unhex (hexLo k) = k ∧ hexLo k ≠ '"' :=
  (by decide : ∀ k : Fin 16, unhex (hexLo k.val) = k.val ∧ hexLo k.val ≠ '"') ⟨k, h⟩

/-- `jsonEscByte` read backwards: the byte whose escape a character stream starts with -/
def unescHead : List Char → Nat
  | [] => 0
  | c :: cs =>
    if c ≠ '\\' then c.toNat
    else match cs with
      | [] => 0
      | e :: rest =>
        if e = '"' then 34 else if e = '\\' then 92 else if e = 'n' then 10 else if e = 'r' then 13 else if e = 't' then 9
        else match rest with
          | _ :: _ :: h :: l :: _ => unhex h * 16 + unhex l
          | _ => 0

/-- the escape of an ASCII byte is a prefix code: whatever follows it, the byte is read back from the front -/
theorem unescHead_esc (b : UInt8) (hb : b.toNat < 128) (r : List Char) : unescHead (jsonEscByte b ++ r) = b.toNat := by
  unfold jsonEscByte
  simp only
  by_cases h1 : b.toNat = 34; · rw [if_pos h1, h1]; rfl
  rw [if_neg h1]
  by_cases h2 : b.toNat = 92; · rw [if_pos h2, h2]; rfl
  rw [if_neg h2]
  by_cases h3 : b.toNat = 10; · rw [if_pos h3, h3]; rfl
  rw [if_neg h3]
  by_cases h4 : b.toNat = 13; · rw [if_pos h4, h4]; rfl
  rw [if_neg h4]
  by_cases h5 : b.toNat = 9; · rw [if_pos h5, h5]; rfl
  rw [if_neg h5]
  by_cases h6 : b.toNat < 32 ∨ b.toNat = 60 ∨ b.toNat = 62 ∨ b.toNat = 38
  · rw [if_pos h6]
    show unhex (hexLo (b.toNat / 16)) * 16 + unhex (hexLo (b.toNat % 16)) = b.toNat
    rw [(hexLo_spec _ (by omega)).1, (hexLo_spec _ (by omega)).1]
    omega
  · -- an unescaped character is not a backslash, and is its own code
    rw [if_neg h6]
    have e : (Char.ofNat b.toNat).toNat = b.toNat := by
      have hv : b.toNat.isValidChar := Or.inl (by omega)
      simp [Char.ofNat, dif_pos hv, Char.ofNatAux, Char.toNat]
    have hne : Char.ofNat b.toNat ≠ '\\' := fun hc => h2 (by rw [hc] at e; exact e.symm)
    show (if Char.ofNat b.toNat ≠ '\\' then (Char.ofNat b.toNat).toNat else _) = b.toNat
    rw [if_pos hne, e]

theorem esc_step (b b' : UInt8) (hb : b.toNat < 128) (hb' : b'.toNat < 128) (r r' : List Char)
    (h : jsonEscByte b ++ r = jsonEscByte b' ++ r') : b = b' ∧ r = r' := by
  have e : b = b' := UInt8.toNat_inj.mp (by rw [← unescHead_esc b hb r, h, unescHead_esc b' hb' r'])
  subst e
  exact ⟨rfl, List.append_cancel_left h⟩

/-- a stream that starts with `"` reads back as byte 34, whose escape starts with a backslash -/
theorem esc_not_quote (b : UInt8) (hb : b.toNat < 128) (r r' : List Char) : '"' :: r ≠ jsonEscByte b ++ r' := by
  intro h
  have e : b.toNat = 34 := by rw [← unescHead_esc b hb r', ← h]; rfl
  unfold jsonEscByte at h
  simp only [if_pos e] at h
  exact absurd (List.cons.inj h).1 (by decide)

/-- THE CHAIN ID CANNOT BLEED INTO THE REST: an escaped ASCII chain id followed by the closing quote is read back uniquely -/
theorem jsonEsc_cancel (c c' : List UInt8) (hc : ∀ b ∈ c, b.toNat < 128) (hc' : ∀ b ∈ c', b.toNat < 128) (r r' : List Char)
    (h : jsonEsc c ++ '"' :: r = jsonEsc c' ++ '"' :: r') : c = c' ∧ r = r' :=
  code_cancel jsonEscByte (·.toNat < 128) '"' esc_step esc_not_quote hc hc' h

def signTail (m : Msg) : List Char :=
  ",\"height\":\"".toList ++ ((toString m.height).toList ++ ('"' :: (",\"round\":\"".toList ++ ((toString m.round).toList ++
    ('"' :: (",\"timestamp\":\"".toList ++ (canonicalTime m.tsMs ++ ("\",\"type\":".toList ++ ((toString m.type).toList ++ ['}'])))))))))

theorem signBytes_flat (m : Msg) : signBytes m =
    "{\"@chain_id\":\"".toList ++ (jsonEsc m.chain ++ ('"' :: (",\"@type\":\"vote\",\"block_id\":".toList ++
      (blockIDJSON m.bid ++ signTail m)))) := by
  unfold signTail
  simp [signBytes, obj, field, q, str, List.intercalate]

theorem signBytes_split {m m' : Msg} (hc : ∀ b ∈ m.chain, b.toNat < 128) (hc' : ∀ b ∈ m'.chain, b.toNat < 128)
    (h : signBytes m = signBytes m') :
    m.chain = m'.chain ∧ blockIDJSON m.bid ++ signTail m = blockIDJSON m'.bid ++ signTail m' := by
  rw [signBytes_flat, signBytes_flat] at h
  obtain ⟨echain, h2⟩ := jsonEsc_cancel m.chain m'.chain hc hc' _ _ (List.append_cancel_left h)
  exact ⟨echain, List.append_cancel_left h2⟩

/-- PARTIAL of `C03_signBytes_binds_statement` (proved): for ASCII chain ids, and votes for the same block id at the same
canonical time, equal sign-bytes force equal chain id, height, round and type, i.e. the whole message is equal.  A signature
cannot be moved to another chain, height, round or vote type by any choice of chain-id string. -/
theorem signBytes_binds_step_fields (m m' : Msg) (hc : ∀ b ∈ m.chain, b.toNat < 128) (hc' : ∀ b ∈ m'.chain, b.toNat < 128)
    (hbid : m.bid = m'.bid) (hts : m.tsMs = m'.tsMs) (h : signBytes m = signBytes m') : m = m' := by
  obtain ⟨echain, h1⟩ := signBytes_split hc hc' h
  rw [hbid] at h1
  have h2 := List.append_cancel_left h1
  unfold signTail at h2
  rw [hts] at h2
  obtain ⟨eh, h3⟩ := natField_cancel (by decide) (List.append_cancel_left h2)
  obtain ⟨er, h4⟩ := intField_cancel (List.append_cancel_left h3)
  have h5 := List.append_cancel_left (List.append_cancel_left (List.append_cancel_left h4))
  obtain ⟨et, _⟩ := natField_cancel (r := []) (r' := []) (by decide) h5
  cases m; cases m'
  simp only at echain eh er et hbid hts
  subst echain eh er et hbid hts
  rfl

/-- non-vacuity: a chain id that contains `"` and `\` is still bound (the two messages below differ only in the chain id,
and the second chain id is the first one's escaped tail) -/
def sbA : Msg := { chain := [34], height := 1, round := 0, type := 2, bid := BlockID.zero, tsMs := 0 }
def sbB : Msg := { chain := [92, 34], height := 1, round := 0, type := 2, bid := BlockID.zero, tsMs := 0 }

example : signBytes sbA ≠ signBytes sbB := by
  intro h
  have := signBytes_binds_step_fields sbA sbB (by decide) (by decide) rfl rfl h
  simp [sbA, sbB] at this

end Props.C03
