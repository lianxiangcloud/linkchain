/-
C10, iterator family and regenerated facts: what the seek / difference / union iterators deliver, at content level, and the
constants of the code the model and the harness rely on.
-/
import LinkVerif.Model.TrieIter
import LinkVerif.Gen.TrieFacts
import LinkVerif.Props.C10Iter

namespace Props.C10
open Model.Trie

/-- `NodeIterator(start)` delivers exactly the stored pairs whose path is not below the start key -/
theorem iterFrom_mem (n : Node) (start : Bytes) (kv : List Nib × Bytes) :
    kv ∈ iterFrom n start ↔ kv ∈ toMap n ∧ nibLt kv.1 (seekKey start) = false := by
  simp [iterFrom, List.mem_filter]

/-- … in path order, each once -/
theorem iterFrom_sorted (n : Node) (start : Bytes) : (iterFrom n start).Pairwise (fun a b => pathLt a.1 b.1) :=
  List.Pairwise.filter _ (toMap_sorted n)

theorem nibLt_nil_right : ∀ (a : List Nib), nibLt a [] = false
  | [] => rfl
  | _ :: _ => rfl

theorem iterFrom_empty_start (n : Node) : iterFrom n [] = toMap n := by
  have : seekKey [] = [] := by decide
  simp [iterFrom, this, nibLt_nil_right]

/-- nothing that is delivered lies before the start, nothing at or after it is skipped (HEX-key form) -/
theorem iterFrom_complete (n : Node) (hn : Pos false n) (start : Bytes) (key : List Nib) (x : Bytes) (hk : KeyAt false key) :
    (key, x) ∈ iterFrom n start ↔ Model.Trie.get n key = some x ∧ nibLt key (seekKey start) = false := by
  rw [iterFrom_mem, toMap_mem_iff n false hn key x hk]

theorem diffLeaves_mem (a b : Node) (kv : List Nib × Bytes) :
    kv ∈ diffLeaves a b ↔ kv ∈ toMap b ∧ Model.Trie.get a kv.1 ≠ some kv.2 := by
  simp [diffLeaves, List.mem_filter]

/-- the difference iterator delivers exactly the pairs of `b` that `a` does not hold -/
theorem diffLeaves_complete (a b : Node) (hb : Pos false b) (key : List Nib) (x : Bytes) (hk : KeyAt false key) :
    (key, x) ∈ diffLeaves a b ↔ Model.Trie.get b key = some x ∧ Model.Trie.get a key ≠ some x := by
  rw [diffLeaves_mem, toMap_mem_iff b false hb key x hk]

theorem diffLeaves_self (n : Node) (hn : Pos false n) : diffLeaves n n = [] := by
  apply List.eq_nil_iff_forall_not_mem.mpr
  intro kv hkv
  rw [diffLeaves_mem] at hkv
  have hk := toMap_keys n false hn kv hkv.1
  exact hkv.2 ((toMap_mem_iff n false hn kv.1 kv.2 hk).mp hkv.1)

theorem diffLeaves_sorted (a b : Node) : (diffLeaves a b).Pairwise (fun x y => pathLt x.1 y.1) :=
  List.Pairwise.filter _ (toMap_sorted b)

/-- a lexicographic order `L` on lists over an element order `lt`: two lists neither of which is below the other are equal,
if that holds of the elements (`bytes.Compare` on paths and on blobs) -/
theorem lex_tri {α : Type} [DecidableEq α] {lt : α → α → Bool} {L : List α → List α → Bool}
    (htri : ∀ x y, lt x y = false → lt y x = false → x = y) (hnil : ∀ y b, L [] (y :: b) = true)
    (hcons : ∀ x a y b, L (x :: a) (y :: b) = (lt x y || (x == y && L a b))) :
    ∀ a b, L a b = false → L b a = false → a = b := by
  intro a
  induction a with
  | nil =>
    intro b hab _
    cases b with
    | nil => rfl
    | cons y b => exact nomatch (hnil y b).symm.trans hab
  | cons x a ih =>
    intro b hab hba
    cases b with
    | nil => exact nomatch (hnil x a).symm.trans hba
    | cons y b =>
      rw [hcons, Bool.or_eq_false_iff] at hab hba
      obtain rfl := htri x y hab.1 hba.1
      rw [beq_self_eq_true, Bool.true_and] at hab hba
      rw [ih b hab.2 hba.2]

theorem nibLt_tri : ∀ (a b : List Nib), nibLt a b = false → nibLt b a = false → a = b :=
  lex_tri (lt := fun x y => decide (x.val < y.val))
    (fun _ _ h1 h2 => Fin.ext (Nat.le_antisymm (Nat.not_lt.mp (of_decide_eq_false h2)) (Nat.not_lt.mp (of_decide_eq_false h1))))
    (fun _ _ => rfl) (fun _ _ _ _ => rfl)

theorem bytesLtB_tri : ∀ (a b : Bytes), bytesLtB a b = false → bytesLtB b a = false → a = b :=
  lex_tri (lt := fun x y => decide (x < y))
    (fun _ _ h1 h2 => UInt8.le_antisymm (UInt8.not_lt.mp (of_decide_eq_false h2)) (UInt8.not_lt.mp (of_decide_eq_false h1)))
    (fun _ _ => rfl) (fun _ _ _ _ => rfl)

theorem kvLt_tri (x y : List Nib × Bytes) (h1 : kvLt x y = false) (h2 : kvLt y x = false) : x = y := by
  simp only [kvLt, Bool.or_eq_false_iff, Bool.and_eq_false_iff, beq_eq_false_iff_ne] at h1 h2
  have hk : x.1 = y.1 := nibLt_tri _ _ h1.1 h2.1
  exact Prod.ext hk (bytesLtB_tri _ _ (h1.2.resolve_left fun h => h hk) (h2.2.resolve_left fun h => h hk.symm))

theorem mem_mergeKV : ∀ (f : Nat) (xs ys : List (List Nib × Bytes)) (z : List Nib × Bytes),
    xs.length + ys.length ≤ f → (z ∈ mergeKV f xs ys ↔ z ∈ xs ∨ z ∈ ys) := by
  intro f
  induction f with
  | zero => exact fun _ _ _ _ => List.mem_append
  | succ f ih =>
    intro xs ys z h
    cases xs with
    | nil => exact ⟨Or.inr, fun h => h.elim nofun id⟩
    | cons x xs =>
      cases ys with
      | nil => exact ⟨Or.inl, fun h => h.elim id nofun⟩
      | cons y ys =>
        have hl : xs.length + ys.length + 1 ≤ f := by
          rw [List.length_cons, List.length_cons] at h; omega
        simp only [mergeKV]
        by_cases h1 : kvLt x y = true
        · rw [if_pos h1, List.mem_cons, ih xs (y :: ys) z (by rw [List.length_cons]; omega)]
          simp only [List.mem_cons]
          exact or_assoc.symm
        · by_cases h2 : kvLt y x = true
          · rw [if_neg h1, if_pos h2, List.mem_cons, ih (x :: xs) ys z (by rw [List.length_cons]; omega)]
            simp only [List.mem_cons]
            exact or_left_comm
          · -- neither is smaller: the same pair, delivered once
            obtain rfl : x = y := kvLt_tri x y (Bool.not_eq_true _ ▸ h1) (Bool.not_eq_true _ ▸ h2)
            rw [if_neg h1, if_neg h2, List.mem_cons, ih xs ys z (by omega)]
            simp only [List.mem_cons]
            exact or_or_distrib_left

/-- the union iterator delivers exactly the pairs of either trie (a pair held by both once: see the merge) -/
theorem unionLeaves_mem (a b : Node) (kv : List Nib × Bytes) :
    kv ∈ unionLeaves a b ↔ kv ∈ toMap a ∨ kv ∈ toMap b :=
  mem_mergeKV _ _ _ kv (Nat.le_refl _)

theorem unionLeaves_complete (a b : Node) (ha : Pos false a) (hb : Pos false b) (key : List Nib) (x : Bytes)
    (hk : KeyAt false key) :
    (key, x) ∈ unionLeaves a b ↔ Model.Trie.get a key = some x ∨ Model.Trie.get b key = some x := by
  rw [unionLeaves_mem, toMap_mem_iff a false ha key x hk, toMap_mem_iff b false hb key x hk]

/-- non-vacuity: two one-leaf tries -/
example : unionLeaves (.short (keybytesToHex [1]) (.value [7])) (.short (keybytesToHex [2]) (.value [9])) =
    [(keybytesToHex [1], [7]), (keybytesToHex [2], [9])] ∧
    diffLeaves (.short (keybytesToHex [1]) (.value [7])) (.short (keybytesToHex [1]) (.value [8])) = [(keybytesToHex [1], [8])] ∧
    iterFrom (.short (keybytesToHex [1]) (.value [7])) [2] = [] := by decide

/-! regenerated facts (extract/jobs_c10.go -> Gen.TrieFacts) -/

/-- the model's embedding rule uses the threshold the code has now -/
theorem embed_threshold_matches (H : Bytes → Bytes) (e : Bytes) :
    embed H e = if e.length < Gen.TrieFacts.embedThreshold then e else rlpStr (H e) := rfl

/-- a hash reference is a 32-byte string in the decoder (`H32` of the proof theorems is about this constant) -/
theorem hash_ref_length_matches : Gen.TrieFacts.hashRefLength = 32 ∧ Gen.TrieFacts.embedThreshold = Gen.TrieFacts.hashRefLength := by
  decide

/-- the flush threshold the large-commit stream of the harness is tuned to (to the byte) -/
theorem ideal_batch_size_matches : Gen.TrieFacts.idealBatchSize = 100 * 1024 := by decide

/-- reach: the difference / union iterators and VerifyProof have no call site outside libs/trie (severity of the findings
recorded for them), the preimage lookup and the node iterator are reached from the state dumps -/
theorem iterator_family_reach :
    Gen.TrieFacts.newDifferenceIteratorCallerFiles = [] ∧ Gen.TrieFacts.newUnionIteratorCallerFiles = [] ∧
    Gen.TrieFacts.verifyProofCallerFiles = [] ∧
    "state/dump.go" ∈ Gen.TrieFacts.getKeyCallerFiles ∧ "state/dump.go" ∈ Gen.TrieFacts.nodeIteratorCallerFiles := by
  decide

end Props.C10
