/-
C10: the `ser` (RLP) framing used by the node encoding decodes back: readKind / Split / CountValues on encoder output.
-/
import LinkVerif.Model.TrieDecode

namespace Props.C10
open Model.Trie

@[simp] theorem dec_ok_bind {α β : Type} (a : α) (f : α → Dec β) : (Dec.ok a >>= f) = f a := rfl
@[simp] theorem dec_err_bind {α β : Type} (f : α → Dec β) : ((Dec.err : Dec α) >>= f) = Dec.err := rfl
@[simp] theorem dec_pure {α : Type} (a : α) : (pure a : Dec α) = Dec.ok a := rfl

def beVal (l : Bytes) : Nat := l.foldl (fun acc x => acc * 256 + x.toNat) 0

theorem beVal_append_single (l : Bytes) (x : UInt8) : beVal (l ++ [x]) = beVal l * 256 + x.toNat := by
  simp [beVal, List.foldl_append]

theorem u8_toNat_ofNat {n : Nat} (h : n < 256) : (UInt8.ofNat n).toNat = n := by
  simp [UInt8.toNat_ofNat']; omega

theorem beBytesAux_length_le : ∀ (f n : Nat), (beBytesAux f n).length ≤ f
  | 0, _ => by simp [beBytesAux]
  | f + 1, n => by
    simp only [beBytesAux]
    split
    · simp
    · have := beBytesAux_length_le f (n / 256); simp; omega

theorem beBytesAux_spec : ∀ (f n : Nat), n < 256 ^ f → 1 ≤ f →
    beVal (beBytesAux f n) = n ∧ 0 < (beBytesAux f n).length ∧ (0 < n → (beBytesAux f n).headD 0 ≠ 0) := by
  intro f
  induction f with
  | zero => exact fun _ _ h => absurd h (by decide)
  | succ f ih =>
    intro n hn _
    rw [beBytesAux]
    by_cases h : n < 256
    · rw [if_pos h]
      refine ⟨by rw [beVal, List.foldl_cons, List.foldl_nil, u8_toNat_ofNat h, Nat.zero_mul, Nat.zero_add],
        Nat.zero_lt_one, fun h0 e => ?_⟩
      have := congrArg UInt8.toNat e
      rw [List.headD_cons, u8_toNat_ofNat h] at this
      exact absurd this (Nat.ne_of_gt h0)
    · rw [if_neg h]
      have hf : 1 ≤ f := by
        cases f with
        | zero => exact absurd hn h
        | succ f => exact Nat.succ_le_succ (Nat.zero_le f)
      have hq : n / 256 < 256 ^ f := Nat.div_lt_of_lt_mul (by rw [Nat.pow_succ, Nat.mul_comm] at hn; exact hn)
      obtain ⟨h1, h3, h4⟩ := ih (n / 256) hq hf
      refine ⟨?_, by rw [List.length_append]; omega, fun _ => ?_⟩
      · rw [beVal_append_single, h1, u8_toNat_ofNat (Nat.mod_lt _ (by decide))]
        exact Nat.div_add_mod' n 256
      · have h5 := h4 (Nat.div_pos (Nat.le_of_not_lt h) (by decide))
        cases hb : beBytesAux f (n / 256) with
        | nil => rw [hb] at h3; exact absurd h3 (Nat.lt_irrefl 0)
        | cons a l => rw [hb] at h5; exact h5

/-- sizes that `putint` can write -/
def Sz (n : Nat) : Prop := n < 2 ^ 64

theorem beBytes_spec {n : Nat} (hn : Sz n) (h0 : 0 < n) :
    beVal (beBytes n) = n ∧ (beBytes n).length ≤ 8 ∧ 0 < (beBytes n).length ∧ (beBytes n).headD 0 ≠ 0 := by
  have := beBytesAux_spec 8 n (by unfold Sz at hn; omega) (by omega)
  exact ⟨this.1, beBytesAux_length_le 8 n, this.2.1, this.2.2 h0⟩

theorem readSize_be {n : Nat} (hn : Sz n) (h56 : 56 ≤ n) (rest : Bytes) :
    readSize (beBytes n ++ rest) (beBytes n).length = .ok n := by
  obtain ⟨h1, _, h3, h4⟩ := beBytes_spec hn (by omega)
  have hhead : (beBytes n ++ rest).headD 0 = (beBytes n).headD 0 := by
    cases hb : beBytes n with
    | nil => rw [hb] at h3; cases h3
    | cons a l => rfl
  have hv : List.foldl (fun acc x => acc * 256 + x.toNat) 0 (beBytes n) = n := h1
  unfold readSize
  rw [if_neg (by rw [List.length_append]; omega)]
  simp only [List.take_left', hv, hhead, decide_eq_false (Nat.not_lt.mpr h56), beq_eq_false_iff_ne.mpr h4, Bool.or_self,
    Bool.false_eq_true, if_false]

theorem rlpHead_length_pos (base n : Nat) : 0 < (rlpHead base n).length := by
  unfold rlpHead; split <;> simp

/-! `readKind` on the first byte, one lemma per header range of raw.go -/

theorem not_add_lt {a b m : Nat} (h : b ≤ a) : ¬ a + m < b :=
  Nat.not_lt.mpr (Nat.le_trans h (Nat.le_add_right a m))

theorem readKind_byte {b0 : UInt8} (tl : Bytes) (hb : b0.toNat < 128) : readKind (b0 :: tl) = .ok (.byte, 0, 1) := by
  unfold readKind
  simp only [if_pos hb, List.length_cons, Nat.sub_zero, if_neg (Nat.not_lt.mpr (Nat.le_add_left 1 tl.length))]

theorem readKind_str_short {b0 : UInt8} {tl : Bytes} {n : Nat} (hb : b0.toNat = 128 + n) (hn : n < 56)
    (hfit : n ≤ tl.length) (h1 : n = 1 → ∀ x l, tl = x :: l → ¬ x.toNat < 128) :
    readKind (b0 :: tl) = .ok (.string, 1, n) := by
  have c2 : 128 + n < 0xB8 := Nat.add_lt_add_left hn 128
  cases tl with
  | nil =>
    have hfit' : ¬ n > 0 := Nat.not_lt.mpr hfit
    unfold readKind
    simp only [hb, if_neg (not_add_lt (Nat.le_refl 128)), if_pos c2, Nat.add_sub_cancel_left, Bool.and_false,
      Bool.false_eq_true, if_false, List.length_cons, List.length_nil, Nat.add_sub_cancel, hfit']
  | cons x l =>
    have hfit' : ¬ n > l.length + 1 := Nat.not_lt.mpr hfit
    -- a one-byte string below 128 must be written as the byte itself
    have hc : (n == 1 && decide (x.toNat < 128)) = false := by
      by_cases hn1 : n = 1
      · rw [hn1, beq_self_eq_true, Bool.true_and, decide_eq_false_iff_not]; exact h1 hn1 x l rfl
      · rw [beq_eq_false_iff_ne.mpr hn1, Bool.false_and]
    unfold readKind
    simp only [hb, if_neg (not_add_lt (Nat.le_refl 128)), if_pos c2, Nat.add_sub_cancel_left, hc,
      Bool.false_eq_true, if_false, List.length_cons, Nat.add_sub_cancel, hfit']

theorem readKind_list_short {b0 : UInt8} {tl : Bytes} {n : Nat} (hb : b0.toNat = 192 + n) (hn : n < 56)
    (hfit : n ≤ tl.length) : readKind (b0 :: tl) = .ok (.list, 1, n) := by
  have c4 : 192 + n < 0xF8 := Nat.add_lt_add_left hn 192
  have hfit' : ¬ n > tl.length := Nat.not_lt.mpr hfit
  unfold readKind
  simp only [hb, if_neg (not_add_lt (a := 192) (b := 0x80) (by decide)), if_neg (not_add_lt (a := 192) (b := 0xB8) (by decide)),
    if_neg (not_add_lt (Nat.le_refl 192)), if_pos c4, Nat.add_sub_cancel_left, List.length_cons, Nat.add_sub_cancel,
    hfit', if_false]

theorem readKind_str_long {b0 : UInt8} {tl : Bytes} {m n : Nat} (hb : b0.toNat = 183 + m) (hm : 1 ≤ m ∧ m ≤ 8)
    (hsz : readSize tl m = .ok n) (hfit : n + m ≤ tl.length) : readKind (b0 :: tl) = .ok (.string, m + 1, n) := by
  have c2 : ¬ 183 + m < 0xB8 := Nat.not_lt.mpr (Nat.add_le_add_left hm.1 183)
  have c3 : 183 + m < 0xC0 := Nat.add_lt_add_left (Nat.lt_succ_of_le hm.2) 183
  have hfit' : ¬ n > tl.length + 1 - (m + 1) := by omega
  unfold readKind
  simp only [hb, if_neg (not_add_lt (a := 183) (b := 0x80) (by decide)), if_neg c2, if_pos c3, Nat.add_sub_cancel_left,
    hsz, dec_ok_bind, dec_pure, List.length_cons, hfit', if_false]

theorem readKind_list_long {b0 : UInt8} {tl : Bytes} {m n : Nat} (hb : b0.toNat = 247 + m) (hm : 1 ≤ m ∧ m ≤ 8)
    (hsz : readSize tl m = .ok n) (hfit : n + m ≤ tl.length) : readKind (b0 :: tl) = .ok (.list, m + 1, n) := by
  have hfit' : ¬ n > tl.length + 1 - (m + 1) := by omega
  unfold readKind
  simp only [hb, if_neg (not_add_lt (a := 247) (b := 0x80) (by decide)), if_neg (not_add_lt (a := 247) (b := 0xB8) (by decide)),
    if_neg (not_add_lt (a := 247) (b := 0xC0) (by decide)), if_neg (Nat.not_lt.mpr (Nat.add_le_add_left hm.1 247) : ¬ 247 + m < 0xF8),
    Nat.add_sub_cancel_left, hsz, dec_ok_bind, dec_pure, List.length_cons, hfit', if_false]

/-- `hd ++ b` is one encoded value of kind `k` with header `hd` and content `b`, whatever follows it -/
def Framed (k : Kind) (hd b : Bytes) : Prop :=
  ∀ rest, readKind (hd ++ (b ++ rest)) = .ok (k, hd.length, b.length)

theorem rsplit_framed {k : Kind} {hd b : Bytes} (h : Framed k hd b) (rest : Bytes) :
    rsplit (hd ++ (b ++ rest)) = .ok (k, b, rest) := by
  unfold rsplit
  rw [h rest]
  simp only [dec_ok_bind, dec_pure]
  rw [List.drop_left' rfl, List.take_left' rfl, ← List.append_assoc, List.drop_left' List.length_append]

/-- a header written by `rlpHead base` frames its content as kind `k`, once `readKind` reads the one-byte header
`base + n` and the header `base + 55 + m` followed by an `m`-byte size that way -/
theorem framed_head {k : Kind} {base : Nat} (hbase : base + 63 < 256) {b : Bytes} (hb : Sz b.length)
    (hshort : ∀ (b0 : UInt8) (rest : Bytes), b0.toNat = base + b.length → b.length < 56 →
      readKind (b0 :: (b ++ rest)) = .ok (k, 1, b.length))
    (hlong : ∀ {b0 : UInt8} {tl : Bytes} {m n : Nat}, b0.toNat = base + 55 + m → 1 ≤ m ∧ m ≤ 8 →
      readSize tl m = .ok n → n + m ≤ tl.length → readKind (b0 :: tl) = .ok (k, m + 1, n)) :
    Framed k (rlpHead base b.length) b := by
  intro rest
  unfold rlpHead
  by_cases h : b.length < 56
  · rw [if_pos h]
    exact hshort _ rest (u8_toNat_ofNat (by omega)) h
  · rw [if_neg h]
    obtain ⟨_, h2, h3, _⟩ := beBytes_spec hb (by omega)
    exact hlong (tl := beBytes b.length ++ (b ++ rest)) (u8_toNat_ofNat (by omega)) ⟨h3, h2⟩
      (readSize_be hb (by omega) _) (by rw [List.length_append, List.length_append]; omega)

theorem framed_list {p : Bytes} (hp : Sz p.length) : Framed .list (rlpHead 192 p.length) p :=
  framed_head (by decide) hp
    (fun _ rest hb0 hn => readKind_list_short hb0 hn (by rw [List.length_append]; omega)) readKind_list_long

/-- a string behind a length header; a single byte below 128 is not written this way -/
theorem framed_strHead {b : Bytes} (hb : Sz b.length) (hx : ∀ x, b = [x] → ¬ x.toNat < 128) :
    Framed .string (rlpHead 128 b.length) b :=
  framed_head (by decide) hb
    (fun _ rest hb0 hn => readKind_str_short hb0 hn (by rw [List.length_append]; omega) fun h1 x l e => by
      match b, h1, e with
      | [y], _, e => exact (List.cons.inj e).1 ▸ hx y rfl)
    readKind_str_long

/-- every string encoding is its content behind a header (empty for a single byte below 128) -/
theorem framed_str {b : Bytes} (hb : Sz b.length) :
    ∃ k hd, k ≠ Kind.list ∧ rlpStr b = hd ++ b ∧ 0 < (hd ++ b).length ∧ Framed k hd b := by
  have general := framed_strHead hb
  have hpos : 0 < (rlpHead 128 b.length ++ b).length := by
    have := rlpHead_length_pos 128 b.length
    rw [List.length_append]; omega
  match b, general, hpos with
  | [], g, hpos => exact ⟨.string, _, nofun, rfl, hpos, g nofun⟩
  | [x], g, hpos =>
    by_cases hx : x.toNat < 128
    · exact ⟨.byte, [], nofun, by simp only [rlpStr, if_pos hx, List.nil_append], Nat.zero_lt_one,
        fun rest => readKind_byte rest hx⟩
    · exact ⟨.string, _, nofun, by simp only [rlpStr, if_neg hx, List.length_singleton], hpos,
        g fun y e => (List.cons.inj e).1 ▸ hx⟩
  | x :: y :: l, g, hpos => exact ⟨.string, _, nofun, rfl, hpos, g nofun⟩

theorem rsplit_list {p : Bytes} (hp : Sz p.length) (rest : Bytes) :
    rsplit (rlpList p ++ rest) = .ok (.list, p, rest) := by
  rw [rlpList, List.append_assoc]
  exact rsplit_framed (framed_list hp) rest

theorem rsplit_str {b : Bytes} (hb : Sz b.length) (rest : Bytes) :
    ∃ k, k ≠ Kind.list ∧ rsplit (rlpStr b ++ rest) = .ok (k, b, rest) := by
  obtain ⟨k, hd, hk, e, _, h⟩ := framed_str hb
  exact ⟨k, hk, by rw [e, List.append_assoc]; exact rsplit_framed h rest⟩

theorem splitString_str {b : Bytes} (hb : Sz b.length) (rest : Bytes) :
    splitString (rlpStr b ++ rest) = .ok (b, rest) := by
  obtain ⟨k, hk, h⟩ := rsplit_str hb rest
  unfold splitString
  rw [h]
  cases k <;> first | exact absurd rfl hk | rfl

theorem splitList_list {p : Bytes} (hp : Sz p.length) (rest : Bytes) :
    splitList (rlpList p ++ rest) = .ok (p, rest) := by
  unfold splitList
  rw [rsplit_list hp rest]
  rfl

/-- a single encoded value, as `CountValues` sees it -/
def Item (it : Bytes) : Prop :=
  0 < it.length ∧ ∃ k ts cs, ts + cs = it.length ∧ ∀ rest, readKind (it ++ rest) = .ok (k, ts, cs)

theorem item_framed {k : Kind} {hd b : Bytes} (h : Framed k hd b) (hpos : 0 < (hd ++ b).length) : Item (hd ++ b) :=
  ⟨hpos, k, hd.length, b.length, List.length_append.symm, fun rest => by rw [List.append_assoc]; exact h rest⟩

theorem item_list {p : Bytes} (hp : Sz p.length) : Item (rlpList p) :=
  item_framed (framed_list hp) (by have := rlpHead_length_pos 192 p.length; rw [List.length_append]; omega)

theorem rsplit_readKind {b c r : Bytes} {k : Kind} (h : rsplit b = .ok (k, c, r)) :
    ∃ ts cs, readKind b = .ok (k, ts, cs) := by
  unfold rsplit at h
  cases hr : readKind b with
  | ok x =>
    obtain ⟨k', ts, cs⟩ := x
    rw [hr] at h
    simp only [dec_ok_bind, dec_pure, Dec.ok.injEq, Prod.mk.injEq] at h
    exact ⟨ts, cs, by rw [h.1]⟩
  | err => rw [hr] at h; cases h
  | panic => rw [hr] at h; cases h

theorem item_str {b : Bytes} (hb : Sz b.length) : Item (rlpStr b) := by
  obtain ⟨k, hd, _, e, hpos, h⟩ := framed_str hb
  rw [e]; exact item_framed h hpos

theorem countValuesAux_items : ∀ (items : List Bytes), (∀ it ∈ items, Item it) → ∀ (fuel i : Nat),
    items.flatten.length ≤ fuel → countValuesAux fuel items.flatten i = .ok (i + items.length) := by
  intro items
  induction items with
  | nil => intro _ fuel i _; cases fuel <;> rfl
  | cons it items ih =>
    intro h fuel i hf
    obtain ⟨hpos, k, ts, cs, hlen, hrk⟩ := h it List.mem_cons_self
    rw [List.flatten_cons, List.length_append] at hf
    cases fuel with
    | zero => omega
    | succ f =>
      -- the first value is read off, the counter goes up, the rest is the remaining items
      have hd : List.drop (ts + cs) (it ++ items.flatten) = items.flatten := List.drop_left' hlen.symm
      have hstep : countValuesAux (f + 1) (it ++ items.flatten) i = countValuesAux f items.flatten (i + 1) := by
        cases hit : it ++ items.flatten with
        | nil => have := congrArg List.length hit; rw [List.length_append, List.length_nil] at this; omega
        | cons x l => rw [countValuesAux, ← hit, hrk items.flatten, dec_ok_bind]; exact congrArg (countValuesAux f · (i + 1)) hd
      rw [List.flatten_cons, hstep, ih (fun it' h' => h it' (List.mem_cons_of_mem _ h')) f (i + 1) (by omega),
        List.length_cons, Nat.add_assoc, Nat.add_comm 1]

theorem countValues_items (items : List Bytes) (h : ∀ it ∈ items, Item it) :
    countValues items.flatten = .ok items.length := by
  unfold countValues
  rw [countValuesAux_items items h _ 0 (Nat.le_refl _)]
  simp

end Props.C10
