/-
C11: which registered roots consist only of constructors of the proved fragment (`FragN`, Props/C11Round.lean).
`covered` is a syntactic check of a descriptor against the constructors of `FragN`; the descriptors are the pinned ones of
Model/SerRoots.lean (tied to the real Go types by the `pin` op of every run).
-/
import LinkVerif.Model.SerRoots
import LinkVerif.Props.C11Round

namespace Props.C11
open Model.Ser Model.SerRoots

/-- the target of a pointer must encode as a non-empty list or as a string with header (FragN.ptrList / ptrStr), and
    its nil encoding must be the empty item (ptrNilList / ptrNilStr): structs with at least one field, byte arrays ≥ 2 -/
def ptrTarget (env : Env) : Nat → Ty → Bool
  | 0, _ => false
  | f + 1, t => match t with
    | .struct (_ :: _) => true
    | .bytearr n => decide (2 ≤ n)
    | .ref id => match env.def? id with
      | some t' => ptrTarget env f t'
      | none => false
    | _ => false

def covered (env : Env) : Nat → Ty → Bool
  | 0, _ => false
  | f + 1, t => match t with
    | .uint _ | .int _ | .bool | .bigptr | .bigval | .bytes | .string | .time => true
    | .bytearr n => decide (n ≠ 1)
    | .struct fs => fs.all (covered env f)
    | .slice e => covered env f e
    | .ref id => match env.def? id with
      | some t' => covered env f t'
      | none => false
    | .cval _ e => covered env f e
    | .cptr _ e => covered env f e
    | .ptr e => covered env f e && ptrTarget env 8 e
    | _ => false

/-- every pinned root is in the fragment -/
theorem roots_in_fragment : roots.all (fun r => covered r.env 12 r.ty) = true := by decide

theorem root_in_fragment_Header : covered { defs := [(4, blockID), (5, partSetHeader), (21, header)] } 12 (.ref 21) = true := by decide
theorem root_in_fragment_Part : covered { defs := [(29, part), (30, simpleProof)] } 12 (.ref 29) = true := by decide
theorem root_in_fragment_Transaction : covered { defs := [(61, .ref 62), (62, txdata)] } 12 (.cval false (.ref 61)) = true := by decide

/-- not covered, for the record: Vote (its Signature is an interface value) -/
example : covered {} 12 (.struct [.bytes, .uint 64, .iface [1, 2]]) = false := by decide

/-- the rendering the driver answers to `pin root=PartSetHeader` -/
example : pinOf "PartSetHeader" = "d=@5;5=Q(i64,Y)" := by decide

end Props.C11
