/-
C05 — Block execution is a deterministic function of the prior state and the block.

What a theorem can carry here (DESIGN.md, C05): the EVM/WASM interpreters are not modelled; the proofs target the
places where Go lets nondeterminism in — map iteration order feeding the state hash, and the parallel pre-check whose
worker count depends on the machine.  Replica agreement (proposer vs validator path, trie vs kv mode, warm vs cold cache,
decoded blocks, GOMAXPROCS, re-execution) is checked on the real application by the harness.
-/
import LinkVerif.Model.StateHash
import LinkVerif.Props.C19Order
import LinkVerif.Gen.C05Facts

namespace Props.C05
open Model.KV Model.StateHash Props.C19

/-- the fact behind every "walked in map order, then sorted" of C05 (duplicates included) -/
theorem mergeSort_eq_of_perm {α : Type} {le : α → α → Bool} (tr : ∀ a b c, le a b = true → le b c = true → le a c = true)
    (tot : ∀ a b, (le a b || le b a) = true) {l l' : List α}
    (anti : ∀ a b, a ∈ l → b ∈ l → le a b = true → le b a = true → a = b) (h : l.Perm l') :
    l.mergeSort le = l'.mergeSort le :=
  List.Perm.eq_of_pairwise (le := fun a b => le a b = true)
    (fun a b ha hb => anti a b ((List.mergeSort_perm l le).mem_iff.1 ha)
      (h.mem_iff.2 ((List.mergeSort_perm l' le).mem_iff.1 hb)))
    (List.pairwise_mergeSort tr tot l) (List.pairwise_mergeSort tr tot l')
    ((List.mergeSort_perm l le).trans (h.trans (List.mergeSort_perm l' le).symm))

/-- sorting by `bytes.Compare` forgets the order in which the records were pushed -/
theorem sort_perm {us vs : List Bytes} (h : us.Perm vs) : us.mergeSort leB = vs.mergeSort leB := by
  refine mergeSort_eq_of_perm (le := leB) (fun _ _ _ => ble_trans) (fun a b => ?_) (fun a b _ _ h₁ h₂ => ?_) h
  · unfold leB ble
    cases h : blt b a
    · rfl
    · simp [blt_asymm h]
  · simp only [leB, ble, Bool.not_eq_true'] at h₁ h₂
    rcases blt_total a b with h | h | h
    · rw [h₂] at h; cases h
    · exact h
    · rw [h₁] at h; cases h

/-- C05, state hash: for ANY hash function, any two orders in which `Finalise` / `updateTrie` walk their maps (any
permutation of the same multiset of update records) give the same state hash -/
theorem stateHash_perm (H : Bytes → Bytes) {us vs : List Bytes} (h : us.Perm vs) : hashOf H us = hashOf H vs := by
  unfold hashOf; rw [sort_perm h]

theorem stateHash_reverse (H : Bytes → Bytes) (us : List Bytes) : hashOf H us.reverse = hashOf H us :=
  stateHash_perm H (List.reverse_perm us)

/-- a worker that reports nothing has checked every index of its stride -/
theorem worker_eq_none_iff (check : Nat → Option String) (n offset fuel i : Nat) (hn : n ≤ i + fuel * offset) :
    worker check n offset fuel i = none ↔ ∀ k, i + k * offset < n → check (i + k * offset) = none := by
  fun_induction worker check n offset fuel i with
  | case1 | case4 => exact ⟨fun _ k hk => absurd hk (by omega), fun _ => rfl⟩
  | case2 _ i hi e hc => exact ⟨nofun, fun h => by simpa [hc] using h 0 (by simpa using hi)⟩
  | case3 fuel i hi hc ih =>
    have step : ∀ k, i + (k + 1) * offset = i + offset + k * offset := fun k => by rw [Nat.succ_mul]; omega
    rw [ih (by rw [step] at hn; exact hn)]
    constructor
    · intro h k
      cases k with
      | zero => exact fun _ => by simpa using hc
      | succ k => rw [step k]; exact h k
    · intro h k
      rw [← step k]; exact h (k + 1)

/-- C05, pre-check: whatever the worker count (it is `(NumCPU+3)/4`, a property of the machine, not of the chain), the
block passes the pre-check exactly when every transaction passes its individual check -/
theorem precheck_ok_iff_all_ok (check : Nat → Option String) (n offset : Nat) (hoff : 0 < offset) :
    precheck check n offset = none ↔ ∀ i, i < n → check i = none := by
  have hfuel : ∀ w, n ≤ w + n * offset := fun w => Nat.le_trans (Nat.le_mul_of_pos_right n hoff) (Nat.le_add_left _ _)
  unfold precheck slots
  rw [List.head?_eq_none_iff, List.filterMap_eq_nil_iff]
  simp only [List.mem_map, List.mem_range, id_eq, forall_exists_index, and_imp, forall_apply_eq_imp_iff₂,
    worker_eq_none_iff check n offset n _ (hfuel _)]
  constructor
  · -- the worker of index i % offset covers i = i % offset + (i / offset) * offset
    intro h i hi
    have e : i % offset + i / offset * offset = i := by rw [Nat.mul_comm]; exact Nat.mod_add_div i offset
    have := h _ (Nat.mod_lt i hoff) (i / offset)
    rw [e] at this
    exact this hi
  · exact fun h w _ k hk => h _ hk

/-- two machines with different core counts accept the same blocks -/
theorem precheck_machine_independent (check : Nat → Option String) (n o₁ o₂ : Nat) (h₁ : 0 < o₁) (h₂ : 0 < o₂) :
    (precheck check n o₁ = none) ↔ (precheck check n o₂ = none) := by
  rw [precheck_ok_iff_all_ok check n o₁ h₁, precheck_ok_iff_all_ok check n o₂ h₂]

/-- the vetted table: (file, function, ranged expression, why the iteration order cannot reach a consensus-visible result) -/
def vetted : List (String × String × String × String) := [
  ("app/app.go", "LinkApplication.clearProcessResult", "app.processMap", "deletes entries of a local cache; set operation"),
  ("app/app.go", "LinkApplication.clearProcessResult", "app.processMap", "filters a local cache into a new map; set operation"),
  ("state/keyvalue.go", "wrappedTrie.Commit", "kvTrie.updates", "distinct keys into one DB batch (commutative); the undo log written in this order is node-local"),
  ("state/state_object.go", "stateObject.updateTrie", "c.dirtyStorage", "TryUpdate/TryDelete records feed the heap sort of wrappedTrie.Hash (stateHash_perm) and an MPT over distinct keys (canonical, C10)"),
  ("state/state_object.go", "stateObject.deepCopy", "c.data.Tokens", "copies a map (fix 9e64f31: the copy gets its own Tokens map)"),
  ("state/state_object.go", "stateObject.TokenBalances", "c.data.Tokens", "callers: gasSuicide sums the (single) LKC entry; opSuicide credits distinct tokens (commutative) and sorts before emitting records; wasm tcSelfDestruct appends balance records in this order — node-local index, not in any block hash; RPC"),
  ("state/statedb.go", "StateDB.Logs", "s.logs", "only used by vm/wasm/wasm-run (a tool)"),
  ("state/statedb.go", "StateDB.Copy", "s.journal.dirties", "copies a map"),
  ("state/statedb.go", "StateDB.Copy", "s.stateObjectsDirty", "copies a map"),
  ("state/statedb.go", "StateDB.Copy", "s.logs", "copies a map"),
  ("state/statedb.go", "StateDB.Copy", "logs", "false positive of the syntactic resolution: a slice (map value)"),
  ("state/statedb.go", "StateDB.Copy", "s.preimages", "copies a map"),
  ("state/statedb.go", "StateDB.Finalise", "s.journal.dirties", "per-address finalisation: each step touches its own object; storage updates feed the heap sort (stateHash_perm)"),
  ("state/statedb.go", "StateDB.Commit", "s.journal.dirties", "marks dirty objects; set operation"),
  ("state/statedb.go", "StateDB.Commit", "s.stateObjects", "per-object commit: distinct keys, code blobs content-addressed"),
  ("types/blacklist.go", "blacklist.GetBlackAddrs", "b.addrs", "RPC listing only"),
  ("types/blacklist.go", "blacklist.IsBlackAddress", "addrs", "false positive of the syntactic resolution: a variadic slice parameter named like the map field"),
  ("vm/evm/logger.go", "WriteTrace", "log.Storage", "debug trace output")
]

open Gen.C05Facts in
/-- the regenerated list of `for … range <map>` statements equals the vetted table (file, function, ranged expression); each
vetted site feeds a sort, a commutative accumulation, or is not consensus-visible (reason in the table) -/
theorem map_range_sites_vetted : mapRangeSites = vetted.map (fun v => (v.1, v.2.1, v.2.2.1)) := rfl

open Gen.C05Facts in
/-- no function of app/app.go other than the process-result cache cleaner ranges over a map: the evidence fold
(`processBlockEvidence`), the election (`calculateCandidates`, `getAllCandidates`), the bookkeeping between elections
(`updateCandidatesbyOrder`, `recoverCandidates`), `getValidators`, the special-transaction check and the parallel pre-check walk
slices in the order the block or the contract storage fixes (the maps they use — `CandidatesMap`, `lastVals` — are only looked up) -/
theorem app_walks_no_map_but_the_result_cache :
    ∀ s ∈ mapRangeSites, s.1 = "app/app.go" → s.2.1 = "LinkApplication.clearProcessResult" := by decide

/-- no draw from the process-global `math/rand` source anywhere in block execution or in the candidate election: the shuffle
of `RandomSort` uses its own generator seeded from the block (`rand.New(rand.NewSource(salt))`), so the election is a function
of the block and the candidate set and not of what other goroutines drew (T2 fact, regenerated: `rand.Seed(salt)` +
`rand.Float64()` in its place is invisible to every run, the order only differs under concurrent use of the source) -/
theorem no_global_random_source : Gen.C05Facts.globalRandSites = [] := by decide

example : hashOf id [[2, 1], [1, 9], [2, 0]] = hashOf id [[2, 0], [2, 1], [1, 9]] :=
  stateHash_perm id (by decide)
example : precheck (fun i => if i = 5 then some "bad" else none) 8 3 = some "bad" := by decide
example : precheck (fun i => if i = 5 then some "bad" else none) 8 1 = some "bad" := by decide
example : precheck (fun _ => none) 8 3 = none := by decide

end Props.C05
