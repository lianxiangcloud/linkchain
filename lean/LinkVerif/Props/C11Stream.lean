/-
C11, layer 2: the operations of `ser.Stream` as the decoders see them.
`readKind` is `readHead` of layer 1 run on the stream: it branches on the class of the tag byte only (`readKind_eq`).
A predicate on streams that the operations keep is kept by every decoder (`decV_kept`); the errors a decoder reports
are the stream's or its own, and none of its own is `panic`.  Props/C11NoPanic.lean and Props/C11Reader.lean are
instances.
-/
import LinkVerif.Model.Ser
import LinkVerif.Props.C11Rlp

namespace Props.C11
open Model.Rlp Model.Ser

theorem readKind_eq (s : Stream) : readKind s = match readByte s with
    | (.error e, s) => ((.byte, 0, some (if s.stack.isEmpty ∧ e = .valueTooLarge then Err.eof else e)), s)
    | (.ok b, s) => match tagOf b with
      | .byte => ((.byte, 0, none), { s with byteval := b })
      | .short k n => ((k, n, none), { s with byteval := 0 })
      | .long k ll => match readUintSz ll { s with byteval := 0 } with
        | (.error e, s) => ((k, 0, some e), s)
        | (.ok n, s) => ((k, n, if n < 56 then some .canonSize else none), s) := by
  unfold readKind
  generalize readByte s = r
  obtain ⟨e | b, s'⟩ := r
  · rfl
  · unfold tagOf
    dsimp only
    by_cases h1 : b.toNat < 0x80
    · rw [if_pos h1, if_pos (UInt8.lt_iff_toNat_lt.mpr h1)]
    rw [if_neg h1, if_neg (mt UInt8.lt_iff_toNat_lt.mp h1)]
    by_cases h2 : b.toNat < 0xB8
    · rw [if_pos h2, if_pos (UInt8.lt_iff_toNat_lt.mpr h2)]
    rw [if_neg h2, if_neg (mt UInt8.lt_iff_toNat_lt.mp h2)]
    by_cases h3 : b.toNat < 0xC0
    · rw [if_pos h3, if_pos (UInt8.lt_iff_toNat_lt.mpr h3)]
      dsimp only
      generalize readUintSz _ _ = r
      obtain ⟨e | n, s2⟩ := r <;> rfl
    rw [if_neg h3, if_neg (mt UInt8.lt_iff_toNat_lt.mp h3)]
    by_cases h4 : b.toNat < 0xF8
    · rw [if_pos h4, if_pos (UInt8.lt_iff_toNat_lt.mpr h4)]
    rw [if_neg h4, if_neg (mt UInt8.lt_iff_toNat_lt.mp h4)]
    dsimp only
    generalize readUintSz _ _ = r
    obtain ⟨e | n, s2⟩ := r <;> rfl

theorem willRead_frame (n : Nat) (s : Stream) :
    ∃ st ph, (willRead n s).2 = { s with kind := none, stack := st, phantom := ph } ∧
      st.map Prod.snd = s.stack.map Prod.snd ∧ ph ≤ s.phantom ∧ (willRead n s).1 ≠ some .panic := by
  unfold willRead
  cases hs : s.stack with
  | nil =>
    dsimp only
    split
    · exact ⟨_, _, rfl, rfl, Nat.le_refl _, nofun⟩
    · exact ⟨_, _, rfl, rfl, Nat.sub_le .., nofun⟩
  | cons x up =>
    dsimp only
    split
    · exact ⟨_, _, rfl, rfl, Nat.le_refl _, nofun⟩
    · split
      · exact ⟨_, _, rfl, rfl, Nat.le_refl _, nofun⟩
      · exact ⟨_, _, rfl, rfl, Nat.sub_le .., nofun⟩

def errOf {α : Type} : Except Err α → Option Err
  | .error e => some e
  | .ok _ => none

structure Kept (P : Stream → Prop) (E : Err → Prop) (e : Option Err) (s : Stream) : Prop where
  inv : P s
  inE : ∀ e', e = some e' → E e'

structure ReadInv (P : Stream → Prop) (E : Err → Prop) : Prop where
  own : ∀ e, e ≠ .panic → E e
  rearm : ∀ s, P s → P { s with kind := none }
  byteval : ∀ b s, P s → P { s with byteval := b }
  willRead : ∀ n s, P s → Kept P E (willRead n s).1 (willRead n s).2
  rest : ∀ r s, P s → r.length ≤ s.rest.length → P { s with rest := r }

structure StreamInv (P : Stream → Prop) (E : Err → Prop) : Prop extends ReadInv P E where
  kindOf : ∀ s, P s → Kept P E (kindOf s).1.2.2 (kindOf s).2
  /-- `make([]byte, size)` in Stream.Bytes, for a size Stream.Kind has accepted -/
  alloc : ∀ s, P s → (Model.Ser.kindOf s).1.2.2 = none →
    P { (Model.Ser.kindOf s).2 with alloc := max (Model.Ser.kindOf s).2.alloc (Model.Ser.kindOf s).1.2.1 }
  sList : ∀ s, P s → Kept P E (errOf (sList s).1) (sList s).2
  sListEnd : ∀ s, P s → Kept P E (sListEnd s).1 (sListEnd s).2

section
variable {P : Stream → Prop} {E : Err → Prop}

theorem Kept.ok {s : Stream} (hs : P s) : Kept P E none s := ⟨hs, fun _ h => nomatch h⟩

theorem Kept.err {e : Err} {s : Stream} (hs : P s) (he : E e) : Kept P E (some e) s :=
  ⟨hs, fun _ h => Option.some.inj h ▸ he⟩

theorem readByte_kept (h : ReadInv P E) (s : Stream) (hs : P s) : Kept P E (errOf (readByte s).1) (readByte s).2 := by
  have hw := h.willRead 1 s hs
  unfold readByte
  generalize willRead 1 s = r at hw ⊢
  obtain ⟨_ | e, s'⟩ := r
  · dsimp only
    split
    · next b r hr => exact .ok (h.rest r s' hw.inv (by rw [hr]; exact Nat.le_succ _))
    · exact .err hw.inv (h.own _ (by decide))
  · exact hw

theorem readFull_kept (h : ReadInv P E) (n : Nat) (s : Stream) (hs : P s) :
    Kept P E (errOf (readFull n s).1) (readFull n s).2 := by
  have hw := h.willRead n s hs
  unfold readFull
  generalize willRead n s = r at hw ⊢
  obtain ⟨_ | e, s'⟩ := r
  · dsimp only
    split
    · exact .err (h.rest [] s' hw.inv (Nat.zero_le _)) (h.own _ (by decide))
    · exact .ok (h.rest _ s' hw.inv (by rw [List.length_drop]; exact Nat.sub_le ..))
  · exact hw

theorem readUintSz_kept (h : ReadInv P E) (sz : Nat) (s : Stream) (hs : P s) :
    Kept P E (errOf (readUintSz sz s).1) (readUintSz sz s).2 := by
  unfold readUintSz
  split
  · exact .ok (h.rearm s hs)
  · have hb := readByte_kept h s hs
    generalize readByte s = r at hb ⊢
    obtain ⟨e | b, s'⟩ := r
    · exact hb
    · exact hb
  · have hf := readFull_kept h sz s hs
    generalize readFull sz s = r at hf ⊢
    obtain ⟨e | d, s'⟩ := r
    · exact hf
    · dsimp only
      split
      · exact .err hf.inv (h.own _ (by decide))
      · exact hf

theorem readKind_kept (h : ReadInv P E) (s : Stream) (hs : P s) : Kept P E (readKind s).1.2.2 (readKind s).2 := by
  have hb := readByte_kept h s hs
  rw [readKind_eq]
  generalize readByte s = r at hb ⊢
  obtain ⟨e | b, s'⟩ := r
  · dsimp only
    split
    · exact .err hb.inv (h.own _ (by decide))
    · exact hb
  · have h0 := h.byteval 0 s' hb.inv
    dsimp only
    cases tagOf b with
    | byte => exact .ok (h.byteval b s' hb.inv)
    | short k n => exact .ok h0
    | long k ll =>
      have hu := readUintSz_kept h ll _ h0
      dsimp only
      generalize readUintSz ll _ = r at hu ⊢
      obtain ⟨e | n, s2⟩ := r
      · exact hu
      · dsimp only
        split
        · exact .err hu.inv (h.own _ (by decide))
        · exact hu

theorem readN_kept (h : ReadInv P E) : ∀ (n : Nat) (s : Stream), P s → Kept P E (errOf (readN n s).1) (readN n s).2
  | 0, s, hs => .ok hs
  | n + 1, s, hs => by
    have hb := readByte_kept h s hs
    unfold readN
    generalize readByte s = r at hb ⊢
    obtain ⟨e | b, s1⟩ := r
    · exact hb
    · have hr := readN_kept h n s1 hb.inv
      dsimp only
      generalize readN n s1 = r at hr ⊢
      obtain ⟨e | bs, s2⟩ := r
      · exact hr
      · exact hr

theorem sBytes_kept (h : StreamInv P E) (s : Stream) (hs : P s) : Kept P E (errOf (sBytes s).1) (sBytes s).2 := by
  have hk := h.kindOf s hs
  have ha := h.alloc s hs
  unfold sBytes
  generalize kindOf s = r at hk ha ⊢
  obtain ⟨⟨k, sz, _ | e⟩, s'⟩ := r
  · cases k with
    | byte => exact .ok (h.rearm s' hk.inv)
    | string =>
      have hr := readFull_kept h.toReadInv sz _ (ha rfl)
      dsimp only
      generalize readFull sz _ = r at hr ⊢
      obtain ⟨e | b, s2⟩ := r
      · exact hr
      · dsimp only
        split
        · exact .err hr.inv (h.own _ (by decide))
        · exact hr
    | list => exact .err hk.inv (h.own _ (by decide))
  · exact hk

theorem sUint_kept (h : StreamInv P E) (mb : Nat) (s : Stream) (hs : P s) :
    Kept P E (errOf (sUint mb s).1) (sUint mb s).2 := by
  have hk := h.kindOf s hs
  unfold sUint
  generalize kindOf s = r at hk ⊢
  obtain ⟨⟨k, sz, _ | e⟩, s'⟩ := r
  · cases k with
    | byte =>
      dsimp only
      split
      · exact .err hk.inv (h.own _ (by decide))
      · exact .ok (h.rearm _ hk.inv)
    | string =>
      dsimp only
      split
      · exact .err hk.inv (h.own _ (by decide))
      · have hu := readUintSz_kept h.toReadInv sz s' hk.inv
        split
        · next heq => rw [heq] at hu; exact .err hu.inv (h.own _ (by decide))
        · next heq => rw [heq] at hu; exact hu
        · next heq =>
          rw [heq] at hu
          split
          · exact .err hu.inv (h.own _ (by decide))
          · exact hu
    | list => exact .err hk.inv (h.own _ (by decide))
  · exact hk

def KeptR (P : Stream → Prop) (E : Err → Prop) (r : DecR) : Prop := Kept P E r.2.1 r.2.2

theorem decBytesLike_kept (h : StreamInv P E) (s : Stream) (hs : P s) : KeptR P E (decBytesLike s) := by
  have hb := sBytes_kept h s hs
  unfold decBytesLike
  generalize sBytes s = r at hb ⊢
  obtain ⟨e | b, s'⟩ := r
  · exact hb
  · exact hb

theorem decInt_kept (h : StreamInv P E) (bits : Nat) (s : Stream) (hs : P s) : KeptR P E (decInt bits s) := by
  have hb := sBytes_kept h s hs
  unfold decInt
  generalize sBytes s = r at hb ⊢
  obtain ⟨e | b, s'⟩ := r
  · exact hb
  · dsimp only
    cases parseInt16 b with
    | none => exact .err hb.inv (h.own _ (by decide))
    | some z => exact hb

theorem decBigPtr_kept (h : StreamInv P E) (s : Stream) (hs : P s) : KeptR P E (decBigPtr s) := by
  have hb := sBytes_kept h s hs
  unfold decBigPtr
  generalize sBytes s = r at hb ⊢
  obtain ⟨e | b, s'⟩ := r
  · exact hb
  · dsimp only
    split
    · exact .err hb.inv (h.own _ (by decide))
    · exact hb

theorem decBigVal_kept (h : StreamInv P E) (s : Stream) (hs : P s) : KeptR P E (decBigVal s) := by
  have hb := sBytes_kept h s hs
  unfold decBigVal
  generalize sBytes s = r at hb ⊢
  obtain ⟨e | b, s'⟩ := r
  · exact hb
  · dsimp only
    split
    · exact .err hb.inv (h.own _ (by decide))
    · exact hb

theorem decByteArr_kept (h : StreamInv P E) (n : Nat) (s : Stream) (hs : P s) : KeptR P E (decByteArr n s) := by
  have hk := h.kindOf s hs
  unfold decByteArr
  generalize kindOf s = r at hk ⊢
  obtain ⟨⟨k, sz, _ | e⟩, s'⟩ := r
  · cases k with
    | byte =>
      dsimp only
      by_cases h0 : n = 0
      · rw [if_pos h0]
        exact .err hk.inv (h.own _ (by decide))
      rw [if_neg h0]
      by_cases h1 : n > 1
      · rw [if_pos h1]
        exact .err hk.inv (h.own _ (by decide))
      rw [if_neg h1]
      split
      · exact .ok hk.inv
      · exact .ok (h.rearm s' hk.inv)
    | string =>
      dsimp only
      by_cases h0 : n < sz
      · rw [if_pos h0]
        exact .err hk.inv (h.own _ (by decide))
      rw [if_neg h0]
      by_cases h1 : n > sz
      · rw [if_pos h1]
        exact .err hk.inv (h.own _ (by decide))
      · rw [if_neg h1]
        have hr := readFull_kept h.toReadInv n s' hk.inv
        split
        · next heq => rw [heq] at hr; exact hr
        · next heq => rw [heq] at hr; exact hr
        · next heq =>
          rw [heq] at hr
          split
          · exact .err hr.inv (h.own _ (by decide))
          · exact hr
    | list => exact .err hk.inv (h.own _ (by decide))
  · exact hk

theorem intOr0_snd (r : DecR) : (intOr0 r).2 = r.2.2 := by
  unfold intOr0; split <;> rfl

theorem decTime_kept (h : StreamInv P E) (s : Stream) (hs : P s) : KeptR P E (decTime s) := by
  have hl := h.sList s hs
  unfold decTime
  generalize sList s = r at hl ⊢
  obtain ⟨e | n, s'⟩ := r
  · exact hl
  · dsimp only
    have h1 := (decInt_kept h 64 s' hl.inv).inv
    rw [← intOr0_snd] at h1
    generalize intOr0 (decInt 64 s') = a at h1 ⊢
    have h2 := (decInt_kept h 32 a.2 h1).inv
    rw [← intOr0_snd] at h2
    generalize intOr0 (decInt 32 a.2) = b at h2 ⊢
    split
    · exact .err h2 (h.own _ (by decide))
    · exact h.sListEnd b.2 h2

theorem decMapEntries_kept (h : StreamInv P E) : ∀ (cnt : Nat) (acc : List (Bytes × Val)) (s : Stream), P s →
    Kept P E (errOf (decMapEntries cnt acc s).1) (decMapEntries cnt acc s).2
  | 0, acc, s, hs => .ok hs
  | cnt + 1, acc, s, hs => by
    have hk := decByteArr_kept h 20 s hs
    unfold decMapEntries
    generalize decByteArr 20 s = r at hk ⊢
    obtain ⟨k, _ | e, s1⟩ := r
    · have hv := decBigPtr_kept h s1 hk.inv
      dsimp only
      generalize decBigPtr s1 = r at hv ⊢
      obtain ⟨v, _ | e, s2⟩ := r
      · exact decMapEntries_kept h cnt _ s2 hv.inv
      · exact hv
    · exact hk

theorem decMap_kept (h : StreamInv P E) (s : Stream) (hs : P s) : KeptR P E (decMap s) := by
  have hl := h.sList s hs
  unfold decMap
  generalize sList s = r at hl ⊢
  obtain ⟨e | sz, s1⟩ := r
  · exact hl
  · dsimp only
    split
    · exact h.sListEnd s1 hl.inv
    · have hi := decInt_kept h 64 s1 hl.inv
      split
      · next len s2 heq =>
        rw [heq] at hi
        split
        · exact .err hi.inv (h.own _ (by decide))
        · have hm := decMapEntries_kept h len.toNat [] s2 hi.inv
          generalize decMapEntries len.toNat [] s2 = r at hm ⊢
          obtain ⟨e | kvs, s3⟩ := r
          · exact hm
          · exact h.sListEnd s3 hm.inv
      · next heq => rw [heq] at hi; exact hi

theorem decElems_kept (dec : Stream → DecR) (hd : ∀ s, P s → KeptR P E (dec s)) (hfuel : E .fuel) :
    ∀ (n : Nat) (acc : List Val) (s : Stream), P s → KeptR P E (decElems dec n acc s)
  | 0, acc, s, hs => .err hs hfuel
  | n + 1, acc, s, hs => by
    have hx := hd s hs
    unfold decElems
    split
    · next heq => rw [heq] at hx; exact .ok hx.inv
    · next heq => rw [heq] at hx; exact hx
    · next v s1 heq => rw [heq] at hx; exact decElems_kept dec hd hfuel n _ s1 hx.inv

theorem decArrElems_kept (dec : Stream → DecR) (zero : Val) (hd : ∀ s, P s → KeptR P E (dec s)) (hfew : E .tooFew) :
    ∀ (n : Nat) (acc : List Val) (s : Stream), P s → KeptR P E (decArrElems dec zero n acc s)
  | 0, acc, s, hs => .ok hs
  | n + 1, acc, s, hs => by
    have hx := hd s hs
    unfold decArrElems
    split
    · next heq => rw [heq] at hx; exact .err hx.inv hfew
    · next heq => rw [heq] at hx; exact hx
    · next v s1 heq => rw [heq] at hx; exact decArrElems_kept dec zero hd hfew n _ s1 hx.inv

theorem decFields_kept (dec : Ty → Stream → DecR) (zero : Ty → Val) (hd : ∀ t s, P s → KeptR P E (dec t s))
    (hfew : E .tooFew) : ∀ (ts : List Ty) (acc : List Val) (s : Stream), P s → KeptR P E (decFields dec zero ts acc s)
  | [], acc, s, hs => .ok hs
  | t :: ts, acc, s, hs => by
    have hx := hd t s hs
    unfold decFields
    split
    · next heq => rw [heq] at hx; exact .err hx.inv hfew
    · next heq => rw [heq] at hx; exact hx
    · next v s1 heq => rw [heq] at hx; exact decFields_kept dec zero hd hfew ts _ s1 hx.inv

theorem decV_kept (h : StreamInv P E) (env : Env) : ∀ (f : Nat) (t : Ty) (s : Stream), P s → KeptR P E (decV env f t s) := by
  intro f
  induction f with
  | zero => exact fun t s hs => .err hs (h.own _ (by decide))
  | succ f ih =>
    intro t s hs
    have close : ∀ r : DecR, KeptR P E r → KeptR P E (match r with
        | (v, some e, s) => (v, some e, s)
        | (v, none, s) => (v, (sListEnd s).1, (sListEnd s).2)) := by
      intro r hr
      obtain ⟨v, _ | e, s'⟩ := r
      · exact h.sListEnd s' hr.inv
      · exact hr
    cases t with
    | uint bits =>
      have hu := sUint_kept h bits s hs
      simp only [decV]
      generalize sUint bits s = r at hu ⊢
      obtain ⟨e | n, s'⟩ := r
      · exact hu
      · exact hu
    | int bits => exact decInt_kept h bits s hs
    | bool =>
      have hu := sUint_kept h 8 s hs
      simp only [decV]
      generalize sUint 8 s = r at hu ⊢
      obtain ⟨e | _ | _ | n, s'⟩ := r
      · exact hu
      · exact hu
      · exact hu
      · exact .err hu.inv (h.own _ (by decide))
    | bigptr => exact decBigPtr_kept h s hs
    | bigval => exact decBigVal_kept h s hs
    | bytes | string => exact decBytesLike_kept h s hs
    | bytearr n => exact decByteArr_kept h n s hs
    | time => exact decTime_kept h s hs
    | map20 => exact decMap_kept h s hs
    | slice e =>
      have hl := h.sList s hs
      simp only [decV]
      generalize sList s = r at hl ⊢
      obtain ⟨er | sz, s1⟩ := r
      · exact hl
      · dsimp only
        split
        · exact h.sListEnd s1 hl.inv
        · exact close _ (decElems_kept _ (ih e) (h.own _ (by decide)) _ [] s1 hl.inv)
    | arr n e =>
      have hl := h.sList s hs
      simp only [decV]
      generalize sList s = r at hl ⊢
      obtain ⟨er | sz, s1⟩ := r
      · exact hl
      · exact close _ (decArrElems_kept _ _ (ih e) (h.own _ (by decide)) n [] s1 hl.inv)
    | struct fs =>
      have hl := h.sList s hs
      simp only [decV]
      generalize sList s = r at hl ⊢
      obtain ⟨er | sz, s1⟩ := r
      · exact hl
      · dsimp only
        split
        · exact h.sListEnd s1 hl.inv
        · exact close _ (decFields_kept _ _ ih (h.own _ (by decide)) fs [] s1 hl.inv)
    | ptr e =>
      have hk := h.kindOf s hs
      simp only [decV]
      generalize kindOf s = r at hk ⊢
      obtain ⟨⟨k, sz, _ | er⟩, s1⟩ := r
      · dsimp only
        split
        · exact .ok (h.rearm _ hk.inv)
        · have he := ih e s1 hk.inv
          generalize decV env f e s1 = r at he ⊢
          obtain ⟨v, _ | er, s2⟩ := r
          · exact he
          · exact he
      · exact ⟨h.rearm _ hk.inv, hk.inE⟩
    | cptr a e | cval a e =>
      have he := ih e s hs
      simp only [decV]
      generalize decV env f e s = r at he ⊢
      obtain ⟨v, _ | er, s2⟩ := r
      · exact he
      · exact he
    | iface impl =>
      simp only [decV]
      by_cases he : atEnd s = true
      · rw [if_pos he]
        exact .err hs (h.own _ (by decide))
      · rw [if_neg he]
        have hb := readByte_kept h.toReadInv s hs
        generalize readByte s = r at hb ⊢
        obtain ⟨er | b0, s1⟩ := r
        · exact hb
        · dsimp only
          split
          · exact .ok hb.inv
          · have hn := readN_kept h.toReadInv 6 s1 hb.inv
            generalize readN 6 s1 = r at hn ⊢
            obtain ⟨er | bs, s2⟩ := r
            · exact hn
            · dsimp only
              split
              · exact .err hn.inv (h.own _ (by decide))
              · split
                · exact .err hn.inv (h.own _ (by decide))
                · split
                  · exact .err hn.inv (h.own _ (by decide))
                  · next id _ => exact .ok (ih (.ref id) s2 hn.inv).inv
    | ref id =>
      simp only [decV]
      split
      · next t' _ => exact ih t' s hs
      · exact .err hs (h.own _ (by decide))
    | split a d => exact ih d s hs
    | unsupported => exact .err hs (h.own _ (by decide))

end

end Props.C11
