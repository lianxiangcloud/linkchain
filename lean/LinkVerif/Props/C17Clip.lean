/-
C17: the clip arithmetic regenerated from `types/validator_set.go` saturates instead of
wrapping.  These theorems are about `Gen.ValSetArith.*`, i.e. about what the Go source says NOW.

The int64 bounds stay folded (`minI64`, `maxI64`) wherever only their signs matter: `omega` on the 19-digit literals is
several times slower to check.
-/
import LinkVerif.Go.Int
import LinkVerif.Gen.ValSetArith

namespace Props.C17
open Go Gen.ValSetArith

theorem clampI64_id {x : Int} (h : InI64 x) : clampI64 x = x := by
  unfold clampI64; rw [if_neg (Int.not_lt.2 h.1), if_neg (Int.not_lt.2 h.2)]

theorem clampI64_out {x : Int} (h : ¬ InI64 x) : clampI64 x = if x ≤ maxI64 then minI64 else maxI64 := by
  unfold clampI64
  by_cases hx : x ≤ maxI64
  · rw [if_pos hx, if_pos (Int.not_le.1 fun hm => h ⟨hm, hx⟩)]
  · rw [if_neg hx, if_neg fun hl => hx (Int.le_trans (Int.le_of_lt hl) (by decide)), if_pos (Int.not_le.1 hx)]

/-- the shape `safeAdd` and `safeSub` share: two guards that together say "the exact result `x` does not fit" -/
theorem guarded_wrap {x : Int} {P Q : Prop} [Decidable P] [Decidable Q] (h : P ∨ Q ↔ ¬ InI64 x) :
    (if P then ((-1 : Int), true) else if Q then (-1, true) else (wrapI64 x, false)) = if InI64 x then (x, false) else (-1, true) := by
  by_cases hin : InI64 x
  · have hn : ¬ (P ∨ Q) := fun hpq => h.1 hpq hin
    rw [if_neg fun p => hn (Or.inl p), if_neg fun q => hn (Or.inr q), wrapI64_id hin, if_pos hin]
  · rw [if_neg hin]
    by_cases p : P
    · rw [if_pos p]
    · rw [if_neg p, if_pos ((h.2 hin).resolve_left p)]

/-- the shape the three clip functions share: an overflow-checked result `r` for the exact value `x`, and on overflow
the bound picked by a flag `c` that says "not above" -/
theorem clip_of_spec {r : Int × Bool} {x v : Int} {c : Bool} (hr : r = if InI64 x then (x, false) else (v, true))
    (hc : ¬ InI64 x → (c = true ↔ x ≤ maxI64)) :
    (if r.2 then (if c then minI64 else maxI64) else r.1) = clampI64 x := by
  subst hr
  by_cases hin : InI64 x
  · rw [if_pos hin, clampI64_id hin]; rfl
  · rw [if_neg hin, if_pos rfl, clampI64_out hin]; exact ite_congr (propext (hc hin)) (fun _ => rfl) (fun _ => rfl)

theorem eq_of_wrapI64_near {p c : Int} (hc : wrapI64 p = c)
    (hnear : -9223372036854775808 < c - p ∧ c - p < 9223372036854775808) : c = p := by
  unfold wrapI64 at hc; omega

theorem near_of_natAbs_lt {r b : Int} (h : r.natAbs < b.natAbs) (hb : InI64 b) :
    -9223372036854775808 < r ∧ r < 9223372036854775808 := by
  unfold InI64 minI64 maxI64 at hb; omega

/-- a quotient of an int64 leaves the range only as `minI64 / -1 = 2^63`, and that wraps to `minI64` -/
theorem tdiv_eq_of_wrapI64_eq {c b a : Int} (hc : InI64 c) (h : wrapI64 (c.tdiv b) = a) (ha : a ≠ minI64) :
    c.tdiv b = a := by
  have hq := Int.natAbs_tdiv_le_natAbs c b
  unfold InI64 minI64 maxI64 at hc
  unfold wrapI64 at h
  unfold minI64 at ha
  omega

variable (a b : Int) (ha : InI64 a) (hb : InI64 b)
include ha hb

theorem safeAdd_spec : safeAdd a b = if InI64 (a + b) then (a + b, false) else (-1, true) := by
  simp only [safeAdd, Bool.and_eq_true, decide_eq_true_eq]
  apply guarded_wrap
  -- a threshold in range is not wrapped, and each guard is live only on the side of `b = 0` where its threshold is in range
  have hu := wrapI64_id (x := maxI64 - b)
  have hl := wrapI64_id (x := minI64 - b)
  have h0 : minI64 ≤ 0 := by decide
  have h1 : 0 ≤ maxI64 := by decide
  unfold InI64 at *
  omega

theorem safeSub_spec : safeSub a b = if InI64 (a - b) then (a - b, false) else (-1, true) := by
  simp only [safeSub, Bool.and_eq_true, decide_eq_true_eq]
  apply guarded_wrap
  have hl := wrapI64_id (x := minI64 + b)
  have hu := wrapI64_id (x := maxI64 + b)
  have h0 : minI64 ≤ 0 := by decide
  have h1 : 0 ≤ maxI64 := by decide
  unfold InI64 at *
  omega

theorem safeAddClip_saturates : safeAddClip a b = clampI64 (a + b) :=
  -- the sum left the range on the side `b` points to
  clip_of_spec (safeAdd_spec a b ha hb) fun hin => by
    unfold InI64 at *; simp only [decide_eq_true_eq]; omega

theorem safeSubClip_saturates : safeSubClip a b = clampI64 (a - b) :=
  clip_of_spec (safeSub_spec a b ha hb) fun hin => by
    unfold InI64 at *; simp only [decide_eq_true_eq]; omega

/-- the overflow test `c/b != a` of `safeMul` is exact (for operands the earlier branches let through) -/
theorem mul_overflow_test (hb0 : b ≠ 0) (hamin : a ≠ minI64) :
    (wrapI64 (Int.tdiv (wrapI64 (a * b)) b) ≠ a) ↔ ¬ InI64 (a * b) := by
  constructor
  · intro h hin
    apply h
    rw [wrapI64_id hin, Int.mul_tdiv_cancel a hb0, wrapI64_id ha]
  · intro hout heq
    -- the quotient is `a`, so the wrapped product is `a * b + r` with `|r| < |b| ≤ 2^63`: nothing was wrapped
    have hq := tdiv_eq_of_wrapI64_eq (wrapI64_in (a * b)) heq hamin
    have hdiv := Int.mul_tdiv_add_tmod (wrapI64 (a * b)) b
    have hr : (Int.tmod (wrapI64 (a * b)) b).natAbs < b.natAbs := by
      rw [Int.natAbs_tmod]; exact Nat.mod_lt _ (Int.natAbs_pos.mpr hb0)
    have hnear := near_of_natAbs_lt hr hb
    rw [hq, Int.mul_comm] at hdiv
    have hc : wrapI64 (a * b) = a * b := eq_of_wrapI64_near rfl (by omega)
    exact hout (hc ▸ wrapI64_in (a * b))

/-- `safeMul` returns the product when it fits and raises its flag when it does not
(then its first component is -1 or the wrapped product, and `safeMulClip` ignores it) -/
theorem safeMul_spec : ∃ v, safeMul a b = if InI64 (a * b) then (a * b, false) else (v, true) := by
  simp only [safeMul, Bool.or_eq_true, decide_eq_true_eq]
  split
  · rename_i h0
    have hz : a * b = 0 := by rcases h0 with rfl | rfl <;> simp
    exact ⟨0, by rw [hz, if_pos (by decide)]⟩
  split
  · rename_i h1; subst h1; exact ⟨0, by rw [Int.one_mul, if_pos hb]⟩
  split
  · rename_i h1; subst h1; exact ⟨0, by rw [Int.mul_one, if_pos ha]⟩
  split
  · -- `minI64` times anything but 0 and 1 does not fit
    rename_i h0 ha1 hb1 hmin
    have hout : ¬ InI64 (a * b) := by
      unfold InI64 minI64 maxI64 at *
      rcases hmin with rfl | rfl <;> omega
    exact ⟨-1, by rw [if_neg hout]⟩
  · rename_i h0 ha1 hb1 hmin
    have htest := mul_overflow_test a b ha hb (fun h => h0 (Or.inr h)) (fun h => hmin (Or.inl h))
    refine ⟨wrapI64 (a * b), ?_⟩
    by_cases hin : InI64 (a * b)
    · rw [if_pos hin, decide_eq_false fun h => htest.1 h hin, wrapI64_id hin]
    · rw [if_neg hin, decide_eq_true (htest.2 hin)]

theorem safeMulClip_saturates : safeMulClip a b = clampI64 (a * b) := by
  obtain ⟨v, hv⟩ := safeMul_spec a b ha hb
  refine clip_of_spec hv fun hin => ?_
  -- the product is out of range on the side its sign says
  have h0 : minI64 ≤ 0 := by decide
  have h1 : 0 ≤ maxI64 := by decide
  unfold InI64 at hin
  by_cases han : a < 0 <;> by_cases hbn : b < 0 <;> simp [han, hbn]
  · have := Int.mul_nonneg_of_nonpos_of_nonpos (Int.le_of_lt han) (Int.le_of_lt hbn); omega
  · have := Int.mul_nonpos_of_nonpos_of_nonneg (Int.le_of_lt han) (Int.not_lt.1 hbn); omega
  · have := Int.mul_nonpos_of_nonneg_of_nonpos (Int.not_lt.1 han) (Int.le_of_lt hbn); omega
  · have := Int.mul_nonneg (Int.not_lt.1 han) (Int.not_lt.1 hbn); omega

end Props.C17
