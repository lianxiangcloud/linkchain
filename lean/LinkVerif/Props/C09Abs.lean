/-
C09: the abstraction `abs` under which a journal undo is an exact inverse, and the commutation of every undo entry
with it (`abs_undo`): the effect of `journalEntry.revert` on the abstraction depends only on the abstraction.

`abs` forgets exactly what a revert does not restore and no getter can see: zero-valued token entries, which storage
values sit in `dirtyStorage` rather than behind it, the dirty flags, revision ids.  It keeps the SHAPE of the token store
(private map / shared heap cell `r`) and the whole heap, so aliasing between objects is not assumed away.
-/
import LinkVerif.Model.StateDB

namespace Props.C09
open Model.StateDB

inductive TokV where
  | inl (f : Tok → Int)
  | shared (r : Ref)

structure OV where
  nonce : Nat
  credits : Nat
  balance : Int
  toks : TokV
  code : Bytes
  stor : Key → Bytes
  suicided : Bool

structure Abs where
  heap : Ref → Tok → Int
  acct : Addr → Option OV
  trieV : Addr → Option OV
  refund : Nat
  logs : Nat → List Log
  logSize : Nat
  pre : Nat → Option Bytes

def viewToks : TokStore → TokV
  | .inl m => .inl (fun t => (m t).getD 0)
  | .shared r => .shared r

def viewObj (o : Obj) : OV :=
  { nonce := o.nonce, credits := o.credits, balance := o.balance, toks := viewToks o.toks, code := o.code, stor := getState o,
    suicided := o.suicided }

def abs (c : Ctx) : Abs :=
  { heap := fun r t => (c.heap r t).getD 0
    acct := fun a => (peek c.st a).map viewObj
    trieV := fun a => (c.st.trie a).map (fun x => viewObj (loadObj x))
    refund := c.st.refund, logs := c.st.logs, logSize := c.st.logSize, pre := c.st.preimages }

/-- the property's observables are a function of the abstraction -/
def obsOV (heap : Ref → Tok → Int) (v : OV) : AccObs :=
  { nonce := v.nonce, credits := v.credits, balance := v.balance
    tok := match v.toks with
      | .inl f => f
      | .shared r => heap r
    code := v.code, stor := v.stor, suicided := v.suicided
    empty := v.nonce == 0 && v.balance == 0 && v.code.isEmpty }

def obsA (x : Abs) : Obs :=
  { acct := fun a => (x.acct a).map (obsOV x.heap), refund := x.refund, logs := x.logs, logSize := x.logSize, preimages := x.pre }

theorem obs_eq_obsA (c : Ctx) : obs c = obsA (abs c) := by
  simp only [obs, obsA, abs]
  congr 1
  funext a
  cases h : peek c.st a with
  | none => simp
  | some o =>
    simp only [Option.map_some, obsObj, obsOV, viewObj, Obj.isEmpty, tokMapOf]
    cases o.toks <;> simp [viewToks]

theorem obs_of_abs {c c' : Ctx} (h : abs c = abs c') : obs c = obs c' := by
  rw [obs_eq_obsA, obs_eq_obsA, h]

def modA (x : Abs) (a : Addr) (f : OV → OV) : Abs :=
  match x.acct a with
  | none => x
  | some v => { x with acct := upd x.acct a (some (f v)) }

def modTokA (x : Abs) (a : Addr) (t : Tok) (v : Int) : Abs :=
  match x.acct a with
  | none => x
  | some o =>
    match o.toks with
    | .inl f => { x with acct := upd x.acct a (some { o with toks := .inl (upd f t v) }) }
    | .shared r => { x with heap := upd x.heap r (upd (x.heap r) t v) }

def mergeV (pos : Tok → Option Int) (f : Tok → Int) : Tok → Int := fun t => (pos t).getD (f t)

def restoreToksA (x : Abs) (a : Addr) (pos : Tok → Option Int) : Abs :=
  match x.acct a with
  | none => x
  | some o =>
    match o.toks with
    | .inl f => { x with acct := upd x.acct a (some { o with toks := .inl (mergeV pos f) }) }
    | .shared r => { x with heap := upd x.heap r (mergeV pos (x.heap r)) }

def undoA (e : Entry) (x : Abs) : Abs :=
  match e with
  | .createObject a => { x with acct := upd x.acct a (x.trieV a) }
  | .resetObject a prev => { x with acct := upd x.acct a (some (viewObj prev)) }
  | .suicide a prev bp tp => restoreToksA (modA x a (fun o => { o with suicided := prev, balance := bp.getD o.balance })) a tp
  | .balance a prev => modA x a (fun o => { o with balance := prev })
  | .nonce a prev => modA x a (fun o => { o with nonce := prev })
  | .credits a prev => modA x a (fun o => { o with credits := prev })
  | .storage a k prev => modA x a (fun o => { o with stor := upd o.stor k prev })
  | .code a prev => modA x a (fun o => { o with code := prev })
  | .refund prev => { x with refund := prev }
  | .addLog tx => { x with logs := upd x.logs tx (x.logs tx).dropLast, logSize := x.logSize - 1 }
  | .touch _ => x
  | .addPreimage p => { x with pre := upd x.pre p none }
  | .tokenBalance a t prev => modTokA x a t (prev.getD 0)

theorem upd_self {β : Type} (f : Nat → β) (k : Nat) : upd f k (f k) = f := by
  funext x; by_cases hx : x = k <;> simp [upd, hx]

theorem upd_upd {β : Type} (f : Nat → β) (k : Nat) (v w : β) : upd (upd f k v) k w = upd f k w := by
  funext x; by_cases hx : x = k <;> simp [upd, hx]

@[simp] theorem peek_putObj (c : Ctx) (a : Addr) (o : Obj) (b : Addr) :
    peek (putObj c a o).st b = if b = a then (if o.deleted then none else some o) else peek c.st b := by
  by_cases h : b = a
  · subst h; simp [peek, putObj]
  · simp [peek, putObj, h]

@[simp] theorem peek_push (c : Ctx) (e : Entry) : peek (push c e).st = peek c.st := by
  funext b; simp [peek, push]

@[simp] theorem heap_putObj (c : Ctx) (a : Addr) (o : Obj) : (putObj c a o).heap = c.heap := rfl
@[simp] theorem heap_push (c : Ctx) (e : Entry) : (push c e).heap = c.heap := rfl

theorem peek_eq_some {s : State} {a : Addr} {o : Obj} (h : peek s a = some o) :
    (s.objs a = some o ∧ o.deleted = false) ∨ ∃ x, s.trie a = some x ∧ loadObj x = o := by
  unfold peek at h
  cases ho : s.objs a with
  | some o' =>
    simp only [ho] at h
    split at h
    · cases h
    · next hd => cases h; exact Or.inl ⟨rfl, by simpa using hd⟩
  | none =>
    simp only [ho, Option.map_eq_some_iff] at h
    exact Or.inr h

theorem peek_not_deleted {s : State} {a : Addr} {o : Obj} (h : peek s a = some o) : o.deleted = false := by
  rcases peek_eq_some h with ⟨_, hd⟩ | ⟨x, _, rfl⟩
  · exact hd
  · rfl

theorem writeTokO_deleted (o : Obj) (t : Tok) (v : Option Int) : (writeTokO o t v).deleted = o.deleted := by
  unfold writeTokO; cases o.toks <;> rfl

/-- the token write that `modTok`, `zeroInsert` and `setTokenBalance` all perform -/
def writeTok (c : Ctx) (a : Addr) (o : Obj) (t : Tok) (v : Option Int) : Ctx :=
  putObj { c with heap := writeTokH c.heap o t v } a (writeTokO o t v)

theorem modTok_of_peek {c : Ctx} {a : Addr} {o : Obj} (h : peek c.st a = some o) (t : Tok) (v : Option Int) :
    modTok c a t v = writeTok c a o t v := by
  simp only [modTok, h, writeTok]

theorem writeTok_inl (c : Ctx) (a : Addr) {o : Obj} {m : TokMap} (hm : o.toks = .inl m) (t : Tok) (v : Option Int) :
    writeTok c a o t v = putObj c a { o with toks := .inl (upd m t v) } := by
  simp only [writeTok, writeTokH, writeTokO, hm]

theorem setTokenBalance_of_ne (cfg : Cfg) (c : Ctx) (a : Addr) (o : Obj) {t : Tok} (ht : t ≠ 0) (v : Int) :
    setTokenBalance cfg c a o t v =
      let z := zeroInsert cfg c a o t
      let s := setCredits z.1 a z.2 (z.2.credits + 1)
      writeTok (push s.1 (.tokenBalance a t (tokMapOf s.1.heap s.2 t))) a s.2 t (some v) := by
  simp only [setTokenBalance, if_neg ht]
  rfl

theorem getState_dirty_upd (o : Obj) (k : Key) (v : Bytes) :
    getState { o with dirty := upd o.dirty k (some v) } = upd (getState o) k v := by
  funext x
  by_cases h : x = k
  · subst h; simp [getState]
  · simp [getState, h, committed]

theorem abs_putObj (c : Ctx) (a : Addr) (o : Obj) (hd : o.deleted = false) :
    abs (putObj c a o) = { abs c with acct := upd (abs c).acct a (some (viewObj o)) } := by
  simp only [abs]
  congr 1
  funext b
  by_cases hb : b = a
  · subst hb; simp [hd]
  · simp [hb]

@[simp] theorem abs_push (c : Ctx) (e : Entry) : abs (push c e) = abs c := by
  simp [abs, push, peek]

theorem abs_acct {c : Ctx} {a : Addr} {o : Obj} (h : peek c.st a = some o) : (abs c).acct a = some (viewObj o) := by
  simp [abs, h]

theorem abs_putObj_view (c : Ctx) (a : Addr) (o o' : Obj) (h : peek c.st a = some o) (hv : viewObj o' = viewObj o)
    (hd : o'.deleted = false) : abs (putObj c a o') = abs c := by
  rw [abs_putObj c a o' hd, hv, ← abs_acct h, upd_self]

theorem abs_modObj (c : Ctx) (a : Addr) (f : Obj → Obj) (g : OV → OV)
    (hd : ∀ o, (f o).deleted = o.deleted) (hv : ∀ o, viewObj (f o) = g (viewObj o)) :
    abs (modObj c a f) = modA (abs c) a g := by
  unfold modObj modA
  cases h : peek c.st a with
  | none => simp [abs, h]
  | some o => simp only [abs_acct h]; rw [abs_putObj c a _ ((hd o).trans (peek_not_deleted h)), hv]

theorem getD_upd (m : TokMap) (t : Tok) (v : Option Int) :
    (fun x => (upd m t v x).getD 0) = upd (fun x => (m x).getD 0) t (v.getD 0) := by
  funext x
  by_cases hx : x = t
  · subst hx; simp
  · simp [hx]

theorem getState_congr (o o' : Obj) (h1 : o'.dirty = o.dirty) (h2 : o'.origin = o.origin) (h3 : o'.strie = o.strie) :
    getState o' = getState o := by
  funext k; simp [getState, committed, h1, h2, h3]

theorem getState_toks (o : Obj) (ts : TokStore) : getState { o with toks := ts } = getState o :=
  getState_congr o _ rfl rfl rfl

theorem abs_heapCell {c : Ctx} {a : Addr} {o : Obj} (h : peek c.st a = some o) (r : Ref) (m : TokMap) (g : Tok → Int)
    (hg : (fun t => (m t).getD 0) = g) :
    abs (putObj { c with heap := upd c.heap r m } a o) = { abs c with heap := upd (abs c).heap r g } := by
  rw [abs_putObj_view { c with heap := upd c.heap r m } a o o h rfl (peek_not_deleted h)]
  simp only [abs]
  congr 1
  funext r'
  by_cases hr : r' = r
  · subst hr; simp only [upd_same]; exact hg
  · simp [hr]

theorem abs_modTok (c : Ctx) (a : Addr) (t : Tok) (v : Option Int) :
    abs (modTok c a t v) = modTokA (abs c) a t (v.getD 0) := by
  unfold modTokA
  cases h : peek c.st a with
  | none => simp [modTok, abs, h]
  | some o =>
    have hnd := peek_not_deleted h
    rw [modTok_of_peek h]
    simp only [abs_acct h]
    cases ht : o.toks with
    | inl m =>
      rw [writeTok_inl c a ht, abs_putObj c a { o with toks := .inl (upd m t v) } hnd]
      simp only [viewObj, viewToks, ht, getD_upd, getState_toks]
    | shared r =>
      simp only [writeTok, writeTokH, writeTokO, ht, viewObj, viewToks]
      exact abs_heapCell h r _ _ (getD_upd _ t v)

theorem getD_merge (pos : Tok → Option Int) (m : TokMap) :
    (fun t => (mergeToks pos m t).getD 0) = mergeV pos (fun t => (m t).getD 0) := by
  funext t
  simp only [mergeToks, mergeV]
  cases pos t <;> simp

theorem abs_restoreToks (c : Ctx) (a : Addr) (pos : Tok → Option Int) :
    abs (restoreToks c a pos) = restoreToksA (abs c) a pos := by
  unfold restoreToksA
  cases h : peek c.st a with
  | none => simp [restoreToks, abs, h]
  | some o =>
    have hnd := peek_not_deleted h
    simp only [abs_acct h]
    cases ht : o.toks with
    | inl m =>
      simp only [restoreToks, h, ht]
      rw [abs_putObj c a { o with toks := .inl (mergeToks pos m) } hnd]
      simp only [viewObj, viewToks, ht, getD_merge, getState_toks]
    | shared r =>
      simp only [restoreToks, h, ht, viewObj, viewToks]
      exact abs_heapCell h r _ _ (getD_merge pos _)

theorem abs_undo (e : Entry) (c : Ctx) : abs (undo e c) = undoA e (abs c) := by
  cases e with
  | createObject a =>
    simp only [undo, undoA, abs]
    congr 1
    funext b
    by_cases hb : b = a
    · subst hb; simp only [peek, upd_same, Option.map_map]; rfl
    · simp only [peek, upd_other _ _ _ _ hb]
  | resetObject a prev => exact abs_putObj c a _ rfl
  | suicide a prev bp tp =>
    simp only [undo, undoA]
    rw [abs_restoreToks, abs_modObj c a (fun o => { o with suicided := prev, balance := bp.getD o.balance })
      (fun o => { o with suicided := prev, balance := bp.getD o.balance }) (fun _ => rfl) (fun _ => rfl)]
  | balance a prev => exact abs_modObj c a _ _ (fun _ => rfl) (fun _ => rfl)
  | nonce a prev => exact abs_modObj c a _ _ (fun _ => rfl) (fun _ => rfl)
  | credits a prev => exact abs_modObj c a _ _ (fun _ => rfl) (fun _ => rfl)
  | storage a k prev =>
    exact abs_modObj c a _ (fun o => { o with stor := upd o.stor k prev }) (fun _ => rfl)
      (fun o => by simp [viewObj, getState_dirty_upd])
  | code a prev => exact abs_modObj c a _ _ (fun _ => rfl) (fun _ => rfl)
  | refund prev => rfl
  | addLog tx => rfl
  | touch a => rfl
  | addPreimage p => rfl
  | tokenBalance a t prev => exact abs_modTok c a t prev

def undoList : List Entry → Ctx → Ctx
  | [], c => c
  | e :: rest, c => undoList rest (undo e c)

theorem undoList_append (es fs : List Entry) (c : Ctx) : undoList (es ++ fs) c = undoList fs (undoList es c) := by
  induction es generalizing c with
  | nil => rfl
  | cons e rest ih => simp [undoList, ih]

theorem abs_undoList_congr (es : List Entry) {c c' : Ctx} (h : abs c = abs c') :
    abs (undoList es c) = abs (undoList es c') := by
  induction es generalizing c c' with
  | nil => exact h
  | cons e rest ih => exact ih (by rw [abs_undo, abs_undo, h])

end Props.C09
