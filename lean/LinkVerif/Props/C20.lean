/-
C20 — contract execution is metered, atomic and crash-free: theorems about the metering skeleton `Model.Evm`
over the jump table extracted from vm/evm/jump_table.go (`Gen.EvmTable.rows`).

Opcode semantics are parameters (`Sem`); what is proved is what `Interpreter.Run` and the `evm.Call…` wrappers do
with gas, pc, the stack bound, snapshots and the `Issued` channel, for EVERY instantiation of the parameters.

One interpreter iteration is characterised by `Outcome` (`step_outcome`), the loop by `runFrame_rel`; the invariants
of a step, a frame and a call tree are read off these.
-/
import LinkVerif.Model.Evm

namespace Props.C20
open Model.Evm Gen.EvmTable

/-! ## facts about the extracted table (re-checked by `decide` whenever jump_table.go changes) -/

/-- every entry that leaves the pc alone (`jumps`) is priced by a constant ≥ 1 and does not enter a frame:
    the frameMeasure argument of `frame_terminates` rests on this -/
theorem jumps_priced : rows.all (fun r => !r.jumps || ((match r.gasConst with | some c => decide (1 ≤ c) | none => false) && !entersFrame r)) = true := by
  decide +kernel

/-- ISSUE is a state-modifying entry, so a read-only frame cannot send on the `Issued` channel -/
theorem issue_writes : rows.all (fun r => !isIssue r || r.writes) = true := by decide +kernel

/-- opcode 0 (what `GetOp` returns past the end of the code) halts -/
theorem op0_halts : (match lookup 0 with | some r => r.halts | none => false) = true := by decide

theorem push_at_most_one_more : rows.all (fun r => decide (r.push ≤ r.pop + 1)) = true := by decide +kernel

theorem call_ops_continue : rows.all (fun r => !entersFrame r || (!r.halts && !r.reverts && !r.jumps)) = true := by decide +kernel

/-- the stipend a value call hands to the callee is covered by CallValueTransferGas, which the caller pays -/
theorem stipend_le_transfer : callStipend ≤ callValueTransferGas := by decide

/-- `callGas` takes the 63/64 branch (`gasTable.CreateBySuicide > 0`) -/
theorem create_by_suicide_pos : 0 < gtCreateBySuicide := by decide

theorem lookup_mem {op : Nat} {r : Row} (h : lookup op = some r) : r ∈ rows :=
  List.mem_of_find?_eq_some h

theorem jumps_cost_pos {r : Row} (hr : r ∈ rows) (hj : r.jumps = true) (c0 fee : Nat) : 0 < plainCost r c0 fee := by
  have h := List.all_eq_true.mp jumps_priced r hr
  simp [hj] at h
  unfold plainCost
  cases hc : r.gasConst with
  | none => simp [hc] at h
  | some c => exact (by simpa [hc] using h.1 : 1 ≤ c)

theorem getOp_past_end (code : List Nat) (pc : Nat) (h : code.length ≤ pc) : getOp code pc = 0 := by
  unfold getOp
  simp [List.getD, List.getElem?_eq_none h]

variable {W L : Type}

def stepGas : StepRes W L → Nat
  | .cont f => f.gas
  | .halt r => r.gas

def stepGlob : StepRes W L → Glob
  | .cont f => f.glob
  | .halt r => r.glob

def stepIssued : StepRes W L → Bool
  | .cont f => f.issued
  | .halt r => r.issued

def stepWork : StepRes W L → Nat
  | .cont f => f.work
  | .halt r => r.work

/-- `Σ evm.fees + Σ evm.refundFees` = `RefundAllFee()` -/
def ledger (g : Glob) : Nat := g.fees + g.refunds

/-- the gas a frame result is worth to its caller: a failed frame's gas is burnt by the wrapper -/
def resGas (r : FrameRes W) : Nat := if r.status == .ok || r.status == .reverted then r.gas else 0

/-- the gas a step result is worth: a frame that goes on has its gas, one that ends has `resGas`.  The fee bound is
    stated with it (a failed frame may fill the ledger up to the gas it then burns); `stepGas` is the raw counter -/
def effGas : StepRes W L → Nat
  | .cont f => f.gas
  | .halt r => resGas r

/-- the law every call wrapper is shown to satisfy (`gas_bounded`): it hands back at most the gas it was handed -/
def SubOk (sub : SubCall W) : Prop := ∀ req ro g, (sub req ro g).gas ≤ req.fwd

def SubStatic (sub : SubCall W) : Prop :=
  ∀ req g, ledger (sub req true g).glob = ledger g ∧ (sub req true g).issued = false

def SubFees (sub : SubCall W) : Prop :=
  ∀ req ro g, ledger (sub req ro g).glob + (sub req ro g).gas ≤ ledger g + req.fwd

def SubWork (sub : SubCall W) : Prop :=
  ∀ req ro g, g.iss = none → (sub req ro g).issued = false →
    (sub req ro g).work + (sub req ro g).gas ≤ req.fwd ∧ (sub req ro g).glob.iss = none

/-- the law of `execute` (instructions.go): an entry that finds its `pop` operands pops them and pushes `push` words;
    a fresh frame starts with an empty stack -/
structure StackLaw (sem : Sem W L) : Prop where
  fresh : sem.stackLen sem.l0 = 0
  next : ∀ r pc g l w l' w' j, r.pop ≤ sem.stackLen l → sem.exec r pc g l w = .next l' w' j →
    sem.stackLen l' + r.pop = sem.stackLen l + r.push
  call : ∀ r pc g l w req k, r.pop ≤ sem.stackLen l → sem.exec r pc g l w = .call req k →
    ∀ res, sem.stackLen (k res) + r.pop = sem.stackLen l + r.push

theorem resGas_le (r : FrameRes W) : resGas r ≤ r.gas := by
  unfold resGas
  split
  · exact Nat.le_refl _
  · exact Nat.zero_le _

/-- `callGas` of vm/evm/gas.go as long as the base price is covered: the gas reserved for the callee is at most all but
    one 64th of what is left after the base price -/
theorem callGas_63_64 (avail base requested : Nat) (hb : base ≤ avail) (ha : avail < 2 ^ 64) :
    callGasU64 avail base requested ≤ (avail - base) - (avail - base) / 64 := by
  unfold callGasU64
  -- no wrap: `(avail + 2^64 - base) mod 2^64 = avail - base`
  have h1 : base % 2 ^ 64 = base := Nat.mod_eq_of_lt (Nat.lt_of_le_of_lt hb ha)
  have h2 : (avail + 2 ^ 64 - base) % 2 ^ 64 = avail - base := by
    rw [Nat.add_comm, Nat.add_sub_assoc hb, Nat.add_mod_left]
    exact Nat.mod_eq_of_lt (Nat.lt_of_le_of_lt (Nat.sub_le _ _) ha)
  simp only [h1, h2]
  generalize (avail - base) - (avail - base) / 64 = g
  split
  · exact Nat.le_refl _
  · rename_i h
    exact Nat.le_of_not_lt fun hlt => h (.inr hlt)

/-- `callGas` reserves at most what was requested unless the request does not fit 64 bits (the third disjunct is a case
    of the first; for the cap see `callGas_63_64`) -/
theorem callGas_le_requested_or_cap (avail base requested : Nat) :
    callGasU64 avail base requested ≤ requested ∨ 2 ^ 64 ≤ requested ∨
      callGasU64 avail base requested < requested := by
  unfold callGasU64
  simp only []
  generalize (avail + 2 ^ 64 - base % 2 ^ 64) % 2 ^ 64 = a
  generalize a - a / 64 = g
  split
  · rename_i h
    exact .inr h
  · exact .inl (Nat.le_refl _)

theorem createTake_le (r : Row) (g : Nat) : createTake r g ≤ g := by
  unfold createTake
  split
  · exact Nat.le_refl _
  · exact Nat.sub_le _ _

theorem callBase_covers (hv : Bool) (fee extra : Nat) : stipendOf hv + fee ≤ callBase hv fee extra := by
  unfold callBase stipendOf
  refine Nat.le_trans ?_ (Nat.le_add_right _ extra)
  refine Nat.add_le_add_right ?_ fee
  cases hv
  · exact Nat.zero_le _
  · exact Nat.le_trans stipend_le_transfer (Nat.le_add_left _ _)

theorem plainFee_le_cost (sem : Sem W L) (f : Frame W L) (r : Row) (c0 : Nat) :
    plainFee sem f r ≤ plainCost r c0 (plainFee sem f r) := by
  unfold plainFee plainCost
  split <;> simp

theorem plainFee_eq_zero (sem : Sem W L) (f : Frame W L) (r : Row) (hw : r.writes = false) : plainFee sem f r = 0 := by
  unfold plainFee
  split <;> simp [hw]

theorem callFee_eq_zero (r : Row) (hv : Bool) (a : CallArgs) (h : (isPlainCallOp r && hv) = false) : callFee r hv a = 0 := by
  unfold callFee
  simp [h]

theorem ledger_moveToRefunds (r : Row) (b : Bool) (before : Nat) (g : Glob) :
    ledger (moveToRefunds r b before g) = ledger g := by
  unfold moveToRefunds
  split
  · -- what leaves `fees` (everything above `before`) is what enters `refunds`
    show min g.fees before + (g.refunds + (g.fees - before)) = g.fees + g.refunds
    rw [Nat.add_left_comm, Nat.add_comm (min _ _), Nat.sub_add_min_cancel, Nat.add_comm]
  · rfl

theorem moveToRefunds_iss (r : Row) (b : Bool) (before : Nat) (g : Glob) : (moveToRefunds r b before g).iss = g.iss := by
  unfold moveToRefunds
  split <;> rfl

theorem moveToRefunds_ledger (r : Row) (b : Bool) (before : Nat) (g : Glob) :
    ledger (moveToRefunds r b before g) = ledger g ∧ (moveToRefunds r b before g).iss = g.iss :=
  ⟨ledger_moveToRefunds r b before g, moveToRefunds_iss r b before g⟩

theorem oogLedger_ledger_le (g : Glob) (gas cost fee : Nat) : ledger (oogLedger g gas cost fee) ≤ ledger g + gas := by
  unfold oogLedger
  split
  · show g.fees + (gas - (cost - fee)) + g.refunds ≤ g.fees + g.refunds + gas
    rw [Nat.add_right_comm]
    exact Nat.add_le_add_left (Nat.sub_le _ _) _
  · exact Nat.le_add_right _ _

theorem oogLedger_iss (g : Glob) (gas cost fee : Nat) : (oogLedger g gas cost fee).iss = g.iss := by
  unfold oogLedger
  split <;> rfl

theorem oogLedger_of_no_fee (g : Glob) (gas cost : Nat) : oogLedger g gas cost 0 = g :=
  if_neg fun h => Nat.lt_irrefl 0 h.1

theorem oogLedger_bound (g : Glob) (gas cost fee : Nat) :
    ledger (oogLedger g gas cost fee) ≤ ledger g + gas ∧ (oogLedger g gas cost fee).iss = g.iss ∧
    (fee = 0 → oogLedger g gas cost fee = g) :=
  ⟨oogLedger_ledger_le g gas cost fee, oogLedger_iss g gas cost fee, fun h => h ▸ oogLedger_of_no_fee g gas cost⟩

theorem ledger_iss (c : Bool) (g : Glob) (t : Token) : ledger (if c then { g with iss := t } else g) = ledger g := by
  split <;> rfl

theorem ledger_add_fee (g : Glob) (fee : Nat) : ledger { g with fees := g.fees + fee } = ledger g + fee := by
  simp only [ledger]; omega

structure Reads (s : StepRes W L) (g : Nat) (gl : Glob) (wk : Nat) (i : Bool) : Prop where
  gas : stepGas s = g
  glob : stepGlob s = gl
  work : stepWork s = wk
  issued : stepIssued s = i
  effGas : effGas s = g

section finish
variable (r : Row) (f : Frame W L) (g : Nat) (l' : L) (w' : W) (pc' : Nat) (gl : Glob) (wk : Nat) (i : Bool)

/-- `effGas` as well: none of the statuses `finishStep` sets burns the gas -/
theorem finishStep_reads : Reads (finishStep r f g l' w' pc' gl wk i) g gl wk i := by
  unfold finishStep
  split
  · exact ⟨rfl, rfl, rfl, rfl, rfl⟩
  · split <;> exact ⟨rfl, rfl, rfl, rfl, rfl⟩

variable {r f g l' w' pc' gl wk i}

theorem finishStep_cont {f' : Frame W L} (h : finishStep r f g l' w' pc' gl wk i = .cont f') :
    r.halts = false ∧ f' = { f with pc := pc', gas := g, l := l', w := w', glob := gl, work := wk, issued := i } := by
  unfold finishStep at h
  split at h
  · cases h
  · split at h
    · cases h
    · rename_i hh
      cases h
      exact ⟨by simpa using hh, rfl⟩

theorem finishStep_halt_status {res : FrameRes W} (h : finishStep r f g l' w' pc' gl wk i = .halt res) :
    res.status ≠ .outOfFuel := by
  unfold finishStep at h
  split at h
  · cases h; nofun
  · split at h
    · cases h; nofun
    · cases h

end finish

/-- what `enforceRestrictions` refuses in a read-only frame: a state-modifying entry, or CALL with value.  These are
    also the only entries that put a transfer fee on the ledger (`plainFee`, `callFee`). -/
def restricted (sem : Sem W L) (f : Frame W L) (r : Row) : Bool :=
  r.writes || (isPlainCallOp r && sem.callHasValue r f.l)

/-- `own` of the frame's gas has been spent on the entry itself and `g` is left; the transfer fee `fee` it puts on the
    ledger is part of that price -/
structure Paid (sem : Sem W L) (f : Frame W L) (r : Row) (fee own g : Nat) : Prop where
  fee_free : restricted sem f r = false → fee = 0
  fee_le : fee ≤ own
  gas_le : g + own ≤ f.gas

/-- What a table entry `r` does to the frame `f` once `step` has let it through; `stepPlain` and `stepCall` both end in
    one of these four ways. -/
inductive Outcome (sem : Sem W L) (sub : SubCall W) (f : Frame W L) (r : Row) : StepRes W L → Prop
  /-- the price cannot be computed or paid: the frame fails with its gas; a fee just pushed is replaced (`oogLedger`) -/
  | unpaid {c fee : Nat} (hfee : restricted sem f r = false → fee = 0) :
      Outcome sem sub f r (failHere f (oogLedger f.glob f.gas c fee))
  /-- paid; `execute` returns an error or ExecutionReverted -/
  | error {st : Status} {g own fee : Nat} (hp : Paid sem f r fee own g) (hst : st = .failed ∨ st = .reverted) :
      Outcome sem sub f r
        (.halt { status := st, gas := g, world := f.w, glob := { f.glob with fees := f.glob.fees + fee },
                 work := f.work + own, issued := f.issued })
  /-- paid and executed without entering a frame: the pc moves on or gas goes down.  The second holds of a jump because
      the extracted table prices it (`jumps_priced`), hence the guard `r ∈ rows`.
      `iss`: the entry has sent on the `Issued` channel -/
  | next {g own fee pc' : Nat} {l' : L} {w' : W} {jmp : Option Nat} (iss : Bool)
      (hp : Paid sem f r fee own g)
      (hex : sem.exec r f.pc g f.l f.w = .next l' w' jmp)
      (hprog : f.pc < pc' ∨ (r ∈ rows → g < f.gas))
      (hiss : iss = true → isIssue r = true) :
      Outcome sem sub f r
        (finishStep r f g l' w' pc'
          (if iss then { f.glob with fees := f.glob.fees + fee, iss := sendIssued f.glob.iss }
            else { f.glob with fees := f.glob.fees + fee })
          (f.work + own) (f.issued || iss))
  /-- paid, `fwd` more handed to `evm.Call…` / `evm.Create`, and `res` came back (for CALL the fees of a failed callee
      are moved to the refunds).  `gx`, the gas shown to `execute`, is left open: no invariant depends on it. -/
  | call {g own fwd fee gx : Nat} {req : CallReq W} {k : CallRes W → L} {res : CallRes W} {gl : Glob}
      (hp : Paid sem f r fee own (g + fwd))
      (hex : sem.exec r f.pc gx f.l f.w = .call req k)
      (hres : res = sub { req with fwd := fwd } f.static { f.glob with fees := f.glob.fees + fee })
      (hgl : ∃ b before, gl = moveToRefunds r b before res.glob) :
      Outcome sem sub f r
        (finishStep r f (g + res.gas) (k res) res.world (f.pc + 1 + r.pcAdv) gl (f.work + own + res.work)
          (f.issued || res.issued))

section outcome
variable (sem : Sem W L) (sub : SubCall W) (f : Frame W L) (r : Row)

theorem Outcome.refused : Outcome sem sub f r (failHere f f.glob) :=
  oogLedger_of_no_fee f.glob f.gas 0 ▸ Outcome.unpaid (c := 0) (fee := 0) fun _ => rfl

theorem stepPlain_outcome : Outcome sem sub f r (stepPlain sem sub f r) := by
  have hfee : restricted sem f r = false → plainFee sem f r = 0 :=
    fun h => plainFee_eq_zero sem f r (Bool.or_eq_false_iff.mp h).1
  unfold stepPlain
  cases sem.gasCost r f.l f.w f.gas with
  | none => exact .refused sem sub f r
  | some c0 =>
    have hfc := plainFee_le_cost sem f r c0
    have hjc := fun hj hmem => jumps_cost_pos (r := r) hmem hj c0 (plainFee sem f r)
    simp only []
    generalize plainFee sem f r = fee at *
    generalize plainCost r c0 fee = c at *
    by_cases hlt : f.gas < c
    · rw [if_pos hlt]; exact .unpaid hfee
    · rw [if_neg hlt]
      have hle : c ≤ f.gas := Nat.le_of_not_lt hlt
      have hp : Paid sem f r fee c (f.gas - c) := ⟨hfee, hfc, Nat.le_of_eq (Nat.sub_add_cancel hle)⟩
      cases hex : sem.exec r f.pc (f.gas - c) f.l f.w with
      | err => exact .error hp (.inl rfl)
      | revertErr => exact .error hp (.inr rfl)
      | next l' w' jmp =>
        have hprog : f.pc < (if r.jumps then jmp.getD (f.pc + 1) else f.pc + 1 + r.pcAdv) ∨
            (r ∈ rows → f.gas - c < f.gas) := by
          cases hj : r.jumps
          · exact .inl (Nat.lt_add_right _ (Nat.lt_succ_self _))
          · exact .inr fun hmem => Nat.sub_lt_of_pos_le (hjc hj hmem) hle
        exact .next (isIssue r) hp hex hprog id
      | call req k =>
        by_cases hcf : (!isCreateFamily r) = true
        · simp only [if_pos hcf]; exact .refused sem sub f r
        · simp only [if_neg hcf]
          have := createTake_le r (f.gas - c)
          exact .call ⟨hfee, hfc, by omega⟩ hex rfl ⟨false, 0, by simp [moveToRefunds]⟩

theorem stepCall_outcome : Outcome sem sub f r (stepCall sem sub f r) := by
  unfold stepCall
  cases sem.callArgs r f.l f.w with
  | none => exact .refused sem sub f r
  | some a =>
    have hfee : restricted sem f r = false → callFee r (sem.callHasValue r f.l) a = 0 :=
      fun h => callFee_eq_zero r _ a (Bool.or_eq_false_iff.mp h).2
    have hcov := callBase_covers (sem.callHasValue r f.l) (callFee r (sem.callHasValue r f.l) a) a.extra
    simp only []
    generalize callFee r (sem.callHasValue r f.l) a = fee at *
    generalize callBase (sem.callHasValue r f.l) fee a.extra = base at *
    generalize stipendOf (sem.callHasValue r f.l) = stipend at *
    generalize callGasU64 f.gas base a.requested = temp
    by_cases hov : 2 ^ 64 ≤ base + temp
    · rw [if_pos hov]; exact .refused sem sub f r
    · rw [if_neg hov]
      by_cases hlt : f.gas < base + temp
      · rw [if_pos hlt]; exact .unpaid hfee
      · rw [if_neg hlt]
        have hle : base + temp ≤ f.gas := Nat.le_of_not_lt hlt
        -- the stipend and the fee are part of the base price, so `work1 + stipend` is the work plus the base price
        have hsb : stipend ≤ base := Nat.le_trans (Nat.le_add_right _ _) hcov
        have hp : Paid sem f r fee base (f.gas - (base + temp)) :=
          ⟨hfee, Nat.le_trans (Nat.le_add_left _ _) hcov,
           Nat.le_trans (Nat.add_le_add_left (Nat.le_add_right base temp) _) (Nat.le_of_eq (Nat.sub_add_cancel hle))⟩
        rw [Nat.add_assoc f.work (base - stipend) stipend, Nat.sub_add_cancel hsb]
        cases hex : sem.exec r f.pc (f.gas - (base + temp)) f.l f.w with
        | err => exact .error hp (.inl rfl)
        | revertErr => exact .error hp (.inr rfl)
        | next l' w' jmp =>
          show Outcome sem sub f r (finishStep r f _ l' w' _ _ _ f.issued)
          rw [← Bool.or_false f.issued]
          exact .next false hp hex (.inl (Nat.lt_add_right _ (Nat.lt_succ_self _))) nofun
        | call req k =>
          -- the stipend is part of the base price but travels to the callee inside `fwd`: the caller's own share is
          -- the rest
          exact .call (own := base - stipend)
            ⟨hfee, Nat.le_sub_of_add_le (Nat.add_comm stipend fee ▸ hcov), by omega⟩ hex rfl ⟨_, _, rfl⟩

/-- the frame fails on the spot (invalid opcode, `validateStack`, `enforceRestrictions`), or an entry is let through -/
theorem step_outcome :
    step sem sub f = failHere f f.glob ∨
    ∃ r, lookup (getOp f.code f.pc) = some r ∧ stackOk r (sem.stackLen f.l) = true ∧
      (f.static = true → restricted sem f r = false) ∧ Outcome sem sub f r (step sem sub f) := by
  unfold step
  cases hl : lookup (getOp f.code f.pc) with
  | none => exact .inl rfl
  | some r =>
    simp only []
    cases hok : stackOk r (sem.stackLen f.l) with
    | false => exact .inl rfl
    | true =>
      cases hro : f.static && (r.writes || (isPlainCallOp r && sem.callHasValue r f.l)) with
      | true => exact .inl rfl
      | false =>
        refine .inr ⟨r, rfl, hok, fun hs => by rw [hs] at hro; exact hro, ?_⟩
        cases isCallFamily r with
        | true => exact stepCall_outcome sem sub f r
        | false => exact stepPlain_outcome sem sub f r

theorem step_of_stackOk_false
    (hl : lookup (getOp f.code f.pc) = some r) (h : stackOk r (sem.stackLen f.l) = false) :
    step sem sub f = failHere f f.glob := by
  unfold step
  rw [hl]
  simp only []
  rw [h]
  rfl

theorem step_of_restricted
    (hl : lookup (getOp f.code f.pc) = some r) (hs : f.static = true) (h : restricted sem f r = true) :
    step sem sub f = failHere f f.glob := by
  unfold step restricted at *
  rw [hl]
  simp only []
  rw [hs, h]
  cases stackOk r (sem.stackLen f.l) <;> rfl

variable {sem sub f r} {f' : Frame W L} {s : StepRes W L}

theorem Paid.ledger {fee own g : Nat} (hp : Paid sem f r fee own g) :
    ledger { f.glob with fees := f.glob.fees + fee } + g ≤ ledger f.glob + f.gas := by
  rw [ledger_add_fee, Nat.add_assoc]
  exact Nat.add_le_add_left (Nat.le_trans (Nat.add_le_add_right hp.fee_le g) (Nat.add_comm g own ▸ hp.gas_le)) _

theorem Outcome.gas_le (hs : SubOk sub) (h : Outcome sem sub f r s) : stepGas s ≤ f.gas := by
  cases h with
  | unpaid => exact Nat.le_refl _
  | error hp => exact Nat.le_of_add_right_le hp.gas_le
  | next _ hp =>
    rw [(finishStep_reads ..).gas]
    exact Nat.le_of_add_right_le hp.gas_le
  | call hp _ hres =>
    rw [(finishStep_reads ..).gas, hres]
    exact Nat.le_trans (Nat.add_le_add_left (hs _ _ _) _) (Nat.le_of_add_right_le hp.gas_le)

theorem Outcome.cont (hmem : r ∈ rows) (h : Outcome sem sub f r s) (hs : s = .cont f') :
    r.halts = false ∧ f'.code = f.code ∧ f'.static = f.static ∧ (f.pc < f'.pc ∨ f'.gas + 1 ≤ f.gas) := by
  cases h with
  | unpaid => cases hs
  | error => cases hs
  | next _ hp hex hprog =>
    obtain ⟨hh, rfl⟩ := finishStep_cont hs
    exact ⟨hh, rfl, rfl, hprog.imp id fun h => h hmem⟩
  | call =>
    obtain ⟨hh, rfl⟩ := finishStep_cont hs
    exact ⟨hh, rfl, rfl, .inl (Nat.lt_add_right _ (Nat.lt_succ_self _))⟩

theorem Outcome.halt_status {res : FrameRes W} (h : Outcome sem sub f r s) (hs : s = .halt res) :
    res.status ≠ .outOfFuel := by
  cases h with
  | unpaid => cases hs; nofun
  | error hp hst => cases hs; rcases hst with rfl | rfl <;> nofun
  | next => exact finishStep_halt_status hs
  | call => exact finishStep_halt_status hs

theorem Outcome.issued_mono (h : Outcome sem sub f r s) (hI : stepIssued s = false) : f.issued = false := by
  cases h with
  | unpaid => exact hI
  | error => exact hI
  | next => rw [(finishStep_reads ..).issued] at hI; exact (Bool.or_eq_false_iff.mp hI).1
  | call => rw [(finishStep_reads ..).issued] at hI; exact (Bool.or_eq_false_iff.mp hI).1

theorem Outcome.stack (law : StackLaw sem) (hok : stackOk r (sem.stackLen f.l) = true) (h : Outcome sem sub f r s)
    (hs : s = .cont f') : sem.stackLen f'.l ≤ stackLimit := by
  simp only [stackOk, Bool.and_eq_true, decide_eq_true_eq] at hok
  cases h with
  | unpaid => cases hs
  | error => cases hs
  | next _ _ hex =>
    obtain ⟨_, rfl⟩ := finishStep_cont hs
    refine Nat.le_of_add_le_add_right (b := r.pop) ?_
    rw [law.next _ _ _ _ _ _ _ _ hok.1 hex]
    exact hok.2
  | call _ hex =>
    obtain ⟨_, rfl⟩ := finishStep_cont hs
    refine Nat.le_of_add_le_add_right (b := r.pop) ?_
    rw [law.call _ _ _ _ _ _ _ hok.1 hex]
    exact hok.2

theorem Outcome.static (hsub : SubStatic sub) (hs : f.static = true) (hw : restricted sem f r = false)
    (hi : isIssue r = false) (h : Outcome sem sub f r s) :
    ledger (stepGlob s) = ledger f.glob ∧ stepIssued s = f.issued := by
  cases h with
  | unpaid hfee =>
    rw [hfee hw, oogLedger_of_no_fee]
    exact ⟨rfl, rfl⟩
  | error hp =>
    rw [hp.fee_free hw]
    exact ⟨rfl, rfl⟩
  | next iss hp hex hprog hiss =>
    cases iss with
    | true => rw [hiss rfl] at hi; cases hi
    | false =>
      simp only [(finishStep_reads ..).glob, (finishStep_reads ..).issued, hp.fee_free hw, Bool.or_false, and_true]
      rfl
  | call hp hex hres hgl =>
    obtain ⟨b, before, rfl⟩ := hgl
    rw [hs, hp.fee_free hw] at hres
    simp only [(finishStep_reads ..).glob, (finishStep_reads ..).issued, ledger_moveToRefunds, hres, hsub _ _,
      Bool.or_false, and_true]
    rfl

theorem Outcome.fees (hsub : SubFees sub) (h : Outcome sem sub f r s) :
    ledger (stepGlob s) + effGas s ≤ ledger f.glob + f.gas := by
  cases h with
  | unpaid => exact oogLedger_ledger_le ..
  | error hp => exact Nat.le_trans (Nat.add_le_add_left (resGas_le _) _) hp.ledger
  | next iss hp =>
    rw [(finishStep_reads ..).glob, (finishStep_reads ..).effGas]
    exact Nat.le_trans (Nat.le_of_eq (congrArg (· + _) (ledger_iss iss _ _))) hp.ledger
  | call hp _ hres hgl =>
    obtain ⟨_, _, rfl⟩ := hgl
    rw [(finishStep_reads ..).glob, (finishStep_reads ..).effGas, ledger_moveToRefunds, hres]
    -- the callee's share by the law of the level below, the caller's by what it paid
    rw [Nat.add_left_comm]
    refine Nat.le_trans (Nat.add_le_add_left (hsub _ _ _) _) ?_
    rw [Nat.add_left_comm]
    exact hp.ledger

theorem Outcome.work (hsub : SubWork sub) (hn : f.glob.iss = none) (h : Outcome sem sub f r s) :
    stepIssued s = false → stepWork s + stepGas s ≤ f.work + f.gas ∧ (stepGlob s).iss = none := by
  cases h with
  | unpaid =>
    intro _
    exact ⟨Nat.le_refl _, (oogLedger_iss ..).trans hn⟩
  | @error st g own fee hp =>
    intro _
    have := hp.gas_le
    exact ⟨by show f.work + own + g ≤ _; omega, hn⟩
  | next _ hp =>
    rw [(finishStep_reads ..).issued, (finishStep_reads ..).work, (finishStep_reads ..).gas, (finishStep_reads ..).glob]
    intro hI
    rw [(Bool.or_eq_false_iff.mp hI).2]
    have := hp.gas_le
    exact ⟨by omega, hn⟩
  | @call g own fwd fee gx req k res gl hp hex hres hgl =>
    obtain ⟨b, before, rfl⟩ := hgl
    rw [(finishStep_reads ..).issued, (finishStep_reads ..).work, (finishStep_reads ..).gas, (finishStep_reads ..).glob,
      moveToRefunds_iss]
    intro hI
    have := hsub { req with fwd := fwd } f.static { f.glob with fees := f.glob.fees + fee } hn
    rw [← hres] at this
    obtain ⟨hw, hi⟩ := this (Bool.or_eq_false_iff.mp hI).2
    have := hp.gas_le
    simp only [] at hw
    exact ⟨by omega, hi⟩

end outcome

/-- the loop principle: `R f s` relates a frame to a step result reached from it.  `fuel` is phrased with
    `runFrame … 0 f` so that no instance spells out the out-of-fuel record. -/
theorem runFrame_rel (sem : Sem W L) (sub : SubCall W) {R : Frame W L → StepRes W L → Prop}
    (fuel : ∀ f, R f (.halt (runFrame sem sub 0 f)))
    (one : ∀ f, R f (step sem sub f))
    (trans : ∀ f f' res, step sem sub f = .cont f' → R f (.cont f') → R f' (.halt res) → R f (.halt res)) :
    ∀ (n : Nat) (f : Frame W L), R f (.halt (runFrame sem sub n f)) := by
  intro n
  induction n with
  | zero => exact fuel
  | succ n ih =>
    intro f
    have hs := one f
    unfold runFrame
    split
    · rename_i hr
      rwa [hr] at hs
    · rename_i f' hr
      exact trans f f' _ hr (hr ▸ hs) (ih f')

theorem stepPlain_gas_le (sem : Sem W L) (sub : SubCall W) (hs : SubOk sub) (f : Frame W L) (r : Row) :
    stepGas (stepPlain sem sub f r) ≤ f.gas :=
  (stepPlain_outcome sem sub f r).gas_le hs

/-- the callee gets `callGasTemp` (+ the stipend for a value call), which the step has charged as part of
    `base + callGasTemp`; what comes back is at most that (`SubOk`), so the caller's gas does not grow.  The model does
    not clamp what comes back: the bound rests on the price the code charges. -/
theorem stepCall_gas_le (sem : Sem W L) (sub : SubCall W) (hs : SubOk sub) (f : Frame W L) (r : Row) :
    stepGas (stepCall sem sub f r) ≤ f.gas :=
  (stepCall_outcome sem sub f r).gas_le hs

/-- DESIGN.md's `gas_monotone`, one step -/
theorem step_gas_le (sem : Sem W L) (sub : SubCall W) (hs : SubOk sub) (f : Frame W L) :
    stepGas (step sem sub f) ≤ f.gas := by
  rcases step_outcome sem sub f with h | ⟨r, _, _, _, h⟩
  · rw [h]; exact Nat.le_refl _
  · exact h.gas_le hs

/-- DESIGN.md's `gas_bounded`, per frame -/
theorem runFrame_gas_le (sem : Sem W L) (sub : SubCall W) (hs : SubOk sub) :
    ∀ (n : Nat) (f : Frame W L), (runFrame sem sub n f).gas ≤ f.gas :=
  runFrame_rel sem sub (R := fun f s => stepGas s ≤ f.gas) (fun _ => Nat.le_refl _) (step_gas_le sem sub hs)
    (fun _ _ _ _ h ih => Nat.le_trans ih h)

/-! ## termination: every continuing step lowers `frameMeasure` (a jump costs gas, anything else moves the pc) -/

theorem step_cont (sem : Sem W L) (sub : SubCall W) (f f' : Frame W L)
    (h : step sem sub f = .cont f') :
    f.pc < f.code.length ∧ f'.code = f.code ∧ (f.pc < f'.pc ∨ f'.gas + 1 ≤ f.gas) := by
  rcases step_outcome sem sub f with hf | ⟨r, hl, _, _, ho⟩
  · rw [hf] at h; cases h
  · obtain ⟨hh, hc, _, hp⟩ := ho.cont (lookup_mem hl) h
    refine ⟨Nat.lt_of_not_le fun hge => ?_, hc, hp⟩
    -- past the end of the code the op is 0, which halts
    have h1 := op0_halts
    rw [← getOp_past_end f.code f.pc hge, hl] at h1
    exact Bool.false_ne_true (hh.symm.trans h1)

theorem step_measure_lt (sem : Sem W L) (sub : SubCall W) (hs : SubOk sub) (f f' : Frame W L)
    (h : step sem sub f = .cont f') : frameMeasure f' < frameMeasure f := by
  have hgas : f'.gas ≤ f.gas := (h ▸ step_gas_le sem sub hs f :)
  obtain ⟨hp, hc, hfw⟩ := step_cont sem sub f f' h
  unfold frameMeasure
  rw [hc]
  rcases hfw with hfw | hfw
  · exact Nat.add_lt_add_of_le_of_lt (Nat.mul_le_mul_right _ hgas) (Nat.sub_lt_sub_left hp hfw)
  · -- one unit of gas outweighs any position in the code
    refine Nat.lt_of_lt_of_le ?_ (Nat.le_add_right _ _)
    refine Nat.lt_of_lt_of_le ?_ (Nat.mul_le_mul_right _ hfw)
    rw [Nat.add_mul, Nat.one_mul]
    exact Nat.add_lt_add_left (Nat.lt_succ_of_le (Nat.sub_le _ _)) _

theorem step_halt_status (sem : Sem W L) (sub : SubCall W) (f : Frame W L) (res : FrameRes W)
    (h : step sem sub f = .halt res) : res.status ≠ .outOfFuel := by
  rcases step_outcome sem sub f with hf | ⟨r, _, _, _, ho⟩
  · rw [hf] at h; cases h; nofun
  · exact ho.halt_status h

/-- DESIGN.md's `terminates`, one frame: with fuel above the measure `gas·(|code|+1) + (|code| − pc)` the loop ends by
    itself, for every code, gas and opcode semantics (the frames below only have to respect `SubOk`) -/
theorem frame_terminates (sem : Sem W L) (sub : SubCall W) (hs : SubOk sub) :
    ∀ (n : Nat) (f : Frame W L), frameMeasure f < n → (runFrame sem sub n f).status ≠ .outOfFuel := by
  intro n
  induction n with
  | zero => intro f h; omega
  | succ n ih =>
    intro f hm
    unfold runFrame
    split
    · rename_i r hr; exact step_halt_status sem sub f r hr
    · rename_i f' hr
      have := step_measure_lt sem sub hs f f' hr
      exact ih f' (by omega)

/-! ## stack bounds: `validateStack` before the entry runs, the table's pops and pushes (`StackLaw`) after -/

theorem stack_limit_step (sem : Sem W L) (law : StackLaw sem) (sub : SubCall W) (f f' : Frame W L)
    (h : step sem sub f = .cont f') : sem.stackLen f'.l ≤ stackLimit := by
  rcases step_outcome sem sub f with hf | ⟨r, _, hok, _, ho⟩
  · rw [hf] at h; cases h
  · exact ho.stack law hok h

inductive Reach (sem : Sem W L) (sub : SubCall W) (f0 : Frame W L) : Frame W L → Prop
  | start : Reach sem sub f0 f0
  | next {f f'} : Reach sem sub f0 f → step sem sub f = .cont f' → Reach sem sub f0 f'

/-- every frame, every step: starting from the empty stack of a fresh frame, the stack
    never exceeds `StackLimit`, whatever the code and the frames below do -/
theorem stack_limit_invariant (sem : Sem W L) (law : StackLaw sem) (sub : SubCall W) (f0 f : Frame W L)
    (h0 : f0.l = sem.l0) (hr : Reach sem sub f0 f) : sem.stackLen f.l ≤ stackLimit := by
  induction hr with
  | start => rw [h0, law.fresh]; exact Nat.zero_le _
  | next _ hs _ => exact stack_limit_step sem law sub _ _ hs

/-- no underflow: an entry whose `pop` exceeds the stack never reaches `execute` — the
    frame fails with its gas untouched by this step -/
theorem underflow_fails (sem : Sem W L) (sub : SubCall W) (f : Frame W L) (r : Row)
    (hl : lookup (getOp f.code f.pc) = some r) (hu : sem.stackLen f.l < r.pop) :
    step sem sub f = failHere f f.glob := by
  refine step_of_stackOk_false sem sub f r hl ?_
  unfold stackOk
  exact Bool.and_eq_false_imp.mpr fun h => absurd (of_decide_eq_true h) (Nat.not_le_of_lt hu)

/-- no overflow: an entry that would lift the stack above `StackLimit` fails likewise -/
theorem overflow_fails (sem : Sem W L) (sub : SubCall W) (f : Frame W L) (r : Row)
    (hl : lookup (getOp f.code f.pc) = some r) (ho : stackLimit + r.pop < sem.stackLen f.l + r.push) :
    step sem sub f = failHere f f.glob := by
  refine step_of_stackOk_false sem sub f r hl ?_
  unfold stackOk
  exact Bool.and_eq_false_imp.mpr fun _ => decide_eq_false (Nat.not_le_of_lt ho)

/-- an opcode outside the table ends the frame as failed (no crash, no execution) -/
theorem invalid_op_fails (sem : Sem W L) (sub : SubCall W) (f : Frame W L)
    (hl : lookup (getOp f.code f.pc) = none) :
    step sem sub f = failHere f f.glob := by
  unfold step
  simp only [hl]

/-! ## read-only frames: no state-modifying entry executes, and read-only is inherited by every sub-frame -/

/-- in a read-only frame an entry with `writes = true` never reaches its gas function or
    `execute`: the frame fails on the spot (`enforceRestrictions`) -/
theorem static_blocks_writes (sem : Sem W L) (sub : SubCall W) (f : Frame W L) (r : Row)
    (hl : lookup (getOp f.code f.pc) = some r) (hs : f.static = true) (hw : r.writes = true) :
    step sem sub f = failHere f f.glob :=
  step_of_restricted sem sub f r hl hs (by unfold restricted; rw [hw]; rfl)

/-- likewise a CALL that carries value -/
theorem static_blocks_value_call (sem : Sem W L) (sub : SubCall W) (f : Frame W L) (r : Row)
    (hl : lookup (getOp f.code f.pc) = some r) (hs : f.static = true) (hc : isPlainCallOp r = true)
    (hv : sem.callHasValue r f.l = true) : step sem sub f = failHere f f.glob :=
  step_of_restricted sem sub f r hl hs (by unfold restricted; rw [hc, hv]; exact Bool.or_true _)

theorem step_keeps_static (sem : Sem W L) (sub : SubCall W) (f f' : Frame W L)
    (h : step sem sub f = .cont f') : f'.static = f.static := by
  rcases step_outcome sem sub f with hf | ⟨r, hl, _, _, ho⟩
  · rw [hf] at h; cases h
  · obtain ⟨_, _, hstatic, _⟩ := ho.cont (lookup_mem hl) h
    exact hstatic

theorem step_static (sem : Sem W L) (sub : SubCall W) (hsub : SubStatic sub) (f : Frame W L) (hs : f.static = true) :
    ledger (stepGlob (step sem sub f)) = ledger f.glob ∧ stepIssued (step sem sub f) = f.issued := by
  rcases step_outcome sem sub f with hf | ⟨r, hl, _, hro, ho⟩
  · rw [hf]; exact ⟨rfl, rfl⟩
  · have hw := hro hs
    -- ISSUE is a `writes` entry
    have hi : isIssue r = false := by
      have := List.all_eq_true.mp issue_writes r (lookup_mem hl)
      rw [(Bool.or_eq_false_iff.mp hw).1] at this
      simpa using this
    exact ho.static hsub hs hw hi

theorem runFrame_static (sem : Sem W L) (sub : SubCall W) (hsub : SubStatic sub) :
    ∀ (n : Nat) (f : Frame W L), f.static = true →
      ledger (runFrame sem sub n f).glob = ledger f.glob ∧ (runFrame sem sub n f).issued = f.issued := by
  refine runFrame_rel sem sub
    (R := fun f s => f.static = true → ledger (stepGlob s) = ledger f.glob ∧ stepIssued s = f.issued)
    (fun _ _ => ⟨rfl, rfl⟩) (step_static sem sub hsub) ?_
  intro f f' res hc h ih hs
  have h := h hs
  have ih := ih ((step_keeps_static sem sub f f' hc).trans hs)
  exact ⟨ih.1.trans h.1, ih.2.trans h.2⟩

/-! ## fees_le_consumed: the fee ledger never records more than the gas that was consumed -/

theorem stepPlain_fees (sem : Sem W L) (sub : SubCall W) (hsub : SubFees sub) (f : Frame W L) (r : Row) :
    ledger (stepGlob (stepPlain sem sub f r)) + effGas (stepPlain sem sub f r) ≤ ledger f.glob + f.gas :=
  (stepPlain_outcome sem sub f r).fees hsub

theorem stepCall_fees (sem : Sem W L) (sub : SubCall W) (hsub : SubFees sub) (f : Frame W L) (r : Row) :
    ledger (stepGlob (stepCall sem sub f r)) + effGas (stepCall sem sub f r) ≤ ledger f.glob + f.gas :=
  (stepCall_outcome sem sub f r).fees hsub

theorem step_fees (sem : Sem W L) (sub : SubCall W) (hsub : SubFees sub) (f : Frame W L) :
    ledger (stepGlob (step sem sub f)) + effGas (step sem sub f) ≤ ledger f.glob + f.gas := by
  rcases step_outcome sem sub f with h | ⟨r, _, _, _, h⟩
  · rw [h]; exact Nat.le_add_right _ _
  · exact h.fees hsub

theorem runFrame_fees (sem : Sem W L) (sub : SubCall W) (hsub : SubFees sub) :
    ∀ (n : Nat) (f : Frame W L), ledger (runFrame sem sub n f).glob + resGas (runFrame sem sub n f) ≤ ledger f.glob + f.gas :=
  runFrame_rel sem sub (R := fun f s => ledger (stepGlob s) + effGas s ≤ ledger f.glob + f.gas)
    (fun _ => Nat.le_add_right _ _) (step_fees sem sub hsub) (fun _ _ _ _ h ih => Nat.le_trans ih h)

theorem stepPlain_work (sem : Sem W L) (sub : SubCall W) (hsub : SubWork sub) (f : Frame W L) (r : Row)
    (hn : f.glob.iss = none) :
    stepIssued (stepPlain sem sub f r) = false →
      stepWork (stepPlain sem sub f r) + stepGas (stepPlain sem sub f r) ≤ f.work + f.gas ∧
      (stepGlob (stepPlain sem sub f r)).iss = none :=
  (stepPlain_outcome sem sub f r).work hsub hn

theorem stepCall_work (sem : Sem W L) (sub : SubCall W) (hsub : SubWork sub) (f : Frame W L) (r : Row)
    (hn : f.glob.iss = none) :
    stepIssued (stepCall sem sub f r) = false →
      stepWork (stepCall sem sub f r) + stepGas (stepCall sem sub f r) ≤ f.work + f.gas ∧
      (stepGlob (stepCall sem sub f r)).iss = none :=
  (stepCall_outcome sem sub f r).work hsub hn

theorem step_work (sem : Sem W L) (sub : SubCall W) (hsub : SubWork sub) (f : Frame W L) (hn : f.glob.iss = none) :
    stepIssued (step sem sub f) = false →
      stepWork (step sem sub f) + stepGas (step sem sub f) ≤ f.work + f.gas ∧ (stepGlob (step sem sub f)).iss = none := by
  rcases step_outcome sem sub f with h | ⟨r, _, _, _, h⟩
  · rw [h]; intro _; exact ⟨Nat.le_refl _, hn⟩
  · exact h.work hsub hn

theorem step_issued_mono (sem : Sem W L) (sub : SubCall W) (f : Frame W L) (hI : stepIssued (step sem sub f) = false) :
    f.issued = false := by
  rcases step_outcome sem sub f with hf | ⟨r, _, _, _, ho⟩
  · rwa [hf] at hI
  · exact ho.issued_mono hI

theorem runFrame_work (sem : Sem W L) (sub : SubCall W) (hsub : SubWork sub) :
    ∀ (n : Nat) (f : Frame W L), f.glob.iss = none → (runFrame sem sub n f).issued = false →
      (runFrame sem sub n f).work + (runFrame sem sub n f).gas ≤ f.work + f.gas ∧ (runFrame sem sub n f).glob.iss = none := by
  intro n f hn hI
  -- the flag is known clear only at the END of the run and the channel empty only at its START, so the relation carries
  -- the flag backwards (clear after ⇒ clear before) and, from an empty channel, the bound and the channel forwards
  refine (runFrame_rel sem sub
    (R := fun f s => stepIssued s = false → f.issued = false ∧
      (f.glob.iss = none → stepWork s + stepGas s ≤ f.work + f.gas ∧ (stepGlob s).iss = none))
    (fun f hI => ⟨hI, fun hn => ⟨Nat.le_refl _, hn⟩⟩)
    (fun f hI => ⟨step_issued_mono sem sub f hI, fun hn => step_work sem sub hsub f hn hI⟩) ?_ n f hI).2 hn
  intro f f' res _ h ih hI
  obtain ⟨hf', ih⟩ := ih hI
  obtain ⟨hf, h⟩ := h hf'
  refine ⟨hf, fun hn => ?_⟩
  obtain ⟨h1, hn'⟩ := h hn
  obtain ⟨h2, hn''⟩ := ih hn'
  exact ⟨Nat.le_trans h2 h1, hn''⟩

/-! ## the call tree: the wrappers `evm.Call…` / `evm.Create` pass every frame invariant up, level by level -/

/-- `r'` is `r` after the code deposit -/
structure DepositKeeps (r r' : FrameRes W) : Prop where
  glob : r'.glob = r.glob
  issued : r'.issued = r.issued
  work : r'.work = r.work
  resGas_le : resGas r' ≤ resGas r
  status : r'.status = r.status ∨ r'.status = .failed

theorem afterDeposit_keeps (req : CallReq W) (r : FrameRes W) : DepositKeeps r (afterDeposit req r) := by
  unfold afterDeposit
  split
  · split
    · refine ⟨rfl, rfl, rfl, ?_, .inl rfl⟩
      unfold resGas
      split
      · exact Nat.min_le_right _ _
      · exact Nat.le_refl _
    · exact ⟨rfl, rfl, rfl, Nat.zero_le _, .inr rfl⟩
  · exact ⟨rfl, rfl, rfl, Nat.le_refl _, .inl rfl⟩

/-- `r'` is `r` after the select on `Issued`, whether or not the decimals() frame ran -/
structure SelectKeeps (r r' : FrameRes W) : Prop where
  resGas_le : resGas r' ≤ resGas r
  status : r.status ≠ .outOfFuel → r'.status ≠ .outOfFuel
  issued_clear : r'.issued = false → r.issued = false

section select
variable (sem : Sem W L) (J : Journal W) (st : Bool) (sim : W → Glob → FrameRes W) (r : FrameRes W)

theorem afterSelect_cases :
    afterSelect sem J st sim r = { r with glob := { r.glob with iss := none } } ∨
    r.status = .ok ∧ ∃ (s : FrameRes W) (st' : Status) (w : W),
      s = sim r.world { r.glob with iss := some false } ∧ (st' = .ok ∨ st' = .reverted) ∧
      afterSelect sem J st sim r =
        { r with status := st', world := w, glob := { s.glob with iss := none }, work := r.work + s.work,
                 issued := r.issued || s.issued } := by
  unfold afterSelect
  by_cases htr : (triggersRate st r.glob.iss && r.status == .ok) = true
  · rw [if_pos htr]
    have hok : r.status = .ok := eq_of_beq (Bool.and_eq_true_iff.mp htr).2
    refine .inr ⟨hok, ?_⟩
    extract_lets _ _ s w2
    split
    · exact ⟨s, r.status, w2, rfl, .inl hok, rfl⟩
    · exact ⟨s, .reverted, w2, rfl, .inr rfl, rfl⟩
  · rw [if_neg htr]
    exact .inl rfl

variable {sem J st sim r}

theorem afterSelect_keeps : SelectKeeps r (afterSelect sem J st sim r) := by
  rcases afterSelect_cases sem J st sim r with h | ⟨hok, _, _, _, _, hst, h⟩ <;> rw [h]
  · exact ⟨Nat.le_refl _, id, id⟩
  · refine ⟨Nat.le_trans (resGas_le _) ?_, fun _ => ?_, fun hi => (Bool.or_eq_false_iff.mp hi).1⟩
    · simp [resGas, hok]
    · rcases hst with rfl | rfl <;> nofun

/-- the decimals() frame is read-only: it leaves the ledger total alone and cannot ISSUE -/
theorem afterSelect_static (hsim : ∀ w g, ledger (sim w g).glob = ledger g ∧ (sim w g).issued = false) :
    ledger (afterSelect sem J st sim r).glob = ledger r.glob ∧ (afterSelect sem J st sim r).issued = r.issued := by
  rcases afterSelect_cases sem J st sim r with h | ⟨_, s, _, _, hs, _, h⟩ <;> rw [h]
  · exact ⟨rfl, rfl⟩
  · show ledger s.glob = ledger r.glob ∧ (r.issued || s.issued) = r.issued
    rw [hs, (hsim _ _).1, (hsim _ _).2, Bool.or_false]
    exact ⟨rfl, rfl⟩

theorem afterSelect_of_empty (h : r.glob.iss = none) : afterSelect sem J st sim r = r := by
  unfold afterSelect
  rw [h]
  -- `triggersRate st none = false`: the else branch, which writes `none` over `none`
  show { r with glob := { r.glob with iss := none } } = r
  rw [← h]

end select

theorem settle_eq (J : Journal W) (s : J.Snap) (r : FrameRes W) :
    settle J s r = { status := r.status, gas := resGas r, world := if r.status = .ok then r.world else J.revertTo r.world s,
                     glob := r.glob, work := r.work, issued := r.issued } := by
  unfold settle resGas
  cases r.status <;> rfl

section fresh
variable (sem : Sem W L) (sub : SubCall W) (code : List Nat) (gas : Nat) (w : W) (st : Bool) (g : Glob)

theorem runFresh_status (hs : SubOk sub) : (runFresh sem sub code gas w st g).status ≠ .outOfFuel :=
  frame_terminates sem sub hs _ _ (by simp only [frameMeasure, fuelFor]; omega)

theorem runFresh_static (hsub : SubStatic sub) :
    ledger (runFresh sem sub code gas w true g).glob = ledger g ∧ (runFresh sem sub code gas w true g).issued = false :=
  runFrame_static sem sub hsub _ _ rfl

theorem runFresh_fees (hsub : SubFees sub) :
    ledger (runFresh sem sub code gas w st g).glob + resGas (runFresh sem sub code gas w st g) ≤ ledger g + gas :=
  runFrame_fees sem sub hsub _ _

theorem runFresh_work (hsub : SubWork sub) (hn : g.iss = none) (hI : (runFresh sem sub code gas w st g).issued = false) :
    (runFresh sem sub code gas w st g).work + (runFresh sem sub code gas w st g).gas ≤ gas ∧
      (runFresh sem sub code gas w st g).glob.iss = none := by
  have := runFrame_work sem sub hsub _ _ hn hI
  rwa [Nat.zero_add] at this

end fresh

theorem callBody_subOk (sem : Sem W L) (J : Journal W) (sg : Nat) (sub : SubCall W) (hs : SubOk sub) : SubOk (callBody sem J sg sub) := by
  intro req ro g
  unfold callBody
  split
  · split
    · exact Nat.le_refl _
    · exact Nat.zero_le _
  · -- trap: after `rw [settle_eq]` the goal is `{ gas := resGas _, .. }.gas ≤ _`, and `exact` unfolds `resGas` before it
    -- reduces the projection (slow); `simp only` reduces the projection as it rewrites
    simp only [settle_eq]
    exact Nat.le_trans afterSelect_keeps.resGas_le (Nat.le_trans (afterDeposit_keeps _ _).resGas_le
      (Nat.le_trans (resGas_le _) (runFrame_gas_le sem _ hs _ _)))

theorem callAt_succ (sem : Sem W L) (J : Journal W) (n : Nat) :
    callAt sem J (n + 1) = callBody sem J simulateGas (callAt sem J n) := rfl

/-- `gas_bounded` per call tree: `evm.Call/CallCode/DelegateCall/StaticCall/create` at any depth return at most
    the gas they were given — including the frames below them, the code deposit and the decimals() call.  By induction
    on the depth budget: each level uses the bound of the level below for `contract.Gas += returnGas`. -/
theorem callAt_subOk (sem : Sem W L) (J : Journal W) : ∀ n, SubOk (callAt sem J n) := by
  intro n
  induction n with
  | zero => intro req ro g; exact Nat.le_refl _
  | succ n ih => exact callBody_subOk sem J simulateGas _ ih

theorem gas_bounded (sem : Sem W L) (J : Journal W) (n : Nat) (req : CallReq W) (ro : Bool) (g : Glob) :
    (callAt sem J n req ro g).gas ≤ req.fwd := callAt_subOk sem J n req ro g

/-- `terminates` for the whole call tree: a call wrapper at any depth budget returns ok / reverted / failed — the fuel
    the model computes from `(gas, |code|)` is never exhausted.  Depth is bounded by the budget (`CallCreateDepth`),
    each level by `frame_terminates` with the level below as `sub`. -/
theorem call_tree_terminates (sem : Sem W L) (J : Journal W) (n : Nat) (req : CallReq W) (ro : Bool) (g : Glob) :
    (callAt sem J n req ro g).status ≠ .outOfFuel := by
  cases n with
  | zero => nofun
  | succ n =>
    rw [callAt_succ]
    unfold callBody
    split
    · nofun
    · simp only [settle_eq]
      refine afterSelect_keeps.status fun hout => ?_
      rcases (afterDeposit_keeps req _).status with hd | hd <;> rw [hd] at hout
      · exact runFresh_status sem _ _ _ _ _ _ (callAt_subOk sem J n) hout
      · cases hout

theorem callBody_static (sem : Sem W L) (J : Journal W) (sg : Nat) (sub : SubCall W) (hsub : SubStatic sub) :
    SubStatic (callBody sem J sg sub) := by
  intro req g
  unfold callBody
  split
  · exact ⟨rfl, rfl⟩
  · have hsim := fun w gl => runFresh_static sem sub (req.simCode w) sg w gl hsub
    have h0 := runFresh_static sem sub req.code req.fwd (req.enter req.world) g hsub
    have hd := afterDeposit_keeps req (runFresh sem sub req.code req.fwd (req.enter req.world) true g)
    simp only [settle_eq]
    exact ⟨(afterSelect_static hsim).1.trans ((congrArg ledger hd.glob).trans h0.1),
      (afterSelect_static hsim).2.trans (hd.issued.trans h0.2)⟩

/-- **read-only is inherited** over the whole depth budget: a wrapper entered from a read-only frame runs its frame
    read-only, and so does every frame below it; consequently the fee ledger's total is untouched (value calls,
    SELFDESTRUCT and TRANSFERTOKEN are the only entries that record fees, all blocked) and no ISSUE executes -/
theorem callAt_static (sem : Sem W L) (J : Journal W) : ∀ n, SubStatic (callAt sem J n) := by
  intro n
  induction n with
  | zero => intro req g; exact ⟨rfl, rfl⟩
  | succ n ih => exact callBody_static sem J simulateGas _ ih

theorem readonly_tree_never_issues (sem : Sem W L) (J : Journal W) (n : Nat) (req : CallReq W) (g : Glob) :
    (callAt sem J n req true g).issued = false := (callAt_static sem J n req g).2

theorem readonly_tree_keeps_ledger (sem : Sem W L) (J : Journal W) (n : Nat) (req : CallReq W) (g : Glob) :
    ledger (callAt sem J n req true g).glob = ledger g := (callAt_static sem J n req g).1

theorem callBody_fees (sem : Sem W L) (J : Journal W) (sg : Nat) (sub : SubCall W) (hsub : SubFees sub) (hst : SubStatic sub) :
    SubFees (callBody sem J sg sub) := by
  intro req ro g
  unfold callBody
  split
  · simp only []
    split <;> omega
  · have h0 := runFresh_fees sem sub req.code req.fwd (req.enter req.world) (ro || req.static) g hsub
    generalize runFresh sem sub req.code req.fwd (req.enter req.world) (ro || req.static) g = r0 at h0 ⊢
    have hd := afterDeposit_keeps req r0
    -- nobody pays for the decimals() frame, so it must leave the ledger alone: it runs read-only (`hst`)
    have hsel := afterSelect_static (sem := sem) (J := J) (st := req.static) (r := afterDeposit req r0)
      fun w gl => runFresh_static sem sub (req.simCode w) sg w gl hst
    simp only [settle_eq]
    rw [hsel.1, hd.glob]
    exact Nat.le_trans (Nat.add_le_add_left (Nat.le_trans afterSelect_keeps.resGas_le hd.resGas_le) _) h0

/-- the fee bound for the whole call tree (`fees_le_consumed`): for `evm.Call/CallCode/DelegateCall/StaticCall/create`
    at any depth, what the call adds to the fee ledger (`Σ evm.fees + Σ evm.refundFees` = `RefundAllFee()`) plus the gas
    it hands back is at most the gas it was given — so `tx.Gas += RefundFee()` (success) and
    `tx.Gas += RefundAllFee()` (failure) in app/state_transition.go can never lift the gas above what was bought, and
    `InitialGas - Gas` cannot wrap -/
theorem callAt_fees (sem : Sem W L) (J : Journal W) : ∀ n, SubFees (callAt sem J n) := by
  intro n
  induction n with
  | zero => intro req ro g; exact Nat.le_refl _
  | succ n ih => exact callBody_fees sem J simulateGas _ ih (callAt_static sem J n)

theorem fees_le_consumed (sem : Sem W L) (J : Journal W) (n : Nat) (req : CallReq W) (ro : Bool) (t : Token) :
    (callAt sem J n req ro { iss := t }).gas + (callAt sem J n req ro { iss := t }).glob.refunds +
      (callAt sem J n req ro { iss := t }).glob.fees ≤ req.fwd := by
  have := callAt_fees sem J n req ro { iss := t }
  simp only [ledger] at this
  omega

theorem callBody_work (sem : Sem W L) (J : Journal W) (sg : Nat) (sub : SubCall W) (hsub : SubWork sub) :
    SubWork (callBody sem J sg sub) := by
  intro req ro g hn
  unfold callBody
  split
  · intro _; exact ⟨by simp only []; split <;> omega, hn⟩
  · simp only [settle_eq]
    intro hI
    have hrun := runFresh_work sem sub req.code req.fwd (req.enter req.world) (ro || req.static) g hsub hn
    generalize runFresh sem sub req.code req.fwd (req.enter req.world) (ro || req.static) g = r0 at *
    have hd := afterDeposit_keeps req r0
    -- the wrapper's flag is clear, so the frame's own flag is, so its channel is empty and the select is idle
    obtain ⟨h1, h2⟩ := hrun (hd.issued ▸ afterSelect_keeps.issued_clear hI)
    rw [afterSelect_of_empty (hd.glob ▸ h2)]
    refine ⟨?_, hd.glob ▸ h2⟩
    rw [hd.work]
    exact Nat.le_trans (Nat.add_le_add_left (Nat.le_trans hd.resGas_le (resGas_le r0)) _) h1

theorem callAt_work (sem : Sem W L) (J : Journal W) : ∀ n, SubWork (callAt sem J n) := by
  intro n
  induction n with
  | zero => intro req ro g hn _; exact ⟨Nat.le_of_eq (Nat.zero_add _), hn⟩
  | succ n ih => exact callBody_work sem J simulateGas _ ih

/-! ## atomicity: a wrapper that does not end ok reverts to the snapshot it took -/

/-- the journal law C20 rests on, a hypothesis here (it is what C09 is about; no Lean statement derives it from C09's
    theorems): reverting to the snapshot taken at `w0` restores everything observable of `w0`, whatever happened since -/
structure JournalLaw (J : Journal W) {O : Type} (obs : W → O) : Prop where
  revert_restores : ∀ w0 w, obs (J.revertTo w (J.snap w0)) = obs w0

/-- a call frame that does not end ok — error, out of gas, REVERT, failed code deposit, refused transfer, depth limit,
    or a decimals() answer that does not decode — leaves the observable world exactly as `req.world`, the world the
    snapshot was taken of: after CREATE's bump of the caller's nonce, before account creation and value transfer -/
theorem frame_atomic (sem : Sem W L) (J : Journal W) {O : Type} (obs : W → O) (law : JournalLaw J obs)
    (n : Nat) (req : CallReq W) (ro : Bool) (t : Glob)
    (h : (callAt sem J n req ro t).status ≠ .ok) :
    obs (callAt sem J n req ro t).world = obs req.world := by
  cases n with
  | zero => rfl
  | succ n =>
    rw [callAt_succ] at h ⊢
    unfold callBody at h ⊢
    split
    · rfl
    · rename_i href
      simp only [href, settle_eq] at h
      simp only [settle_eq, if_neg h]
      exact law.revert_restores _ _

/-- whatever is read off the observable world — in particular the caller's balance — is
    the same after a failed call as before it: value sent into a failing frame is back with the caller -/
theorem value_stays_with_caller (sem : Sem W L) (J : Journal W) {O : Type} (obs : W → O) (law : JournalLaw J obs)
    (balanceOfCaller : O → Nat) (n : Nat) (req : CallReq W) (ro : Bool) (t : Glob)
    (h : (callAt sem J n req ro t).status ≠ .ok) :
    balanceOfCaller (obs (callAt sem J n req ro t).world) = balanceOfCaller (obs req.world) := by
  rw [frame_atomic sem J obs law n req ro t h]

/-! ## the fee ledger's out-of-gas rule on the list `evm.fees` itself (`oogLedger` is the same rule on the sum) -/

/-- when a fee-carrying step cannot be paid, the ledger entry is replaced by at most the gas the frame still has
    (all of which the failing frame then burns): `Σ fees` after the rule ≤ `Σ` of the other entries + `gas` -/
theorem oogFees_bounded (rest : List Nat) (fee gas cost : Nat) :
    (oogFees (rest ++ [fee]) gas cost).sum ≤ rest.sum + gas := by
  unfold oogFees
  simp only [List.reverse_append, List.reverse_cons, List.reverse_nil, List.nil_append, List.singleton_append,
    List.reverse_reverse]
  split
  · simp [List.sum_append]
  · simp

/-! ## metering: the full statement is FALSE of the current code (finding `unmetered-decimals-call`) -/

/-- stack = its length; the world counts the gas of every step that was executed (it is never reverted, so it
    measures the work the interpreter did); dynamic prices are 0; no op enters a frame -/
def workSem : Sem Nat Nat where
  stackLen := id
  gasCost := fun _ _ _ _ => some 0
  fee := fun _ _ _ => 0
  callArgs := fun _ _ _ => some { fee := 0, extra := 0, requested := 0 }
  callHasValue := fun _ _ => false
  exec := fun r _ _ l w => .next (l - r.pop + r.push) (w + (r.gasConst.getD 0)) none
  l0 := 0
  rateOk := fun s _ => s == .ok

def workJ : Journal Nat := { Snap := Unit, snap := fun _ => (), revertTo := fun w _ => w }

/-- a plain message call of `code` with `gas` in the work-counter semantics -/
def plainReq (code : List Nat) (gas : Nat) : CallReq Nat :=
  { fwd := gas, world := 0, refuse := none, enter := id, code := code, static := false,
    finish := fun g w => some (g, w), simCode := fun _ => code }

/-- full statement: the interpreter never executes more gas worth of steps than the call was given -/
def C20_metered_statement : Prop :=
  ∀ (code : List Nat) (gas depth : Nat), (callAt workSem workJ depth (plainReq code gas) false {}).world ≤ gas

/-- `PUSH1 1; ISSUE; STOP` with exactly the 25003 gas it costs: after the frame returns ok the wrapper drains the
    `Issued` token and runs the contract again, read-only, with `staticCallSimulateGas` = 10^10 gas that nobody paid
    for; the steps of that second run (here one PUSH1 before ISSUE hits the write protection) are extra work -/
theorem C20_metered_counterexample : ¬ C20_metered_statement := by
  intro h
  have := h [0x60, 1, 0xe0, 0x00] 25003 1
  revert this
  decide +kernel

/-- the part of `C20_metered_statement` that holds: for `evm.Call/…/create` at any depth, entered with an empty `Issued`
    channel, if no ISSUE step is executed anywhere in the call tree then the gas of all steps the interpreter executed
    plus the gas handed back is at most the gas given (the un-metered decimals() call is the ONLY leak), and the channel
    is still empty afterwards -/
theorem metered_without_issue (sem : Sem W L) (J : Journal W) (n : Nat) (req : CallReq W) (ro : Bool) (g : Glob)
    (hempty : g.iss = none) (hno : (callAt sem J n req ro g).issued = false) :
    (callAt sem J n req ro g).work + (callAt sem J n req ro g).gas ≤ req.fwd ∧ (callAt sem J n req ro g).glob.iss = none :=
  callAt_work sem J n req ro g hempty hno

/-- also true of the code: the GAS ACCOUNT is sound (`gas_bounded`, `frame_terminates`, `call_tree_terminates`); and
    without a pending token the wrapper's select does nothing, so the extra work comes only from `GetUTXOChangeRate` -/
theorem C20_metered_partial (sem : Sem W L) (J : Journal W) (st : Bool) (sim : W → Glob → FrameRes W) (r : FrameRes W)
    (h : r.glob.iss = none) : afterSelect sem J st sim r = r :=
  afterSelect_of_empty h

/-! ## non-vacuity: instances of the laws taken as hypotheses, and the results applied to concrete calls -/

/-- `PUSH1 1; ISSUE; STOP` called with exactly the gas it needs: `plainReq [0x60, 1, 0xe0, 0x00] 25003` -/
def issueReq : CallReq Nat :=
  { fwd := 25003, world := 0, refuse := none, enter := id, code := [0x60, 1, 0xe0, 0x00], static := false,
    finish := fun g w => some (g, w), simCode := fun _ => [0x60, 1, 0xe0, 0x00] }

example : (callAt workSem workJ 2 issueReq false {}).gas ≤ issueReq.fwd := gas_bounded _ _ _ _ _ _
example : (callAt workSem workJ 2 issueReq false {}).status ≠ .outOfFuel := call_tree_terminates _ _ _ _ _ _
example : (callAt workSem workJ 2 issueReq true {}).issued = false := readonly_tree_never_issues _ _ _ _ _
example : (callAt workSem workJ 2 issueReq false {}).gas + (callAt workSem workJ 2 issueReq false {}).glob.refunds +
    (callAt workSem workJ 2 issueReq false {}).glob.fees ≤ issueReq.fwd := fees_le_consumed _ _ _ _ _ none

/-- a journal with full-copy snapshots satisfies the law (so `frame_atomic` is not vacuous) -/
def copyJ : Journal Nat := { Snap := Nat, snap := id, revertTo := fun _ s => s }
example : JournalLaw copyJ (fun w => w) := ⟨fun _ _ => rfl⟩

example : StackLaw workSem :=
  ⟨rfl,
   by intro r pc g l w l' w' j hp h; simp [workSem] at h hp ⊢; omega,
   by intro r pc g l w req k _ h; simp [workSem] at h⟩

/-- the wrapper that refuses everything is a (trivial) `SubOk` / `SubStatic` instance; the real ones are `callAt`
    (`callAt_subOk`) -/
example : SubOk (fun (req : CallReq Nat) _ g => ({ status := .failed, gas := req.fwd, world := req.world, glob := g, work := 0, issued := false } : CallRes Nat)) := by
  intro req ro g; simp

example : SubStatic (fun (req : CallReq Nat) _ g => ({ status := .failed, gas := req.fwd, world := req.world, glob := g, work := 0, issued := false } : CallRes Nat)) := by
  intro req g; simp

/-- a request that does not fit 64 bits gets the cap, all but one 64th of what is there -/
example : callGasU64 6400 0 (2 ^ 200) = 6300 := by decide

/-- `PUSH1 1; POP; STOP` executes no ISSUE: the hypothesis of `metered_without_issue` is satisfiable, and its conclusion
    is the concrete bound 5 + 95 ≤ 100 -/
example : (callAt workSem workJ 1 (plainReq [0x60, 1, 0x50, 0x00] 100) false {}).issued = false := by decide +kernel
example : (callAt workSem workJ 1 (plainReq [0x60, 1, 0x50, 0x00] 100) false {}).work +
    (callAt workSem workJ 1 (plainReq [0x60, 1, 0x50, 0x00] 100) false {}).gas ≤ 100 :=
  (metered_without_issue workSem workJ 1 _ false {} rfl (by decide +kernel)).1

/-- with ISSUE the flag is set, so `metered_without_issue` does not apply to the counterexample program -/
example : (callAt workSem workJ 1 (plainReq [0x60, 1, 0xe0, 0x00] 25003) false {}).issued = true := by decide +kernel

end Props.C20

