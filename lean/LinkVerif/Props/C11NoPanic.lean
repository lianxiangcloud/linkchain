/-
C11, layer 2: no decoder of the model produces the error class `panic` (after fixes 8c7e349 / 2f1154b of /repo).
The only state that could carry one is the sticky `kinderr` of the Stream, hence the invariant `Good`.
-/
import LinkVerif.Props.C11Stream

namespace Props.C11
open Model.Rlp Model.Ser

def Good (s : Stream) : Prop := s.kinderr ≠ some .panic

theorem willRead_good (n : Nat) (s : Stream) (h : Good s) : Kept Good (· ≠ .panic) (willRead n s).1 (willRead n s).2 := by
  obtain ⟨st, ph, he, _, _, hp⟩ := willRead_frame n s
  rw [he]
  exact ⟨h, fun e he' hpan => hp (hpan ▸ he')⟩

theorem readInv_good : ReadInv Good (· ≠ .panic) where
  own _ he := he
  rearm _ h := h
  byteval _ _ h := h
  willRead := willRead_good
  rest _ _ h _ := h

theorem limitErr_np (s : Stream) (sz : Nat) (e : Err) (h : limitErr s sz = some e) : e ≠ .panic := by
  unfold limitErr at h
  split at h
  · split at h
    · cases h; decide
    · cases h
  · split at h
    · cases h; decide
    · cases h

theorem kindOf_good (s : Stream) (h : Good s) : Kept Good (· ≠ .panic) (kindOf s).1.2.2 (kindOf s).2 := by
  unfold kindOf
  split
  · exact ⟨h, fun e he hp => h (hp ▸ he)⟩
  · dsimp only
    split
    · exact .err (s := { s with kinderr := none }) nofun (by decide)
    · have hk := readKind_kept readInv_good { s with kinderr := none } nofun
      generalize readKind { s with kinderr := none } = r at hk ⊢
      obtain ⟨⟨k, sz, e⟩, s'⟩ := r
      -- the error returned is the one cached, so one fact serves both halves
      have hnp : ∀ x, (match e with | some e => some e | none => limitErr s' sz) = some x → x ≠ .panic := by
        cases e with
        | some e => exact hk.inE
        | none => exact limitErr_np s' sz
      exact ⟨fun hp => hnp _ hp rfl, hnp⟩

theorem streamInv_good : StreamInv Good (· ≠ .panic) where
  toReadInv := readInv_good
  kindOf := kindOf_good
  alloc s h _ := (kindOf_good s h).inv
  sList s h := by
    have hk := kindOf_good s h
    unfold sList
    generalize kindOf s = r at hk ⊢
    obtain ⟨⟨k, sz, _ | e⟩, s'⟩ := r
    · cases k with
      | byte | string => exact .err hk.inv (by decide)
      | list => exact .ok hk.inv
    · exact hk
  sListEnd s h := by
    unfold sListEnd
    split
    · exact .err h (by decide)
    · split
      · exact .err h (by decide)
      · exact .ok h

theorem decV_np (env : Env) (f : Nat) (t : Ty) (s : Stream) (h : Good s) : KeptR Good (· ≠ .panic) (decV env f t s) :=
  decV_kept streamInv_good env f t s h

/-! ### the map entry count is bounded by the size of the enclosing list (fix 8c7e349) -/

theorem mapPut_length_le (k : Bytes) (v : Val) : ∀ (l : List (Bytes × Val)), (mapPut k v l).length ≤ l.length + 1
  | [] => by simp [mapPut]
  | (k', v') :: r => by
    have := mapPut_length_le k v r
    unfold mapPut
    split <;> simp <;> omega

theorem insertKV_length (k : Bytes) (v : Val) : ∀ (l : List (Bytes × Val)), (insertKV k v l).length = l.length + 1
  | [] => by simp [insertKV]
  | (k', v') :: r => by
    have := insertKV_length k v r
    unfold insertKV
    split <;> simp [this]

theorem sortKV_length : ∀ (l : List (Bytes × Val)), (sortKV l).length = l.length
  | [] => by simp [sortKV]
  | (k, v) :: r => by simp [sortKV, insertKV_length, sortKV_length r]

theorem decMapEntries_length : ∀ (cnt : Nat) (acc : List (Bytes × Val)) (s : Stream) (kvs : List (Bytes × Val)) (s' : Stream),
    decMapEntries cnt acc s = (.ok kvs, s') → kvs.length ≤ acc.length + cnt
  | 0, acc, s, kvs, s', h => by
    simp [decMapEntries] at h
    rw [← h.1]; simp
  | cnt + 1, acc, s, kvs, s', h => by
    unfold decMapEntries at h
    split at h
    · simp at h
    · next k s1 heq1 =>
      split at h
      · simp at h
      · next v s2 heq2 =>
        have h1 := decMapEntries_length cnt _ _ kvs s' h
        have h2 := mapPut_length_le (keyBytes k) v acc
        omega

/-- whatever map the decoder returns, the number of entries it holds is at most (payload size of its list) / 22 — the
    bound is the input's, not a number read from it -/
theorem decMap_count_le (s : Stream) (ks : List Bytes) (vs : List Val) (e : Option Err) (s' : Stream)
    (h : decMap s = (.map ks vs, e, s')) :
    ks = [] ∨ ∃ sz s1, sList s = (.ok sz, s1) ∧ ks.length ≤ sz / 22 := by
  -- every exit of `decMap` but the last returns the empty map; at the last the count read has passed the test
  -- `len ≤ sz / 22`, and each of the `len` entries read adds at most one key
  have empty : ∀ {x : DecR}, x = (.map ks vs, e, s') → x.1 = .map [] [] → ks = [] := by
    intro x hx h0
    rw [hx] at h0
    cases h0
    rfl
  unfold decMap at h
  dsimp only at h
  split at h
  · exact .inl (empty h rfl)
  · next sz s1 heq =>
    split at h
    · exact .inl (empty h rfl)
    · split at h
      · next len s2 _ =>
        split at h
        · exact .inl (empty h rfl)
        · next hlen =>
          split at h
          · exact .inl (empty h rfl)
          · next kvs s3 heq3 =>
            have hl := decMapEntries_length _ _ _ _ _ heq3
            injection congrArg Prod.fst h with hks _
            refine .inr ⟨sz, s1, heq, ?_⟩
            rw [← hks, List.length_map, sortKV_length]
            rw [List.length_nil, Nat.zero_add] at hl
            omega
      · exact .inl (empty h rfl)

end Props.C11
