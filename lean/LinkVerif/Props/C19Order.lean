/-
C19: `bytes.Compare` as modelled by `blt` is a strict total order, and the leaf functions of
`libs/db/util.go` / `types.go` against their specification.
-/
import LinkVerif.Model.KV

namespace Props.C19
open Model.KV

theorem blt_cons_cons (a b : UInt8) (as bs : Bytes) :
    blt (a :: as) (b :: bs) = true ↔ a.toNat < b.toNat ∨ (a = b ∧ blt as bs = true) := by
  rw [blt]
  by_cases h1 : a.toNat < b.toNat
  · rw [if_pos h1]; exact ⟨fun _ => Or.inl h1, fun _ => rfl⟩
  · rw [if_neg h1]
    by_cases h2 : b.toNat < a.toNat
    · rw [if_pos h2]
      exact ⟨fun h => (nomatch h), fun h => h.elim (fun h => absurd h h1) (fun h => absurd (h.1 ▸ h2) (Nat.lt_irrefl _))⟩
    · rw [if_neg h2]
      have hab : a = b := UInt8.toNat_inj.mp (Nat.le_antisymm (Nat.not_lt.mp h2) (Nat.not_lt.mp h1))
      exact ⟨fun h => Or.inr ⟨hab, h⟩, fun h => h.elim (fun h => absurd h h1) (fun h => h.2)⟩

theorem blt_irrefl (a : Bytes) : blt a a = false := by
  induction a with
  | nil => rfl
  | cons x xs ih =>
    rw [Bool.eq_false_iff, ne_eq, blt_cons_cons, ih]
    exact fun h => h.elim (Nat.lt_irrefl _) (fun h => nomatch h.2)

theorem blt_ne {a b : Bytes} (h : blt a b = true) : a ≠ b := fun e => by rw [e, blt_irrefl] at h; cases h

theorem blt_nil_right (a : Bytes) : blt a [] = false := by cases a <;> rfl

theorem blt_trans {a b c : Bytes} (h₁ : blt a b = true) (h₂ : blt b c = true) : blt a c = true := by
  induction a generalizing b c with
  | nil =>
    cases c with
    | nil => rw [blt_nil_right] at h₂; cases h₂
    | cons z zs => rfl
  | cons x xs ih =>
    rcases b with _ | ⟨y, ys⟩
    · exact nomatch h₁
    rcases c with _ | ⟨z, zs⟩
    · exact nomatch h₂
    rw [blt_cons_cons] at h₁ h₂ ⊢
    rcases h₁ with h₁ | ⟨rfl, h₁⟩
    · rcases h₂ with h₂ | ⟨rfl, _⟩
      · exact Or.inl (Nat.lt_trans h₁ h₂)
      · exact Or.inl h₁
    · rcases h₂ with h₂ | ⟨rfl, h₂⟩
      · exact Or.inl h₂
      · exact Or.inr ⟨rfl, ih h₁ h₂⟩

theorem blt_asymm {a b : Bytes} (h : blt a b = true) : blt b a = false := by
  cases hba : blt b a with
  | false => rfl
  | true => have := blt_trans h hba; rw [blt_irrefl] at this; cases this

/-- trichotomy: `bytes.Compare` is total and its zero case is equality -/
theorem blt_total (a b : Bytes) : blt a b = true ∨ a = b ∨ blt b a = true := by
  induction a generalizing b with
  | nil => cases b with
    | nil => exact Or.inr (Or.inl rfl)
    | cons y ys => exact Or.inl rfl
  | cons x xs ih =>
    cases b with
    | nil => exact Or.inr (Or.inr rfl)
    | cons y ys =>
      rw [blt_cons_cons, blt_cons_cons]
      rcases Nat.lt_trichotomy x.toNat y.toNat with h | h | h
      · exact Or.inl (Or.inl h)
      · have hxy : x = y := UInt8.toNat_inj.mp h
        subst hxy
        rcases ih ys with h | h | h
        · exact Or.inl (Or.inr ⟨rfl, h⟩)
        · exact Or.inr (Or.inl (by rw [h]))
        · exact Or.inr (Or.inr (Or.inr ⟨rfl, h⟩))
      · exact Or.inr (Or.inr (Or.inl h))

theorem ble_iff (a b : Bytes) : ble a b = true ↔ (blt a b = true ∨ a = b) := by
  rw [ble, Bool.not_eq_true']
  constructor
  · intro h
    rcases blt_total a b with h' | h' | h'
    · exact Or.inl h'
    · exact Or.inr h'
    · rw [h'] at h; cases h
  · rintro (h | rfl)
    · exact blt_asymm h
    · exact blt_irrefl a

theorem nil_ble (a : Bytes) : ble [] a = true := by
  rw [ble, blt_nil_right]; rfl

theorem ble_cons_cons (a b : UInt8) (as bs : Bytes) :
    ble (a :: as) (b :: bs) = true ↔ a.toNat < b.toNat ∨ (a = b ∧ ble as bs = true) := by
  rw [ble_iff, ble_iff, blt_cons_cons, List.cons.injEq]
  constructor
  · rintro ((h | ⟨h, h'⟩) | ⟨h, h'⟩)
    · exact Or.inl h
    · exact Or.inr ⟨h, Or.inl h'⟩
    · exact Or.inr ⟨h, Or.inr h'⟩
  · rintro (h | ⟨h, h' | h'⟩)
    · exact Or.inl (Or.inl h)
    · exact Or.inl (Or.inr ⟨h, h'⟩)
    · exact Or.inr ⟨h, h'⟩

theorem ble_trans {a b c : Bytes} (h₁ : ble a b = true) (h₂ : ble b c = true) : ble a c = true := by
  rcases (ble_iff a b).mp h₁ with h | h
  · rcases (ble_iff b c).mp h₂ with h' | h'
    · exact (ble_iff a c).mpr (Or.inl (blt_trans h h'))
    · subst h'; exact h₁
  · subst h; exact h₂

theorem blt_of_blt_of_ble {a b c : Bytes} (h₁ : blt a b = true) (h₂ : ble b c = true) : blt a c = true := by
  rcases (ble_iff b c).mp h₂ with h | h
  · exact blt_trans h₁ h
  · subst h; exact h₁

theorem blt_of_ble_of_blt {a b c : Bytes} (h₁ : ble a b = true) (h₂ : blt b c = true) : blt a c = true := by
  rcases (ble_iff a b).mp h₁ with h | h
  · exact blt_trans h h₂
  · subst h; exact h₂

theorem blt_append_left (p a b : Bytes) : blt (p ++ a) (p ++ b) = blt a b := by
  induction p with
  | nil => rfl
  | cons x xs ih => simp [blt, ih]

theorem ble_append_left (p a b : Bytes) : ble (p ++ a) (p ++ b) = ble a b := by
  unfold ble; rw [blt_append_left]

theorem ble_append_right (p t : Bytes) : ble p (p ++ t) = true := by
  have h := blt_append_left p t []
  rw [List.append_nil, blt_nil_right] at h
  simp [ble, h]

/-- forward domain = `start <= key < end`, nil end unbounded, nil start = empty start -/
theorem isKeyInDomain_fwd (k : Bytes) (s e : Bound) : isKeyInDomain k s e false = inFwd k s e := by
  cases e <;> simp [isKeyInDomain, inFwd, ble, bval]

/-- reverse domain = `end < key <= start`, nil = unbounded on that side -/
theorem isKeyInDomain_rev (k : Bytes) (s e : Bound) : isKeyInDomain k s e true = inRev k s e := by
  cases s <;> cases e <;> simp [isKeyInDomain, inRev, ble, bval]

theorem hasPrefix_iff (p k : Bytes) : hasPrefix p k = true ↔ ∃ t, k = p ++ t := by
  induction p generalizing k with
  | nil => simp [hasPrefix]
  | cons x xs ih =>
    cases k with
    | nil => simp [hasPrefix]
    | cons y ys =>
      simp only [hasPrefix, Bool.and_eq_true, beq_iff_eq, ih, List.cons_append, List.cons.injEq]
      constructor
      · rintro ⟨rfl, t, rfl⟩; exact ⟨t, rfl, rfl⟩
      · rintro ⟨t, rfl, rfl⟩; exact ⟨rfl, t, rfl⟩

/-- FULL STATEMENT: the keys with prefix `p` are exactly the range `[p, PrefixToEnd p)` that the code iterates
(`IteratePrefix`, `NewIteratorWithPrefix`, `PrefixDB`) - for EVERY prefix: empty, 0xff tails, all 0xff -/
def prefix_range_statement : Prop :=
  ∀ (p k : Bytes),
    (hasPrefix p k = true ↔ ble p k = true ∧ (match prefixToEnd p with | none => True | some e => blt k e = true))

theorem prefix_range : prefix_range_statement := by
  intro p k
  induction p generalizing k with
  | nil => exact ⟨fun _ => ⟨nil_ble k, trivial⟩, fun _ => rfl⟩
  | cons x xs ih =>
    cases k with
    | nil => exact ⟨fun h => (nomatch h), fun h => (nomatch h.1)⟩
    | cons y ys =>
      have ihy := ih ys
      have h1 : x.toNat < 255 → (x + 1).toNat = x.toNat + 1 := fun hx => by
        rw [UInt8.toNat_add]; exact Nat.mod_eq_of_lt (Nat.succ_lt_succ hx)
      simp only [hasPrefix, Bool.and_eq_true, beq_iff_eq, prefixToEnd, ble_cons_cons]
      by_cases hxy : x = y
      · -- same first byte: both bounds are decided by the tails, except that a tail without upper bound is bounded by `x + 1`
        subst hxy
        cases hp : prefixToEnd xs with
        | some r =>
          simp only [hp] at ihy
          simp only [blt_cons_cons, Nat.lt_irrefl, false_or, true_and, ihy]
        | none =>
          simp only [hp, and_true] at ihy
          simp only [Nat.lt_irrefl, false_or, true_and, ihy]
          by_cases hx : x.toNat < 255
          · simp only [if_pos hx, blt_cons_cons, h1 hx, Nat.lt_succ_self, true_or, and_true]
          · simp only [if_neg hx, and_true]
      · -- different first byte: no prefix; `p ≤ k` forces `x < y`, which puts `k` at or above the upper bound
        have hne : x.toNat ≠ y.toNat := fun h => hxy (UInt8.toNat_inj.mp h)
        simp only [hxy, false_and, or_false, false_iff, not_and]
        intro hlt
        cases hp : prefixToEnd xs with
        | some r =>
          simp only [blt_cons_cons]
          exact fun h => h.elim (Nat.lt_asymm hlt) (fun h => hxy h.1.symm)
        | none =>
          by_cases hx : x.toNat < 255
          · simp only [if_pos hx, blt_cons_cons, h1 hx, blt_nil_right, Bool.false_eq_true, and_false, or_false, Nat.not_lt]
            exact hlt
          · have := y.toNat_lt
            omega

/-- the all-0xff case: no upper bound (nil); by `prefix_range` every key >= p then has the prefix -/
theorem prefixToEnd_all_ff (n : Nat) : prefixToEnd (List.replicate n 0xff) = none := by
  induction n with
  | zero => rfl
  | succ m ih =>
    rw [List.replicate_succ]
    simp only [prefixToEnd, ih]
    simp

/-- `cpDecr p` (when it does not underflow) is strictly below `p`, hence below every key with prefix `p` -/
theorem cpDecr_lt {p d : Bytes} (h : cpDecrCore p = some d) : blt d p = true := by
  induction p generalizing d with
  | nil => exact nomatch h
  | cons b rest ih =>
    simp only [cpDecrCore] at h
    cases hr : cpDecrCore rest with
    | some r =>
      rw [hr] at h
      rw [← Option.some.inj h, blt_cons_cons]
      exact Or.inr ⟨rfl, ih hr⟩
    | none =>
      simp only [hr] at h
      by_cases hb : 0 < b.toNat
      · rw [if_pos hb] at h
        rw [← Option.some.inj h, blt_cons_cons]
        have h1 : (b - 1).toNat = b.toNat - 1 :=
          UInt8.toNat_sub_of_le _ _ (UInt8.le_iff_toNat_le.mpr hb)
        exact Or.inl (by omega)
      · rw [if_neg hb] at h
        exact nomatch h

example : cpDecrCore [0x67, 0x00] = some [0x66, 0xff] := rfl
example : cpDecrCore [0x00, 0x00] = none := rfl
example : prefixToEnd [0x66, 0xff] = some [0x67] := rfl
example : hasPrefix [0x61] [0x61, 0x62] = true ∧ blt [0x61, 0x62] [0x62] = true := by decide

end Props.C19
