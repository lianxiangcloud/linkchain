/-
C16 — No message from a single peer can halt a node's consensus.

For the partial operations that peer-controlled values reach (`Model.PeerInput`) the handlers as they are NOW never
fault, for ALL integer fields and optional components; the handlers as they were before the `fix:` commits do
(kernel-checked witnesses = the messages the harness found).  The tie to the source is the regenerated guard table
`Gen.C16Facts.guards` (T2): each guard condition must still precede its partial operation; the arbitrary-message
fuzz through the real reactor + state machine is the search engine.  A second table, `Gen.C16Facts.lockFacts`, ties the
lock discipline of the vote and part containers that the gossip goroutines read.
-/
import LinkVerif.Model.PeerInput
import LinkVerif.Gen.C16Facts

namespace Props.C16
open Model.PeerInput

/-- Walks a chain of `if`s down branch by branch, keeping the condition (or its negation) at hand, where `split` would
simplify the whole remaining chain again at every step.  Unification does not find `P` from a goal like `(if …).1 = st`:
name it first (`let P : _ → Prop := fun x => …; show P _`, then `unfold` the handler). -/
theorem ite_ind {α : Sort _} {P : α → Prop} {c : Prop} [Decidable c] {a b : α} (ha : c → P a) (hb : ¬ c → P b) :
    P (if c then a else b) := by
  by_cases h : c
  · rw [if_pos h]; exact ha h
  · rw [if_neg h]; exact hb h

theorem index_ok {α : Type} (xs : List α) (i : Int) (h0 : 0 ≤ i) (h1 : i.toNat < xs.length) :
    ∃ x, ∀ site, index xs i site = .ok x := by
  refine ⟨xs[i.toNat], fun site => ?_⟩
  unfold index
  rw [if_neg (Int.not_lt.2 h0), List.getElem?_eq_getElem h1]

/-- for EVERY index a peer can put into a block part, `AddPart` answers (accepts or rejects) and never panics -/
theorem addPart_total (ps : PartSet) (idx : Int) (proofOk : Bool) (hwf : ps.WF) :
    ∃ r, addPart ps idx proofOk = .ok r := by
  unfold addPart
  by_cases h : idx < 0 ∨ idx ≥ ps.total
  · rw [if_pos h]; exact ⟨_, rfl⟩
  · have h0 : 0 ≤ idx := Int.not_lt.1 fun hh => h (Or.inl hh)
    have h1 : idx.toNat < ps.parts.length := by have := hwf.2; omega
    obtain ⟨x, hx⟩ := index_ok ps.parts idx h0 h1
    rw [if_neg h]
    simp only [hx, bind, Except.bind]
    cases x with
    | some _ => exact ⟨_, rfl⟩
    | none => cases proofOk <;> exact ⟨_, rfl⟩

theorem addPart_rejects_out_of_range (ps : PartSet) (idx : Int) (proofOk : Bool) (h : idx < 0 ∨ idx ≥ ps.total) :
    addPart ps idx proofOk = .ok (.rejected "ErrPartSetUnexpectedIndex") := by
  unfold addPart; simp only [h, if_true]

/-- what the pinned tree did: index −1 while a proposal is set panics inside receiveRoutine -/
theorem addPart_unguarded_counterexample :
    addPartUnguarded { total := 2, parts := [none, none] } (-1) false
      = .error (.panic "types.(*PartSet).AddPart") := rfl

theorem makeSlice_ok (n : Int) (sz bound : Nat) (site : String) (h0 : 0 ≤ n) (h1 : n ≤ 2 ^ 47)
    (h2 : n.toNat * sz ≤ bound) : makeSlice n sz bound site = .ok n.toNat := by
  unfold makeSlice
  rw [if_neg (by omega), if_neg (by omega)]

/-- for EVERY total and signature outcome the repaired `defaultSetProposal` answers: it neither panics nor asks for more
than `bound` bytes in one allocation, for any `bound` from 2^27 up (`maxParts ≤ 2^24` eight-byte elements) -/
theorem setProposal_total (total maxParts : Int) (sigOk : Bool) (bound : Nat)
    (hm : maxParts ≤ 2 ^ 24) (hb : 2 ^ 27 ≤ bound) :
    ∃ r, setProposal total maxParts sigOk bound = .ok r := by
  unfold setProposal
  by_cases h : total ≤ 0 ∨ total > maxParts
  · rw [if_pos h]; exact ⟨_, rfl⟩
  · rw [if_neg h]
    cases sigOk with
    | false => exact ⟨_, rfl⟩
    | true =>
      have hslice : ∀ (n : Int) (site : String), 0 ≤ n → n ≤ 2 ^ 24 → makeSlice n 8 bound site = .ok n.toNat :=
        fun n site h0 h1 => makeSlice_ok n 8 bound site h0 (by omega) (by omega)
      have ht : 0 ≤ total ∧ total ≤ 2 ^ 24 := by omega
      have hw : 0 ≤ (total + 63) / 64 ∧ (total + 63) / 64 ≤ 2 ^ 24 := by omega
      unfold newPartSetFromHeader
      simp only [Bool.not_true, Bool.false_eq_true, if_false, hslice _ _ ht.1 ht.2, hslice _ _ hw.1 hw.2, bind, Except.bind]
      exact ⟨_, rfl⟩

/-- before the repair: a negative total from the round's proposer panics, a huge one is an out-of-memory -/
theorem setProposal_unguarded_counterexample :
    setProposalUnguarded (-1) true (2 ^ 30) = .error (.panic "types.NewPartSetFromHeader") ∧
    setProposalUnguarded (2 ^ 33) true (2 ^ 30) = .error (.oom (2 ^ 36)) := ⟨rfl, rfl⟩

/-! ## Decoded proposal block with nil components; fault-validator evidence next to an empty commit -/

theorem blockComplete_total (b : DecodedBlock) (r : Nat) : ∃ x, blockComplete b r = .ok x := by
  unfold blockComplete
  split
  · split <;> exact ⟨_, rfl⟩
  · exact ⟨_, rfl⟩

theorem blockComplete_unguarded_counterexample :
    blockCompleteUnguarded { header := none, data := false, lastCommit := false } 0
      = .error (.panic "consensus.(*ConsensusState).addProposalBlockPart") := rfl

theorem faultEvidence_total (fp : Option Int) (r : Int) : ∃ x, faultEvidence fp r = .ok x := by
  unfold faultEvidence
  split
  · exact ⟨_, rfl⟩
  · split <;> exact ⟨_, rfl⟩

theorem faultEvidence_unguarded_counterexample :
    faultEvidenceUnguarded none 0 = .error (.panic "consensus.(*ConsensusState).checkFaultValEvidence") := rfl

theorem stragglerPrecommit_total (b : Bool) : ∃ x, stragglerPrecommit b = .ok x := by
  cases b <;> exact ⟨_, rfl⟩

theorem stragglerPrecommit_unguarded_counterexample :
    stragglerPrecommitUnguarded false = .error (.panic "types.(*VoteSet).AddVote") := rfl

theorem faultEvidenceKeys_total (r : Int) (p f : Bool) : ∃ x, faultEvidenceKeys r p f = .ok x := by
  unfold faultEvidenceKeys; split <;> exact ⟨_, rfl⟩

theorem faultEvidenceKeys_unguarded_counterexample :
    faultEvidenceKeysUnguarded 0 true true = .error (.panic "consensus.(*ConsensusState).checkFaultValEvidence") ∧
    faultEvidenceKeysUnguarded 1 false true = .error (.panic "consensus.(*ConsensusState).checkFaultValEvidence") := ⟨rfl, rfl⟩

/-- C16 for four of the modelled handlers in one statement (`stragglerPrecommit_total` and `faultEvidenceKeys_total` stand
beside it) -/
theorem C16_modelled_handlers_total :
    (∀ ps idx ok, PartSet.WF ps → ∃ r, addPart ps idx ok = .ok r) ∧
    (∀ total maxParts sig bound, maxParts ≤ 2 ^ 24 → 2 ^ 27 ≤ bound → ∃ r, setProposal total maxParts sig bound = .ok r) ∧
    (∀ b r, ∃ x, blockComplete b r = .ok x) ∧ (∀ fp r, ∃ x, faultEvidence fp r = .ok x) :=
  ⟨addPart_total, setProposal_total, blockComplete_total, faultEvidence_total⟩

/-! ## The tie (T2): every guard the theorems rely on still precedes its partial operation in the source -/

open Gen.C16Facts in
theorem guards_in_place : ∀ g ∈ guards, g.opFound = true ∧ g.have_ = g.want := by
  -- column against column by unfolding: the conditions are never compared as strings
  have hfound : ∀ g ∈ guards, g.opFound = true := List.all_eq_true.1 rfl
  have hsame : ∀ g ∈ guards, g.have_ = g.want := List.map_inj_left.1 rfl
  exact fun g hg => ⟨hfound g hg, hsame g hg⟩

open Gen.C16Facts in
theorem guards_vetted :
    guards.map (·.name) = ["addPartIndexLower", "addPartIndexUpper", "proposalTotalStateMachine", "proposalTotalReactor",
      "blockComponentsNil", "faultEvidenceEmptyCommitState", "faultEvidenceNilKeysState", "faultEvidenceNilKeysValidation",
      "lastCommitNilFirstHeight", "faultEvidenceEmptyCommitValidation"] := rfl

/-- T2, lock discipline: which exported methods of the vote and part containers take the receiver's mutex first.  The
reactor's gossip goroutines read these containers while the state machine writes them; an unlocked map read concurrent with
a write is a fatal runtime error (`concurrent map read and map write`) that no `recover` catches — a remote peer can provoke the
reads at will.  The unlocked ones read no map (`String` delegates).  Any change of this table (a lock dropped, a new
unlocked method) breaks the `rfl` and has to be reviewed. -/
theorem lock_discipline_fact : Gen.C16Facts.lockFacts =
    [("VoteSet.ChainID", false),
     ("VoteSet.Height", false),
     ("VoteSet.Round", false),
     ("VoteSet.Type", false),
     ("VoteSet.Size", false),
     ("VoteSet.AddVote", true),
     ("VoteSet.SetPeerMaj23", true),
     ("VoteSet.BitArray", true),
     ("VoteSet.BitArrayByBlockID", true),
     ("VoteSet.GetByIndex", true),
     ("VoteSet.GetByAddress", true),
     ("VoteSet.HasTwoThirdsMajority", true),
     ("VoteSet.IsCommit", true),
     ("VoteSet.HasTwoThirdsAny", true),
     ("VoteSet.HasAll", true),
     ("VoteSet.TwoThirdsMajority", true),
     ("VoteSet.String", false),
     ("VoteSet.StringIndented", true),
     ("VoteSet.MarshalJSON", true),
     ("VoteSet.BitArrayString", true),
     ("VoteSet.VoteStrings", true),
     ("VoteSet.StringShort", true),
     ("VoteSet.MakeCommit", true),
     ("HeightVoteSet.Reset", true),
     ("HeightVoteSet.Height", true),
     ("HeightVoteSet.Round", true),
     ("HeightVoteSet.SetRound", true),
     ("HeightVoteSet.AddVote", true),
     ("HeightVoteSet.Prevotes", true),
     ("HeightVoteSet.Precommits", true),
     ("HeightVoteSet.POLInfo", true),
     ("HeightVoteSet.SetPeerMaj23", true),
     ("HeightVoteSet.String", false),
     ("HeightVoteSet.StringIndented", true),
     ("HeightVoteSet.MarshalJSON", true),
     ("PartSet.Header", false),
     ("PartSet.HasHeader", false),
     ("PartSet.BitArray", true),
     ("PartSet.Hash", false),
     ("PartSet.HashesTo", false),
     ("PartSet.Count", false),
     ("PartSet.Total", false),
     ("PartSet.AddPart", true),
     ("PartSet.GetPart", true),
     ("PartSet.IsComplete", false),
     ("PartSet.GetReader", false),
     ("PartSet.StringShort", true),
     ("PartSet.MarshalJSON", true)] := rfl

/-- Entries are looked up by position, never compared with the others: deciding `m ∈ t` for strings costs one string
comparison per entry passed over, and the kernel is slow at those. -/
theorem mem_of_positions {α : Type} (t : List α) (is : List Nat) : ∀ x ∈ is.filterMap (t[·]?), x ∈ t := by
  intro x hx
  obtain ⟨i, _, hi⟩ := List.mem_filterMap.1 hx
  exact List.mem_of_getElem? hi

/-- each of these 21 methods takes the lock.  They are meant to be all the methods that read or write the vote and part
maps; the list is written by hand and its completeness is not checked. -/
theorem vote_map_methods_lock :
    ∀ m ∈ ["VoteSet.AddVote", "VoteSet.SetPeerMaj23", "VoteSet.BitArray", "VoteSet.BitArrayByBlockID", "VoteSet.GetByIndex",
           "VoteSet.GetByAddress", "VoteSet.HasTwoThirdsMajority", "VoteSet.IsCommit", "VoteSet.HasTwoThirdsAny", "VoteSet.HasAll",
           "VoteSet.TwoThirdsMajority", "VoteSet.MakeCommit", "HeightVoteSet.AddVote", "HeightVoteSet.Prevotes",
           "HeightVoteSet.Precommits", "HeightVoteSet.POLInfo", "HeightVoteSet.SetPeerMaj23", "HeightVoteSet.SetRound",
           "PartSet.AddPart", "PartSet.GetPart", "PartSet.BitArray"], (m, true) ∈ Gen.C16Facts.lockFacts :=
  -- the list of names paired with `true` is, by evaluation, `positions.filterMap (lockFacts[·]?)` for these positions
  fun m hm => mem_of_positions _ [5, 6, 7, 8, 9, 10, 11, 12, 13, 14, 15, 22, 27, 28, 29, 30, 31, 26, 42, 43, 37] (m, true)
    (List.mem_map_of_mem (f := (·, true)) hm)

/-! ## Non-vacuity -/
example : ({ total := 2, parts := [none, some 7] } : PartSet).WF := by unfold PartSet.WF; decide
example : addPart { total := 2, parts := [none, some 7] } 0 true = .ok .accepted := rfl
example : addPart { total := 2, parts := [none, some 7] } 1 true = .ok (.rejected "duplicate") := rfl
-- 673 = `maxBlockParts()` under the default parameters: BlockSize.MaxBytes 22020096 / BlockPartSizeBytes 32768 + 1
example : setProposal 3 673 true (2 ^ 30) = .ok .accepted := rfl

end Props.C16
