import LinkVerif.Props.C14

/-!
# C14 — a changed byte at ANY offset of the log (raw global offset, no structure given)
-/
namespace Props.C14
open Model.Wal

/-- **one `Decode` on a record with one changed byte** (any of its offsets): never a message; `corrupt` when the byte
is in the checksum field (no assumption) or in the payload (`DetectsSingleByte`); for the length field the explicit
non-collision hypothesis `hcol` is needed -/
theorem decode1_damaged_frame (c : Codec) (hb : Bounded c) (hdet : DetectsSingleByte c) (t : Tail) (p : Bytes)
    (hv : Valid c p) (R : Bytes)
    (hcol : ∀ n, n ≠ p.length → n ≤ (p ++ R).length → c.crc ((p ++ R).take n) ≠ c.crc p)
    (k : Nat) (b : UInt8) (hk : k < (frame c p).length) (hne : (frame c p).set k b ≠ frame c p) :
    ((decode1 c t ((frame c p).set k b ++ R)).1).isMsg = false ∧
    ((k < 4 ∨ 8 ≤ k) → decode1 c t ((frame c p).set k b ++ R) = (Res.corrupt, R)) := by
  rw [frame_length] at hk
  have hF := frame_eq_rawRecord c p
  -- a changed 4-byte field holds another number: `be32` is the inverse of `rd32` on 4 bytes
  by_cases h4 : k < 4
  · have hs : (frame c p).set k b = rawRecord ((be32 (c.crc p)).set k b) (be32 p.length) p := by
      rw [hF]; exact List.set_append_left _ _ h4
    have hw : ((be32 (c.crc p)).set k b).length = 4 := List.length_set
    have hrd : rd32 ((be32 (c.crc p)).set k b) ≠ c.crc p := fun e => hne (by rw [hs, ← be32_rd32 _ hw, e, ← hF])
    rw [hs, flip_crc_field c hb t p hv _ hw hrd R]
    exact ⟨rfl, fun _ => rfl⟩
  · by_cases h8 : k < 8
    · have hs : (frame c p).set k b = rawRecord (be32 (c.crc p)) ((be32 p.length).set (k - 4) b) p := by
        rw [hF]
        exact (List.set_append_right _ _ (Nat.le_of_not_lt h4)).trans
          (congrArg _ (List.set_append_left _ _ (show k - 4 < 4 by omega)))
      have hw : ((be32 p.length).set (k - 4) b).length = 4 := List.length_set
      have hn : rd32 ((be32 p.length).set (k - 4) b) ≠ p.length := fun e =>
        hne (by rw [hs, ← be32_rd32 _ hw, e, ← hF])
      rw [hs]
      exact ⟨flip_len_field c hb t p _ hw R (hcol _ hn), fun h => by omega⟩
    · have hs : (frame c p).set k b = rawRecord (be32 (c.crc p)) (be32 p.length) (p.set (k - 8) b) := by
        rw [hF]
        exact (List.set_append_right _ _ (Nat.le_of_not_lt h4)).trans
          (congrArg _ ((List.set_append_right _ _ (show 4 ≤ k - 4 by omega)).trans (by rw [Nat.sub_sub]; rfl)))
      have hch : SingleByteChange p (p.set (k - 8) b) :=
        ⟨k - 8, b, by omega, rfl, fun e => hne (by rw [hs, e, List.set_getElem_self, ← hF])⟩
      rw [hs, flip_payload c hb hdet t p _ hv hch R]
      exact ⟨rfl, fun _ => rfl⟩

/-- **Explicit hypothesis for length-field damage** (cannot be a theorem about a 32-bit checksum): reading a record of
the log with any other length never reproduces that record's checksum -/
def NoLenCollision (c : Codec) (ps : List Bytes) : Prop :=
  ∀ pre p post, ps = pre ++ p :: post → ∀ n, n ≠ p.length → c.crc ((p ++ frames c post).take n) ≠ c.crc p

/-- **flip_any_offset**: a log of valid records in which the byte at ANY offset `off` was replaced by a different value.
With `j` the record that contains `off`: the reader replays exactly the `j` records before it, in order, and then stops
with a terminal that is not a message — `corrupt` when the byte lies in a checksum field (no assumption) or a payload
(`DetectsSingleByte`); when it lies in a length field (`NoLenCollision`) the statement says no more than "not a message"
(`decode1_header` shows the candidates: `corrupt`, "length exceeded", "failed to read data").  In particular nothing
after the damage and nothing that was not written is ever returned. -/
theorem flip_any_offset (c : Codec) (hb : Bounded c) (hdet : DetectsSingleByte c) (t : Tail)
    (ps : List Bytes) (hv : ∀ p ∈ ps, Valid c p) (hcol : NoLenCollision c ps)
    (off : Nat) (b : UInt8) (ho : off < (frames c ps).length) (hne : (frames c ps).set off b ≠ frames c ps) :
    ∃ j e, j < ps.length ∧ e.isMsg = false ∧
      decodeAll c t ((frames c ps).set off b) = (ps.take j, e) ∧
      bytesOf c ps j ≤ off ∧ off < bytesOf c ps (j + 1) ∧
      ((off - bytesOf c ps j < 4 ∨ 8 ≤ off - bytesOf c ps j) → e = Res.corrupt) := by
  obtain ⟨j, hj, hlo, hk⟩ := bytesOf_locate c ps off ho
  have hset : (frames c ps).set off b =
      frames c (ps.take j) ++ ((frame c ps[j]).set (off - bytesOf c ps j) b ++ frames c (ps.drop (j + 1))) := by
    rw [frames_split c ps j hj, List.set_append_right _ _ hlo]
    exact congrArg _ (List.set_append_left _ _ hk)
  have hne' : (frame c ps[j]).set (off - bytesOf c ps j) b ≠ frame c ps[j] :=
    fun e => hne (by rw [hset, e, ← frames_split c ps j hj])
  have hd := decode1_damaged_frame c hb hdet t ps[j] (hv _ (List.getElem_mem hj)) (frames c (ps.drop (j + 1)))
    (fun n hn _ => hcol (ps.take j) _ _ (by rw [List.getElem_cons_drop, List.take_append_drop]) n hn) _ b hk hne'
  refine ⟨j, _, hj, hd.1, ?_, hlo, by rw [bytesOf_succ c ps j hj]; omega, fun h => congrArg Prod.fst (hd.2 h)⟩
  rw [hset]
  exact decodeAll_frames_stop c hb _ (fun p hp => hv p (List.mem_of_mem_take hp)) (Prod.eta _).symm hd.1

/-- **never_unwritten_flipped**: whatever single byte of the log is changed, every message read back was written -/
theorem never_unwritten_flipped (c : Codec) (hb : Bounded c) (hdet : DetectsSingleByte c) (t : Tail)
    (ps : List Bytes) (hv : ∀ p ∈ ps, Valid c p) (hcol : NoLenCollision c ps)
    (off : Nat) (b : UInt8) (ho : off < (frames c ps).length) (hne : (frames c ps).set off b ≠ frames c ps) :
    ∀ m ∈ (decodeAll c t ((frames c ps).set off b)).1, m ∈ ps := by
  obtain ⟨j, e, _, _, h, _⟩ := flip_any_offset c hb hdet t ps hv hcol off b ho hne
  rw [h]
  exact fun m hm => List.mem_of_mem_take hm

set_option maxRecDepth 100000 in
/-- instances of the conclusion with the real CRC-32C on a three-record log (record 1 occupies offsets 10..18):
a changed checksum byte, length byte (to 2, and to an oversized value) and payload byte -/
example :
    let s := frames toyCodec [[0xEE, 1], [7], [0xEE, 2]]
    decodeAll toyCodec Tail.eof (s.set 10 0x55) = ([[0xEE, 1]], Res.corrupt) ∧
    decodeAll toyCodec Tail.eof (s.set 17 2) = ([[0xEE, 1]], Res.corrupt) ∧
    decodeAll toyCodec Tail.eof (s.set 14 0xFF) = ([[0xEE, 1]], Res.errBig) ∧
    decodeAll toyCodec Tail.eof (s.set 18 8) = ([[0xEE, 1]], Res.corrupt) ∧
    decodeAll toyCodec Tail.eof s = ([[0xEE, 1], [7], [0xEE, 2]], Res.eof) := by
  decide +kernel

end Props.C14
