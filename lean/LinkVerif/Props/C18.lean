/-
C18 — Peer connections deliver each channel's messages intact, in order, authenticated.

Theorems about `Model.Conn` (the model of libs/p2p/conn as it is today) and about the constants / structural facts the
extractor regenerates from the tree on every check (`Gen.ConnFacts`).  Cryptographic and compression laws are explicit
hypotheses (`Good`, `Unforgeable`), never axioms.

The authentication clause holds at full strength since 57b5264 (`C18_auth_holds : C18_auth_statement`: the signer is the
*peer*, a session other than ourselves, or the attacker under a key of its own): `MakeSecretConnection` rejects a peer
that presents our own public key, which is what the reflection of our own handshake bytes amounted to.  The identity
clause one layer up holds since 7463840 (`C18_identity_holds : C18_identity_statement`: for every sequence of connection
attempts every peer of the switch is registered under the ID of the key its connection authenticated; `no_id_squatting`,
`honest_not_blocked`; T2 `identity_guard_present`).  The blacklist clause holds since faaf6b9
(`C18_blacklist_holds : C18_blacklist_statement`, `blacklisted_never_joins`; T2 `cache_cleared_before_id_tests`): the
peer-supplied `CachePeerID` is cleared before any test that calls `ID()`.
-/
import LinkVerif.Model.ConnCfg
import LinkVerif.Props.C18Mux

namespace Props.C18
open Model.Conn

/-- header(1) + length(4) -/
theorem header_layout :
    Gen.ConnFacts.leadingSize = 1 ∧ Gen.ConnFacts.dataLenSize = 4 ∧
    Gen.ConnFacts.headerSize = Gen.ConnFacts.leadingSize + Gen.ConnFacts.dataLenSize := by decide

/-- the compiled-in frame mode is `version00 | typeCompress`, and the reader's masks recognise it -/
theorem frame_mode :
    Gen.ConnFacts.leadingType = Gen.ConnFacts.typeCompress ∧ Gen.ConnFacts.leadingVersion = Gen.ConnFacts.version00 ∧
    (genCfg.leading &&& genCfg.versionMask) = genCfg.version00 ∧ (genCfg.leading &&& genCfg.typeMask) = genCfg.typeCompress ∧
    genCfg.typeCompress ≠ genCfg.typeEncrypt := by decide

/-- **frame_fits**: any chunk `Write` cuts (≤ dataMaxSize) yields, under snappy's bound, a frame within `frameCapacity`
and a length field the reader accepts; constants as generated from the tree -/
theorem frame_fits (n : Nat) (h : n ≤ Gen.ConnFacts.dataMaxSize) :
    Gen.ConnFacts.headerSize + maxEncodedLen n ≤ Gen.ConnFacts.frameCapacity ∧
    maxEncodedLen n ≤ Gen.ConnFacts.frameCapacity - Gen.ConnFacts.headerSize := by
  simp only [Gen.ConnFacts.dataMaxSize] at h
  simp only [maxEncodedLen, Gen.ConnFacts.headerSize, Gen.ConnFacts.frameCapacity]
  omega

example : Gen.ConnFacts.headerSize + maxEncodedLen Gen.ConnFacts.dataMaxSize = 38266 := rfl

/-- the frame length always fits the 4-byte big-endian field -/
theorem capacity_fits_u32 : Gen.ConnFacts.frameCapacity < 4294967296 := by decide

/-- `Read` keeps exactly the unread remainder: the only assignments to `recvBuffer` are the two `[n:]` slices -/
theorem read_keeps_remainder : Gen.ConnFacts.readRecvBufferAssigns = ["sc.recvBuffer[n:]", "chunk[n:]"] := rfl

/-- `Write` cuts at `dataMaxSize` and tests the frame against `frameCapacity` -/
theorem write_guards :
    "dataMaxSize < len(data)" ∈ Gen.ConnFacts.writeConds ∧ "len(frame) > frameCapacity" ∈ Gen.ConnFacts.writeConds := by
  simp only [Gen.ConnFacts.writeConds, List.mem_cons, true_or, or_true, and_self]

/-- `nextPacketMsg` sets EOF = 1 exactly in the branch `len(ch.sending) <= maxSize`, 0 in the other -/
theorem eof_only_on_last_fragment :
    Gen.ConnFacts.nextPacketEOF = [("len(ch.sending) <= maxSize", true, 1), ("len(ch.sending) <= maxSize", false, 0)] := rfl

/-- `recvPacketMsg` tests the capacity before it appends, and delivers only on EOF == 1 -/
theorem capacity_test_precedes_append :
    Gen.ConnFacts.recvPacketSteps.take 4 =
      ["var recvCap, recvReceived = ch.desc.RecvMessageCapacity, len(ch.recving) + len(packet.Bytes)",
       "if recvCap < recvReceived", "ch.recving = append(ch.recving, packet.Bytes...)", "if packet.EOF == byte(0x01)"] := rfl

/-- the handshake rejects a nil key, OUR OWN key (both ends sign the same challenge: without this test our own signature
reflected back authenticates a key-less attacker) and a signature that does not verify on the challenge, in this order -/
theorem handshake_checks :
    Gen.ConnFacts.handshakeConds = ["err != nil", "err != nil", "remPubKey == nil", "remPubKey.Equals(locPubKey)",
      "!remPubKey.VerifyBytes(challenge[:], remSignature)"] := rfl

/-- the plaintext key exchange reads exactly one encoded key (`io.ReadFull` + `DecodeBytesWithType`); it does not decode
through `ser.DecodeReaderWithType`, whose throw-away buffered reader would swallow the peer's next handshake message -/
theorem eph_key_read_exact :
    "io.ReadFull" ∈ Gen.ConnFacts.ephKeyCalls ∧ "ser.DecodeBytesWithType" ∈ Gen.ConnFacts.ephKeyCalls ∧
    "ser.DecodeReaderWithType" ∉ Gen.ConnFacts.ephKeyCalls := by
  simp only [Gen.ConnFacts.ephKeyCalls, List.mem_cons, String.reduceEq, true_or, or_true, true_and, or_self,
    List.not_mem_nil, not_false_eq_true]

theorem be32_length (n : Nat) : (be32 n).length = 4 := rfl

/-- the 4-byte length field round-trips for every frame length that can occur -/
theorem be32dec_be32 (n : Nat) (h : n < 4294967296) :
    be32dec (UInt8.ofNat (n / 16777216)) (UInt8.ofNat (n / 65536)) (UInt8.ofNat (n / 256)) (UInt8.ofNat n) = n := by
  -- n = n % 2^32, written out one base-256 digit at a time
  have C : n % 4294967296 = n % 16777216 + 16777216 * (n / 16777216 % 256) := Nat.mod_mul (a := 16777216) (b := 256)
  rw [Nat.mod_eq_of_lt h, Nat.mod_mul (x := n) (a := 65536) (b := 256), Nat.mod_mul (x := n) (a := 256) (b := 256)] at C
  simp only [be32dec, UInt8.toNat_ofNat']
  conv => rhs; rw [C]
  ac_rfl

/-- what the stream theorems assume about the configuration and the compressor -/
structure Good (cfg : FrameCfg) (cd : Codec) : Prop where
  dec_enc : ∀ x, cd.dec (cd.enc x) = some x
  enc_len : ∀ x, (cd.enc x).length ≤ maxEncodedLen x.length
  /-- the length a snappy block announces is the length of what it encodes -/
  ann_enc : ∀ x, cd.announced (cd.enc x) = x.length
  hdr_ver : (cfg.leading &&& cfg.versionMask) = cfg.version00
  hdr_type : (cfg.leading &&& cfg.typeMask) = cfg.typeCompress
  fits : cfg.headerSize + maxEncodedLen cfg.dataMaxSize ≤ cfg.frameCapacity
  cap32 : cfg.frameCapacity < 4294967296
  hs5 : cfg.headerSize = 5
  max_pos : 0 < cfg.dataMaxSize

theorem genCfg_good (cd : Codec) (h1 : ∀ x, cd.dec (cd.enc x) = some x)
    (h2 : ∀ x, (cd.enc x).length ≤ maxEncodedLen x.length) (h3 : ∀ x, cd.announced (cd.enc x) = x.length) : Good genCfg cd :=
  { dec_enc := h1, enc_len := h2, ann_enc := h3, hdr_ver := by decide, hdr_type := by decide, fits := by decide, cap32 := by decide,
    hs5 := by decide, max_pos := by decide }

/-- the assumptions are satisfiable: the identity codec -/
example : Good genCfg { enc := id, dec := some, announced := List.length } :=
  genCfg_good _ (fun _ => rfl) (fun x => by simp only [maxEncodedLen, id]; omega) (fun _ => rfl)

theorem maxEncodedLen_mono {a b : Nat} (h : a ≤ b) : maxEncodedLen a ≤ maxEncodedLen b := by
  simp only [maxEncodedLen]
  have : a / 6 ≤ b / 6 := Nat.div_le_div_right h
  omega

theorem chunksAux_spec (max : Nat) (hm : 0 < max) :
    ∀ (fuel : Nat) (d : Bytes), d.length ≤ fuel →
      (chunksAux max fuel d).flatten = d ∧ ∀ c ∈ chunksAux max fuel d, c.length ≤ max := by
  intro fuel
  induction fuel with
  | zero =>
    intro d h
    have : d = [] := List.length_eq_zero_iff.mp (Nat.le_zero.mp h)
    subst this
    exact ⟨rfl, fun _ hc => nomatch hc⟩
  | succ k ih =>
    intro d h
    simp only [chunksAux]
    cases d with
    | nil => exact ⟨rfl, fun _ hc => nomatch hc⟩
    | cons x xs =>
      obtain ⟨ihf, ihb⟩ := ih ((x :: xs).drop max) (by simp only [List.length_drop, List.length_cons] at *; omega)
      simp only [List.isEmpty_cons, Bool.false_eq_true, ↓reduceIte, List.flatten_cons, List.mem_cons]
      refine ⟨by rw [ihf, List.take_append_drop], fun c hc => ?_⟩
      rcases hc with rfl | hc
      · exact List.length_take_le _ _
      · exact ihb c hc

theorem chunks_spec (max : Nat) (hm : 0 < max) (d : Bytes) :
    (chunks max d).flatten = d ∧ ∀ c ∈ chunks max d, c.length ≤ max :=
  chunksAux_spec max hm _ d (Nat.le_refl _)

/-- **read_frame**: with an empty `recvBuffer` and a whole frame of a legal chunk at the head of the wire, `Read` returns the
first `n` bytes of that chunk, keeps exactly the rest, and consumes exactly that frame -/
theorem read_frame {cfg : FrameCfg} {cd : Codec} (g : Good cfg cd) (c rest : Bytes) (n : Nat)
    (hc : c.length ≤ cfg.dataMaxSize) :
    read cfg cd { recvBuffer := [], wire := frameOf cfg cd c ++ rest } n
      = ({ recvBuffer := c.drop n, wire := rest }, .ok (c.take n)) := by
  have hlen : ¬ (cd.enc c).length > cfg.frameCapacity - cfg.headerSize := by
    have := g.enc_len c
    have := maxEncodedLen_mono hc
    have := g.fits
    omega
  have h32 : (cd.enc c).length < 4294967296 := by have := g.cap32; omega
  have hw : frameOf cfg cd c ++ rest = cfg.leading :: UInt8.ofNat ((cd.enc c).length / 16777216) ::
      UInt8.ofNat ((cd.enc c).length / 65536) :: UInt8.ofNat ((cd.enc c).length / 256) :: UInt8.ofNat (cd.enc c).length ::
      (cd.enc c ++ rest) := rfl
  rw [hw, Model.Conn.read]
  -- the tests of `read` in their order: buffer empty, version and type of the header, the length field (`be32dec_be32`) within
  -- capacity and within the wire, the announced length, the decoding, the chunk length
  simp only [List.isEmpty_nil, Bool.not_true, Bool.false_eq_true, ↓reduceIte, be32dec_be32 _ h32,
    g.hdr_ver, g.hdr_type, bne_self_eq_false, Bool.false_or, beq_self_eq_true, Bool.and_false, List.length_append,
    if_neg hlen, Nat.not_lt.mpr (Nat.le_add_right _ _), List.take_left', List.drop_left', g.dec_enc, g.ann_enc,
    Nat.not_lt.mpr hc]

theorem read_buffered {cfg : FrameCfg} {cd : Codec} {b : UInt8} {bs wire : Bytes} {n : Nat} :
    read cfg cd { recvBuffer := b :: bs, wire := wire } n
      = ({ recvBuffer := (b :: bs).drop n, wire := wire }, .ok ((b :: bs).take n)) := by
  simp [Model.Conn.read]

def wireOf (cfg : FrameCfg) (cd : Codec) (cs : List Bytes) : Bytes := (cs.map (frameOf cfg cd)).flatten

/-- what a reader holding `buf` in `recvBuffer` and the frames of `cs` on the wire has yet to return -/
def pending (buf : Bytes) (cs : List Bytes) : Bytes := buf ++ cs.flatten

def ReadsPending (cfg : FrameCfg) (cd : Codec) (buf : Bytes) (cs : List Bytes) (ns : List Nat) : Prop :=
  ∃ buf' cs' out err, readMany cfg cd { recvBuffer := buf, wire := wireOf cfg cd cs } ns
      = ({ recvBuffer := buf', wire := wireOf cfg cd cs' }, out, err)
    ∧ out ++ pending buf' cs' = pending buf cs
    ∧ (err = none ∨ (err = some .eof ∧ out = pending buf cs))

/-- the invariant behind `stream_identity` -/
theorem readMany_inv {cfg : FrameCfg} {cd : Codec} (g : Good cfg cd) (ns : List Nat) :
    ∀ (buf : Bytes) (cs : List Bytes), (∀ c ∈ cs, c.length ≤ cfg.dataMaxSize) → ReadsPending cfg cd buf cs ns := by
  induction ns with
  | nil => intro buf cs _; exact ⟨buf, cs, [], none, rfl, rfl, Or.inl rfl⟩
  | cons n ns ih =>
    intro buf cs hcs
    -- a `Read` that returns a prefix `o1` of what is pending and keeps the rest pending, followed by the remaining reads
    have step : ∀ buf1 cs1 o1, read cfg cd { recvBuffer := buf, wire := wireOf cfg cd cs } n
          = ({ recvBuffer := buf1, wire := wireOf cfg cd cs1 }, .ok o1) →
        o1 ++ pending buf1 cs1 = pending buf cs → (∀ c ∈ cs1, c.length ≤ cfg.dataMaxSize) →
        ReadsPending cfg cd buf cs (n :: ns) := by
      intro buf1 cs1 o1 hr hp hcs1
      obtain ⟨buf2, cs2, o2, err, hr2, hp2, he⟩ := ih buf1 cs1 hcs1
      exact ⟨buf2, cs2, o1 ++ o2, err, by simp only [readMany, hr, hr2], by rw [List.append_assoc, hp2, hp],
        he.imp_right fun ⟨he, ho⟩ => ⟨he, by rw [ho, hp]⟩⟩
    cases buf with
    | cons b bs =>
      -- served from `recvBuffer`
      exact step _ cs _ read_buffered (by simp only [pending, ← List.append_assoc, List.take_append_drop]) hcs
    | nil =>
      cases cs with
      | nil =>
        -- nothing pending: fewer than `headerSize` bytes on the wire
        refine ⟨[], [], [], some .eof, ?_, rfl, Or.inr ⟨rfl, rfl⟩⟩
        simp [readMany, Model.Conn.read, wireOf]
      | cons c cs =>
        exact step _ cs _ (read_frame g c _ n (hcs c List.mem_cons_self))
          (by simp only [pending, List.nil_append, List.flatten_cons, ← List.append_assoc, List.take_append_drop])
          (fun x hx => hcs x (List.mem_cons_of_mem _ hx))

theorem writeChunks_ok {cfg : FrameCfg} {cd : Codec} (g : Good cfg cd) :
    ∀ cs : List Bytes, (∀ c ∈ cs, c.length ≤ cfg.dataMaxSize) → writeChunks cfg cd cs = (wireOf cfg cd cs, true) := by
  intro cs
  induction cs with
  | nil => intro _; rfl
  | cons c cs ih =>
    intro h
    have hc := h c List.mem_cons_self
    have hfit : ¬ (frameOf cfg cd c).length > cfg.frameCapacity := by
      have := g.enc_len c
      have := maxEncodedLen_mono hc
      have := g.fits
      have := g.hs5
      simp only [frameOf, List.length_cons, List.length_append, be32_length]
      omega
    simp only [writeChunks, if_neg hfit, ih (fun x hx => h x (List.mem_cons_of_mem _ hx)), wireOf, List.map_cons, List.flatten_cons]

theorem write_ok {cfg : FrameCfg} {cd : Codec} (g : Good cfg cd) (data : Bytes) :
    write cfg cd data = (wireOf cfg cd (chunks cfg.dataMaxSize data), data.length, true) := by
  have h := writeChunks_ok g (chunks cfg.dataMaxSize data) (chunks_spec _ g.max_pos data).2
  simp only [write, h, ↓reduceIte]

def wireOfWrites (cfg : FrameCfg) (cd : Codec) (writes : List Bytes) : Bytes :=
  (writes.map (fun d => (write cfg cd d).1)).flatten

theorem wireOfWrites_eq {cfg : FrameCfg} {cd : Codec} (g : Good cfg cd) (writes : List Bytes) :
    wireOfWrites cfg cd writes = wireOf cfg cd (writes.map (chunks cfg.dataMaxSize)).flatten := by
  simp only [wireOfWrites, write_ok g, wireOf, List.map_flatten, List.flatten_flatten, List.map_map, Function.comp_def]

/-- **stream_identity**: FOR ALL writes (any sizes) and ALL read buffer sizes, what the far side reads is a prefix of the
concatenation of what was written, in order; a read fails only with EOF and only after everything written has been
returned (so: equal once enough is read) -/
theorem stream_identity {cfg : FrameCfg} {cd : Codec} (g : Good cfg cd) (writes : List Bytes) (reads : List Nat) :
    ∃ r out err, readMany cfg cd { recvBuffer := [], wire := wireOfWrites cfg cd writes } reads = (r, out, err)
      ∧ out <+: writes.flatten
      ∧ (err = none ∨ (err = some .eof ∧ out = writes.flatten)) := by
  have hflat : pending [] (writes.map (chunks cfg.dataMaxSize)).flatten = writes.flatten := by
    rw [pending, List.nil_append]
    induction writes with
    | nil => rfl
    | cons d ds ih =>
      rw [List.map_cons, List.flatten_cons, List.flatten_append, (chunks_spec _ g.max_pos d).1, ih, List.flatten_cons]
  have hall : ∀ c ∈ (writes.map (chunks cfg.dataMaxSize)).flatten, c.length ≤ cfg.dataMaxSize := by
    intro c hc
    obtain ⟨l, hl, hcl⟩ := List.mem_flatten.mp hc
    obtain ⟨d, _, rfl⟩ := List.mem_map.mp hl
    exact (chunks_spec _ g.max_pos d).2 c hcl
  obtain ⟨buf', cs', out, err, hr, hp, he⟩ := readMany_inv g reads [] _ hall
  rw [wireOfWrites_eq g]
  rw [hflat] at hp he
  exact ⟨_, out, err, hr, ⟨pending buf' cs', hp⟩, he⟩

/-- non-vacuity: a 3-byte write read back with 2-byte buffers through the model, identity codec -/
example : (readMany genCfg { enc := id, dec := some, announced := List.length } { recvBuffer := [], wire := wireOfWrites genCfg { enc := id, dec := some, announced := List.length } [[1, 2, 3]] } [2, 2, 2]).2
    = ([1, 2, 3], some .eof) := rfl

/-- **capacity_guard**: nothing longer than the channel's `RecvMessageCapacity` is ever delivered — a message over
capacity ends in the `capacity` error, never in a truncated or oversized delivery -/
theorem capacity_guard (r r' : Receiver) (p : Packet) (c : Chan) (m : Bytes)
    (h : recvPacket r p = .ok (r', some (c, m))) : m.length ≤ r.cap c := by
  have acc := C18Mux.recvPacket_ok h
  obtain ⟨rfl, rfl⟩ := acc.delivery c m rfl
  rw [List.length_append]
  exact acc.fits

theorem capacity_guard_all : ∀ (ps : List Packet) (r r' : Receiver) (ds : List (Chan × Bytes)) (e : Option MErr),
    recvAll r ps = (r', ds, e) → r'.cap = r.cap ∧ ∀ d ∈ ds, d.2.length ≤ r.cap d.1 := by
  intro ps
  induction ps with
  | nil => intro r r' ds e h; cases h; exact ⟨rfl, fun _ hd => nomatch hd⟩
  | cons p ps ih =>
    intro r r' ds e h
    rw [recvAll] at h
    split at h
    · cases h; exact ⟨rfl, fun _ hd => nomatch hd⟩
    · next r1 d hp =>
      have hcap1 : r1.cap = r.cap := (C18Mux.recvPacket_ok hp).cap
      obtain ⟨hc2, hd2⟩ := ih r1 _ _ _ rfl
      cases h
      refine ⟨hc2.trans hcap1, fun x hx => ?_⟩
      cases d with
      | none => exact hcap1 ▸ hd2 x hx
      | some y =>
        rcases List.mem_cons.mp hx with rfl | hx
        · exact capacity_guard r r1 p _ _ hp
        · exact hcap1 ▸ hd2 x hx

/-- a fragment that would take the buffer over the capacity is an error (not a delivery, not a silent drop) -/
theorem over_capacity_is_error (r : Receiver) (p : Packet) (hk : r.known p.ch = true) (ho : p.over = false)
    (h : r.cap p.ch < (r.recving p.ch).length + p.bytes.length) : recvPacket r p = .error .capacity := by
  simp [recvPacket, ho, hk, h]

/-- the ordering / wholeness theorems are in `Props.C18Mux`; restated here as the property clause:
FOR EVERY schedule and fragment size, on every channel the delivered messages are a prefix of the sent ones (each whole,
in order), no error occurs, and once the sender has nothing pending everything sent has been delivered -/
theorem mux_order (maxPay : Nat) (known : Chan → Bool) (cap : Chan → Nat) (msgs : Chan → List Bytes)
    (hk : ∀ c, msgs c ≠ [] → known c = true) (hcap : ∀ c m, m ∈ msgs c → m.length ≤ cap c) (sched : List Chan) :
    let S0 : Sender := { maxPay := maxPay, known := known, chans := fun c => { queue := msgs c, sending := [] } }
    let R0 : Receiver := { known := known, cap := cap, recving := fun _ => [] }
    ∃ S' R' ds, (runSched S0 sched).1 = S' ∧ recvAll R0 (runSched S0 sched).2 = (R', ds, none)
      ∧ (∀ c, delsOf ds c <+: msgs c)
      ∧ ((∀ c, (S'.chans c).sending = [] ∧ (S'.chans c).queue = []) → ∀ c, delsOf ds c = msgs c) :=
  Props.C18Mux.mux_order maxPay known cap msgs hk hcap sched

theorem mkChal_sum (a b : Nat) : (mkChal a b).lo + (mkChal a b).hi = a + b := by
  unfold mkChal
  split
  · rfl
  · exact Nat.add_comm b a

/-- tampering with either ephemeral key changes the challenge -/
theorem challenge_binds_remote (e x y : Nat) (h : mkChal e x = mkChal e y) : x = y :=
  Nat.add_left_cancel ((mkChal_sum e x).symm.trans ((congrArg (fun c => c.lo + c.hi) h).trans (mkChal_sum e y)))

theorem challenge_symmetric (a b : Nat) : mkChal a b = mkChal b a := by
  unfold mkChal
  rcases Nat.lt_trichotomy a b with h | rfl | h
  · rw [if_pos h, if_neg (Nat.lt_asymm h)]
  · rfl
  · rw [if_neg (Nat.lt_asymm h), if_pos h]

theorem challenge_binds_local (x y e : Nat) (h : mkChal x e = mkChal y e) : x = y := by
  rw [challenge_symmetric x e, challenge_symmetric y e] at h
  exact challenge_binds_remote e x y h

theorem verify_eq_true_iff (k : Key) (c : Chal) (s : SigTerm) : verify k c s = true ↔ s = .good ⟨k, c⟩ := by
  cases s with
  | junk => exact ⟨fun h => (nomatch h), fun h => (nomatch h)⟩
  | good g =>
    obtain ⟨sk, sc⟩ := g
    simp only [verify, Bool.and_eq_true, beq_iff_eq, SigTerm.good.injEq, Sig.mk.injEq]

/-- **auth (local form)**: a connection is established with presented key `pk` only if the auth message carried `pk`, `pk`
is not our own key, and the signature is BY `pk` ON THIS SESSION'S CHALLENGE (own ephemeral key + the one received) -/
theorem auth_local (myKey : Key) (myEph : Eph) (remEph : Option Eph) (auth : Option AuthMsg) (pk : Key)
    (h : establish myKey myEph remEph auth = some pk) :
    pk ≠ myKey ∧ ∃ e, remEph = some e ∧ auth = some ⟨some pk, .good ⟨pk, mkChal myEph e⟩⟩ := by
  cases remEph with
  | none => cases h
  | some e =>
    change finish myKey (mkChal myEph e) auth = some pk at h
    unfold finish at h
    split at h
    · cases h
    · cases h
    · next k s =>
      split at h
      · cases h
      · next hself =>
        split at h
        · next hv =>
          cases Option.some.inj h
          exact ⟨fun e => hself (beq_iff_eq.mpr e), e, rfl, by rw [(verify_eq_true_iff pk _ s).mp hv]⟩
        · cases h

/-- an honest session as the environment sees it: its key, its ephemeral key, the ephemeral key it received -/
structure Session where
  key : Key
  eph : Eph
  rem : Eph
deriving DecidableEq

/-- the one signature an honest session produces -/
def Session.sig (s : Session) : Sig := ⟨s.key, mkChal s.eph s.rem⟩

/-- UNFORGEABILITY (hypothesis, not axiom): every valid signature term an attacker can deliver was either produced by an
honest session or is under a key the attacker owns -/
def Unforgeable (sessions : List Session) (advKeys : List Key) (delivered : Sig) : Prop :=
  (∃ q ∈ sessions, q.sig = delivered) ∨ delivered.signer ∈ advKeys

/-- **auth**: if honest session `P` ends established with key `pk` that the attacker does not own, then some honest
session holding `pk` signed exactly `P`'s challenge, i.e. ran with the same pair of ephemeral keys — the key holder took
part in *this* exchange (no replay from another session, no substituted ephemeral key) -/
theorem auth (sessions : List Session) (advKeys : List Key) (P : Session) (authMsg : Option AuthMsg) (pk : Key)
    (hest : establish P.key P.eph (some P.rem) authMsg = some pk)
    (hunf : ∀ s, authMsg = some ⟨some pk, .good s⟩ → Unforgeable sessions advKeys s)
    (hadv : pk ∉ advKeys) :
    ∃ Q ∈ sessions, Q.key = pk ∧ mkChal Q.eph Q.rem = mkChal P.eph P.rem := by
  obtain ⟨_, e, he, ha⟩ := auth_local _ _ _ _ _ hest
  cases he
  rcases hunf _ ha with ⟨q, hq, hs⟩ | hs
  · exact ⟨q, hq, congrArg Sig.signer hs, congrArg Sig.chal hs⟩
  · exact absurd hs hadv

/-- non-vacuity of `auth`: the honest two-party run -/
example : establish 1 11 (some 12) (some ⟨some 2, .good (Session.sig ⟨2, 12, 11⟩)⟩) = some 2 := rfl

/-- reflection is rejected: our own key with our own (valid) signature on the shared challenge does not establish -/
example : establish 1 11 (some 11) (some ⟨some 1, .good (Session.sig ⟨1, 11, 11⟩)⟩) = none := rfl

/-- … also when only the auth frames are swapped by a man in the middle (ephemeral keys untouched) -/
example : establish 1 11 (some 12) (some ⟨some 1, .good (Session.sig ⟨1, 11, 12⟩)⟩) = none := rfl

/-- FULL STATEMENT of the authentication clause: the key holder that signed is the PEER — an honest session other than
`P` itself (or the attacker with a key of its own). -/
def C18_auth_statement : Prop :=
  ∀ (sessions : List Session) (advKeys : List Key) (P : Session) (authMsg : Option AuthMsg) (pk : Key),
    P ∈ sessions →
    establish P.key P.eph (some P.rem) authMsg = some pk →
    (∀ s, authMsg = some ⟨some pk, .good s⟩ → Unforgeable sessions advKeys s) →
    pk ∈ advKeys ∨ ∃ Q ∈ sessions, Q ≠ P ∧ Q.key = pk ∧ mkChal Q.eph Q.rem = mkChal P.eph P.rem

/-- the clause holds of the current code (own-key test of 57b5264): the signer has key `pk ≠ P.key`, hence is not `P` -/
theorem C18_auth_holds : C18_auth_statement := by
  intro sessions advKeys P authMsg pk _ hest hunf
  by_cases hadv : pk ∈ advKeys
  · exact Or.inl hadv
  · obtain ⟨Q, hQ, hk, hc⟩ := auth sessions advKeys P authMsg pk hest hunf hadv
    have hself := (auth_local _ _ _ _ _ hest).1
    exact Or.inr ⟨Q, hQ, fun h => hself (by rw [← hk, h]), hk, hc⟩

/-! ## identity one layer up (libs/p2p/switch.go addPeer) -/

/-- the guard added by 7463840, as the extractor prints it -/
def identityGuard : String :=
  "sc, ok := pc.conn.(*conn.SecretConnection); ok && !sc.RemotePubKey().Equals(peerNodeInfo.PubKey)"

/-- T2: the authenticated key IS consulted outside conn/, by a guard of `addPeer` that compares it with the claimed
`NodeInfo.PubKey`, and that guard comes before the duplicate-ID test and before the peer is put into the peer set -/
theorem identity_guard_present :
    Gen.ConnFacts.remotePubKeyUses ≠ [] ∧ identityGuard ∈ Gen.ConnFacts.addPeerGuards ∧
    Gen.ConnFacts.addPeerGuards.idxOf identityGuard < Gen.ConnFacts.addPeerGuards.idxOf "sw.peers.HasID(peerNodeInfo.ID())" ∧
    Gen.ConnFacts.addPeerGuards.idxOf identityGuard < Gen.ConnFacts.addPeerGuards.idxOf "err := sw.peers.Add(peer); err != nil" ∧
    "err := sw.peers.Add(peer); err != nil" ∈ Gen.ConnFacts.addPeerGuards := by
  refine ⟨by decide, ?_⟩
  -- walk the list: a literal equal to the one sought is recognised as such, only the others are compared
  simp only [Gen.ConnFacts.addPeerGuards, identityGuard, List.idxOf_cons, String.reduceBEq, beq_self_eq_true, cond_true,
    cond_false, List.mem_cons, true_or, or_true, true_and, and_true]
  decide

/-- T2: the peer-supplied `CachePeerID` is cleared before the first test that calls `ID()` (blacklist), hence before the
duplicate test too: `NodeInfo.ID()` returns a non-empty cache unchecked, so without this the peer picks the ID those tests see -/
theorem cache_cleared_before_id_tests :
    "peerNodeInfo.CachePeerID = \"\"" ∈ Gen.ConnFacts.addPeerGuards ∧
    Gen.ConnFacts.addPeerGuards.idxOf "peerNodeInfo.CachePeerID = \"\"" < Gen.ConnFacts.addPeerGuards.idxOf "sw.blackListHasID(peerNodeInfo.ID())" ∧
    Gen.ConnFacts.addPeerGuards.idxOf "sw.blackListHasID(peerNodeInfo.ID())" < Gen.ConnFacts.addPeerGuards.idxOf "sw.peers.HasID(peerNodeInfo.ID())" ∧
    "sw.blackListHasID(peerNodeInfo.ID())" ∈ Gen.ConnFacts.addPeerGuards := by
  simp only [Gen.ConnFacts.addPeerGuards, List.idxOf_cons, String.reduceBEq, beq_self_eq_true, cond_true, cond_false,
    List.mem_cons, true_or, or_true, true_and, and_true]
  decide

/-- every guard of `addPeer` lets the connection authenticated as `auth` with NodeInfo `n` pass.  The own-key test on the
claimed key does not appear: `claimed` and `notSelf` imply it -/
structure Admitted (auth : Key) (n : NodeInfoM) (s : SwitchState) : Prop where
  notSelf : auth ≠ s.self
  notBlacklisted : idOf n.pubKey ∉ s.blacklist
  valid : n.valid = true
  claimed : n.pubKey = auth
  fresh : (s.peers.any (fun p => p.id == idOf n.pubKey)) = false
  compatible : n.compatible = true

theorem admitPeer_eq_ok_iff {auth : Key} {ni : Option NodeInfoM} {s s' : SwitchState} :
    admitPeer auth ni s = .ok s' ↔
      ∃ n, ni = some n ∧ Admitted auth n s ∧ s' = { s with peers := s.peers ++ [⟨idOf n.pubKey, auth⟩] } := by
  unfold admitPeer
  cases ni with
  | none =>
    simp only [C18Mux.guard_eq_ok_iff]
    exact ⟨fun h => (nomatch h.2), fun ⟨_, h, _⟩ => (nomatch h)⟩
  | some n =>
    -- the guards in source order: the fifth (own key claimed) follows from the first and the fourth, the eighth repeats the sixth
    simp only [C18Mux.guard_eq_ok_iff, Except.ok.injEq, Bool.not_eq_true, beq_eq_false_iff_ne, ne_eq, Bool.not_eq_eq_eq_not,
      Bool.not_true, bne_eq_false_iff_eq, Option.some.injEq, exists_eq_left', Bool.not_eq_false, List.contains_eq_mem,
      decide_eq_false_iff_not]
    constructor
    · rintro ⟨h1, h2, h3, h4, _, h6, h7, _, h9⟩
      exact ⟨⟨h1, h2, h3, h4, h6, h7⟩, h9.symm⟩
    · rintro ⟨a, h9⟩
      exact ⟨a.notSelf, a.notBlacklisted, a.valid, a.claimed, a.claimed ▸ a.notSelf, a.fresh, a.compatible, a.fresh, h9.symm⟩

theorem step_conn (s : SwitchState) (auth : Key) (ni : Option NodeInfoM) :
    (s.step (.conn auth ni)).self = s.self ∧ (s.step (.conn auth ni)).blacklist = s.blacklist ∧
    ∀ p ∈ (s.step (.conn auth ni)).peers, p ∈ s.peers ∨ (p = ⟨idOf auth, auth⟩ ∧ auth ≠ s.self ∧ idOf auth ∉ s.blacklist) := by
  simp only [SwitchState.step]
  cases ha : admitPeer auth ni s with
  | error e => exact ⟨rfl, rfl, fun _ hp => Or.inl hp⟩
  | ok s' =>
    obtain ⟨n, _, a, rfl⟩ := admitPeer_eq_ok_iff.mp ha
    obtain rfl := a.claimed
    exact ⟨rfl, rfl, fun p hp => (List.mem_append.mp hp).imp_right fun hp =>
      ⟨List.mem_singleton.mp hp, a.notSelf, a.notBlacklisted⟩⟩

def Wf (s : SwitchState) : Prop := ∀ p ∈ s.peers, p.id = idOf p.authKey ∧ p.authKey ≠ s.self

theorem step_wf (s : SwitchState) (op : SwOp) (h : Wf s) : Wf (s.step op) ∧ (s.step op).self = s.self := by
  cases op with
  | conn auth ni =>
    obtain ⟨hs, _, hp⟩ := step_conn s auth ni
    refine ⟨fun p hpm => ?_, hs⟩
    rw [hs]
    rcases hp p hpm with hpm | ⟨rfl, hself, _⟩
    · exact h p hpm
    · exact ⟨rfl, hself⟩
  | black k => exact ⟨h, rfl⟩
  | drop a => exact ⟨fun p hp => h p (List.mem_filter.mp hp).1, rfl⟩

theorem run_wf (ops : List SwOp) : ∀ s : SwitchState, Wf s → Wf (s.run ops) ∧ (s.run ops).self = s.self :=
  fun s h => List.foldlRecOn ops _ (motive := fun t => Wf t ∧ t.self = s.self) ⟨h, rfl⟩
    (fun t ht op _ => ⟨(step_wf t op ht.1).1, (step_wf t op ht.1).2.trans ht.2⟩)

/-- FULL STATEMENT of the identity clause: FOR EVERY sequence of connection attempts (any authenticated keys, any
self-reported NodeInfo, blacklisting, disconnects), every peer in the switch's peer set is registered under the ID of the
key its connection authenticated. -/
def C18_identity_statement : Prop :=
  ∀ (self : Key) (ops : List SwOp), ∀ p ∈ (SwitchState.run { self := self } ops).peers, p.id = idOf p.authKey

/-- holds of the current code (guard of 7463840) -/
theorem C18_identity_holds : C18_identity_statement := by
  intro self ops p hp
  exact ((run_wf ops { self := self } (by intro q hq; simp at hq)).1 p hp).1

/-- **no_id_squatting** (one step): whatever NodeInfo it sends, the holder of `auth` can only ever occupy the ID of `auth` -/
theorem no_id_squatting {auth : Key} {ni : Option NodeInfoM} {s s' : SwitchState} (h : admitPeer auth ni s = .ok s') :
    ∀ p ∈ s'.peers, p ∉ s.peers → p.id = idOf auth ∧ p.authKey = auth := by
  obtain ⟨n, _, a, rfl⟩ := admitPeer_eq_ok_iff.mp h
  obtain rfl := a.claimed
  intro p hp hnot
  rcases List.mem_append.mp hp with hp | hp
  · exact absurd hp hnot
  · rw [List.mem_singleton.mp hp]; exact ⟨rfl, rfl⟩

def avoids (v : Key) : SwOp → Prop
  | .conn a _ => a ≠ v
  | .black k => k ≠ v
  | .drop _ => True

/-- **no_id_squatting** (denial-of-service form): after ANY sequence of attempts by other key holders — whatever identities
they claimed — the honest holder of `v` is admitted -/
theorem honest_not_blocked (self v : Key) (hv : v ≠ self) (ops : List SwOp) (hops : ∀ op ∈ ops, avoids v op) :
    ∃ s', admitPeer v (some { pubKey := v }) (SwitchState.run { self := self } ops) = .ok s' := by
  obtain ⟨hw, hs⟩ := run_wf ops { self := self } (fun _ hq => nomatch hq)
  -- kept by every step that avoids `v`: no peer authenticated as `v` (so, with `Wf`, the ID of `v` is free), `v` not blacklisted
  obtain ⟨hp, hb⟩ := List.foldlRecOn ops SwitchState.step (b := { self := self })
    (motive := fun s => (∀ p ∈ s.peers, p.authKey ≠ v) ∧ idOf v ∉ s.blacklist) ⟨fun _ hq => (nomatch hq), fun hq => (nomatch hq)⟩
    (fun s ⟨hp, hb⟩ op hop => by
      cases op with
      | conn a ni =>
        obtain ⟨_, hbl, hpe⟩ := step_conn s a ni
        refine ⟨fun p hpm => ?_, hbl ▸ hb⟩
        rcases hpe p hpm with hpm | ⟨rfl, _⟩
        · exact hp p hpm
        · exact hops _ hop
      | black k => exact ⟨hp, fun hm => (List.mem_cons.mp hm).elim (fun e => hops _ hop e.symm) hb⟩
      | drop a => exact ⟨fun p hpm => hp p (List.mem_filter.mp hpm).1, hb⟩)
  have hany : ((SwitchState.run { self := self } ops).peers.any (fun p => p.id == idOf v)) = false := by
    rw [List.any_eq_false]
    intro p hpm h
    rw [(hw p hpm).1] at h
    exact hp p hpm (beq_iff_eq.mp h)
  exact ⟨_, admitPeer_eq_ok_iff.mpr ⟨_, rfl,
    { notSelf := fun h => hv (h.trans hs), notBlacklisted := hb, valid := rfl, claimed := rfl, fresh := hany, compatible := rfl },
    rfl⟩⟩

/-- non-vacuity and the scenarios of the harness corpus, through the model -/
example : admitPeer 2 (some { pubKey := 3 }) { self := 0 } = .error .keyMismatch := rfl
example : (SwitchState.run { self := 0 } [.conn 2 (some { pubKey := 3 }), .conn 1 (some { pubKey := 3 }), .conn 3 (some { pubKey := 3 })]).peers
    = [⟨3, 3⟩] := rfl
example : admitPeer 1 (some { pubKey := 0 }) { self := 0 } = .error .keyMismatch := rfl

/-- FULL STATEMENT (blacklist): in EVERY state, whatever NodeInfo it sends (any `CachePeerID`), a key holder whose node ID
the switch blacklisted is not admitted. -/
def C18_blacklist_statement : Prop :=
  ∀ (auth : Key) (ni : Option NodeInfoM) (s s' : SwitchState), idOf auth ∈ s.blacklist → admitPeer auth ni s ≠ .ok s'

/-- holds of the current code (faaf6b9: the peer-supplied cache is cleared before the blacklist test) -/
theorem C18_blacklist_holds : C18_blacklist_statement := by
  intro auth ni s s' hb h
  obtain ⟨n, _, a, _⟩ := admitPeer_eq_ok_iff.mp h
  exact a.notBlacklisted (a.claimed ▸ hb)

/-- a forged cache ID does not help (faaf6b9): the corpus witness through the model -/
example : admitPeer 4 (some { pubKey := 4, cacheId := some 5 }) { self := 0, blacklist := [4] } = .error .blacklisted := rfl

theorem step_blacklist_mono (s : SwitchState) (op : SwOp) (i : NodeId) (h : i ∈ s.blacklist) : i ∈ (s.step op).blacklist := by
  cases op with
  | conn a ni =>
    exact (step_conn s a ni).2.1 ▸ h
  | black k => exact List.mem_cons_of_mem _ h
  | drop a => exact h

/-- over every op sequence: once the switch has blacklisted `k` (the model's blacklist never shrinks; the 600 s expiry timer
of `MarkBadNode` is not modelled), no later connection attempt — whatever it claims — brings a connection authenticated as `k`
into the peer set: every such peer was already connected before -/
theorem blacklisted_never_joins (k : Key) (ops : List SwOp) :
    ∀ s : SwitchState, idOf k ∈ s.blacklist → ∀ p ∈ (s.run ops).peers, p.authKey = k → p ∈ s.peers := by
  intro s hb
  refine (List.foldlRecOn ops _ (motive := fun t => idOf k ∈ t.blacklist ∧ ∀ p ∈ t.peers, p.authKey = k → p ∈ s.peers)
    ⟨hb, fun _ hp _ => hp⟩ (fun t ⟨hbt, hpt⟩ op _ => ⟨step_blacklist_mono t op _ hbt, ?_⟩)).2
  cases op with
  | conn a ni =>
    intro p hp hk
    rcases (step_conn t a ni).2.2 p hp with hp | ⟨rfl, _, hnb⟩
    · exact hpt p hp hk
    · -- were `a = k`, the new peer's ID would have been found on the blacklist
      obtain rfl : a = k := hk
      exact absurd hbt hnb
  | black j => exact hpt
  | drop a => exact fun p hp hk => hpt p (List.mem_filter.mp hp).1 hk

end Props.C18
