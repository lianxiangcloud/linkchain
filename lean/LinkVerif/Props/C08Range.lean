/-
C08, arithmetic part: the range checks of `crypto.ValidateSignatureValues` (regenerated translation
`Gen.SigFacts.validateSignatureValues`) and the V arithmetic of types/sign.go (hand model `Model.SigHash`, tied by the
differential run): what an accepted (V, R, S) looks like.
-/
import LinkVerif.Model.SigHash

namespace Props.C08
open Model.SigHash Gen.SigFacts

theorem N_pos : 2 < secp256k1N := by decide

/-- `range_checks` (1): what ValidateSignatureValues accepts — r, s in [1, N−1], v a recovery id, and under the
    homestead rule s in the lower half -/
theorem validate_iff (v r s : Int) (hs : Bool) :
    validateSignatureValues v r s hs = true ↔
      (1 ≤ r ∧ r < secp256k1N ∧ 1 ≤ s ∧ s < secp256k1N ∧ (hs = true → s ≤ secp256k1halfN) ∧ (v = 0 ∨ v = 1)) := by
  cases hs <;>
    simp only [validateSignatureValues, Bool.or_eq_true, Bool.and_eq_true, decide_eq_true_eq, gt_iff_lt, Bool.false_and,
      Bool.true_and, Bool.false_eq_true, if_false, false_imp_iff, true_imp_iff, true_and, Bool.if_false_left,
      Bool.not_eq_true', decide_eq_false_iff_not] <;> omega

example : validateSignatureValues 0 1 1 true = true := by decide
example : validateSignatureValues 1 (secp256k1N - 1) secp256k1halfN true = true := by decide
example : validateSignatureValues 0 1 (secp256k1halfN + 1) true = false := by decide
example : validateSignatureValues 0 0 1 false = false := by decide
example : validateSignatureValues 0 1 secp256k1N false = false := by decide
example : validateSignatureValues 2 1 1 false = false := by decide

/-- N is odd: of s and N − s only one lies in the lower half -/
theorem twin_high {s : Int} (h : s ≤ secp256k1halfN) : ¬ twinS s ≤ secp256k1halfN := by
  have : secp256k1N % 2 = 1 := by decide
  unfold twinS secp256k1halfN at *
  omega

/-- `range_checks` (2): the malleable twin (r, N−s) of a signature the homestead rule accepts is rejected by it -/
theorem high_s_rejected (v v' r s : Int) (h : validateSignatureValues v r s true = true) :
    validateSignatureValues v' r (twinS s) true = false := by
  refine Bool.eq_false_iff.2 fun hb => ?_
  obtain ⟨-, -, -, -, low, -⟩ := (validate_iff ..).1 h
  obtain ⟨-, -, -, -, low', -⟩ := (validate_iff ..).1 hb
  exact twin_high (low rfl) (low' rfl)

/-- … while the frontier rule (only reachable through an explicit STDFrontierSigner) accepts the twin -/
theorem twin_frontier_accepted (v r s : Int) (h : validateSignatureValues v r s true = true) :
    validateSignatureValues (1 - v) r (twinS s) false = true := by
  obtain ⟨r1, rN, s1, sN, -, v01⟩ := (validate_iff ..).1 h
  rw [validate_iff]
  unfold twinS
  exact ⟨r1, rN, by omega, by omega, nofun, by omega⟩

theorem absI_spec (x : Int) : 0 ≤ absI x ∧ (absI x = x ∨ absI x = -x) := by unfold absI; split <;> omega

theorem uint64Of_of_lt {x : Int} (h : absI x < 18446744073709551616) : uint64Of x = absI x :=
  Int.emod_eq_of_lt (absI_spec x).1 h

theorem byteOf_recid {Vb : Int} (h : absI Vb < 256) (hv : byteOf Vb < 2) : absI Vb = 27 + byteOf Vb := by
  have h0 := (absI_spec Vb).1
  rw [byteOf, uint64Of_of_lt (by omega), Go.wrapU64, Int.emod_emod_of_dvd _ (by decide)] at *
  omega

/-- recoverPlain accepts only |V| ∈ {27, 28} (bit length ≤ 8, byte(V−27) ∈ {0,1}) -/
theorem plainRecid_ok {R S Vb v : Int} {hs : Bool} (h : plainRecid R S Vb hs = .ok v) :
    absI Vb = 27 + v ∧ (v = 0 ∨ v = 1) ∧ validateSignatureValues v R S hs = true := by
  unfold plainRecid at h
  split at h
  · cases h
  split at h
  · cases h
  rename_i hf hv
  cases h
  have hv := Bool.of_not_eq_false hv
  obtain ⟨-, -, -, -, -, h01⟩ := (validate_iff ..).1 hv
  exact ⟨byteOf_recid (by simpa [fits8] using hf) (by omega), h01, hv⟩

theorem unprotected_iff (V : Int) : isProtectedV V = false ↔ (absI V = 27 ∨ absI V = 28) := by
  unfold isProtectedV fits8
  by_cases h : absI V < 256
  · rw [uint64Of_of_lt (by omega)]
    simp only [h, decide_true, if_true, Bool.and_eq_false_iff, bne_eq_false_iff_eq]
  · simp only [h, decide_false, Bool.false_eq_true, if_false, Bool.true_eq_false, false_iff]
    omega

theorem deriveSignParam_of_lt {V : Int} (h : absI V < 18446744073709551616) :
    deriveSignParam V = if absI V = 27 ∨ absI V = 28 then 0 else (absI V - 35) % 18446744073709551616 / 2 := by
  rw [deriveSignParam, fits64, decide_eq_true h, if_pos rfl, uint64Of_of_lt h, Go.wrapU64]

theorem deriveSignParam_of_ge {V : Int} (h : 35 ≤ V) : deriveSignParam V = (V - 35) / 2 := by
  have ha : absI V = V := if_neg (by omega)
  by_cases hf : absI V < 18446744073709551616
  · rw [deriveSignParam_of_lt hf, ha, if_neg (by omega), Int.emod_eq_of_lt (by omega) (by omega)]
  · rw [deriveSignParam, fits64, decide_eq_false hf]; rfl

/-- below 35 `v - 35` wraps in uint64: unless |V| is 27 or 28 the derived parameter is huge -/
theorem deriveSignParam_of_abs_lt {V : Int} (h : absI V < 35) :
    deriveSignParam V = 0 ∧ (absI V = 27 ∨ absI V = 28) ∨ 9223372036854775790 ≤ deriveSignParam V := by
  have h0 := (absI_spec V).1
  rw [deriveSignParam_of_lt (by omega)]
  split
  · exact Or.inl ⟨rfl, ‹_›⟩
  · rw [← Int.add_emod_right, Int.emod_eq_of_lt (by omega) (by omega)]; omega

/-- `SignatureValues` encodes sign parameter p as V = 35 + 2p + recid -/
theorem derive_encode (p : Nat) (c : Int) (hc : c = 0 ∨ c = 1) :
    deriveSignParam (35 + 2 * p + c) = p ∧ isProtectedV (35 + 2 * p + c) = true := by
  refine ⟨by rw [deriveSignParam_of_ge (by omega)]; omega, Bool.of_not_eq_false fun hb => ?_⟩
  have := (unprotected_iff _).1 hb
  rw [show absI (35 + 2 * p + c) = _ from if_neg (by omega)] at this
  omega

/-- `range_checks` (3): a signature that the EIP155 signer of chain parameter p accepts on its protected path carries
    exactly V = 35 + 2p + recid, recid ∈ {0,1}.  (No other V, in particular no negative one and none of > 8 bits after
    normalisation, passes the sign-parameter test and recoverPlain together.) -/
theorem eip_accept_canonical (p : Nat) (V R S v : Int) (hs : Bool)
    (hd : deriveSignParam V = (p : Int)) (h : plainRecid R S (V - 2 * p - 8) hs = .ok v) :
    V = 35 + 2 * p + v ∧ (v = 0 ∨ v = 1) := by
  obtain ⟨h1, h01, _⟩ := plainRecid_ok h
  refine ⟨?_, h01⟩
  have hv : 0 ≤ v ∧ v ≤ 1 := by omega
  clear h01
  have hb := absI_spec (V - 2 * p - 8)
  by_cases hV : 35 ≤ V
  · rw [deriveSignParam_of_ge hV] at hd
    omega
  · -- |V − 2p − 8| ≤ 28 leaves −20 ≤ V < 35 and p ≤ 27: not huge, and |V| = 27, 28 with p = 0 is not |V − 8| = 27, 28
    have ha := absI_spec V
    rcases deriveSignParam_of_abs_lt (V := V) (by omega) with h0 | hbig <;> omega

/-- information: a NEGATIVE V of absolute value 27/28 counts as unprotected and passes recoverPlain (big.Int.Uint64 and
    BitLen ignore the sign).  Only reachable through the API (UTXOTransaction.Sigs is an exported field); `libs/ser` cannot
    encode or decode a negative big.Int, so no wire transaction carries one. -/
example : isProtectedV (-27) = false ∧ plainRecid 1 1 (-27) true = .ok 0 := ⟨by decide, by rfl⟩

example : isProtectedV 27 = false ∧ isProtectedV 28 = false ∧ isProtectedV 58341 = true ∧ isProtectedV 0 = true := by decide
example : deriveSignParam 58341 = 29153 ∧ deriveSignParam 58342 = 29153 ∧ deriveSignParam 27 = 0 := by decide
/-- V < 35 wraps in uint64: an unsigned transaction (V = 0) derives a huge sign parameter and is rejected -/
example : deriveSignParam 0 = 9223372036854775790 := by decide

end Props.C08
