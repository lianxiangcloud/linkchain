/-
C09: "snapshots revert exactly" at BLOCK granularity on the flat key-value backend, `Reset`, `GetCommittedState`.
`kv_rebuild_exact` asks that the keys a commit updates are distinct (they are the keys of Go maps, one map per trie, tries use
disjoint key prefixes) and that the database holds no empty value (`kv_noEmpty_commit`: commits preserve that).
-/
import LinkVerif.Props.C09World

namespace Props.C09
open Model.StateDB

def NoEmpty (db : Flat) : Prop := ∀ k v, db k = some v → v ≠ []

/-- how the flat database holds a value: the empty value is the absent key (`kvApply`, `kvRebuild`) -/
def encV (v : Bytes) : Option Bytes := if v.isEmpty then none else some v

theorem encV_getD {db : Flat} (h : NoEmpty db) (k : Nat) : encV ((db k).getD []) = db k := by
  cases hk : db k with
  | none => simp [encV]
  | some v =>
    have := h k v hk
    simp [encV, this]

theorem kvRebuild_append (db : Flat) (w1 w2 : List (Nat × Bytes)) : kvRebuild db (w1 ++ w2) = kvRebuild (kvRebuild db w1) w2 := by
  simp [kvRebuild, List.foldl_append]

theorem kvRebuild_cons (db : Flat) (r : Nat × Bytes) (w : List (Nat × Bytes)) :
    kvRebuild db (r :: w) = kvRebuild (upd db r.1 (encV r.2)) w := rfl

theorem kvRebuild_congr (w : List (Nat × Bytes)) : ∀ (d d' : Flat) (k : Nat), d k = d' k → kvRebuild d w k = kvRebuild d' w k := by
  induction w with
  | nil => intro d d' k h; exact h
  | cons r w ih =>
    intro d d' k h
    rw [kvRebuild_cons, kvRebuild_cons]
    apply ih
    by_cases hk : k = r.1
    · subst hk; rw [upd_same, upd_same]
    · rw [upd_other _ _ _ _ hk, upd_other _ _ _ _ hk, h]

theorem kvRebuild_of_not_mem (w : List (Nat × Bytes)) : ∀ (d : Flat) (k : Nat), k ∉ w.map (·.1) → kvRebuild d w k = d k := by
  induction w with
  | nil => intro d k _; rfl
  | cons r w ih =>
    intro d k hk
    simp only [List.map_cons, List.mem_cons, not_or] at hk
    rw [kvRebuild_cons, ih _ _ hk.2, upd_other _ _ _ _ hk.1]

theorem kvRebuild_of_mem (w : List (Nat × Bytes)) : ∀ (d : Flat) (r : Nat × Bytes), (w.map (·.1)).Nodup → r ∈ w →
    kvRebuild d w r.1 = encV r.2 := by
  induction w with
  | nil => intro d r _ hr; cases hr
  | cons q w ih =>
    intro d r hn hr
    simp only [List.map_cons, List.nodup_cons] at hn
    rcases List.mem_cons.mp hr with hr | hr
    · subst hr; rw [kvRebuild_cons, kvRebuild_of_not_mem _ _ _ hn.1, upd_same]
    · exact ih _ r hn.2 hr

/-- At the key the new record restores the value the database held (`NoEmpty`: "absent" and "empty" are the same thing), which
is what the older records leave there; elsewhere the older records do not see the update. -/
theorem kvRebuild_kvApply (s : KvStore) (u : Nat × Bytes) (h : NoEmpty s.db) (hk : u.1 ∉ s.wal.map (·.1)) :
    kvRebuild (kvApply s u).db (kvApply s u).wal = kvRebuild s.db s.wal := by
  funext x
  simp only [kvApply, kvRebuild_append, kvRebuild_cons]
  show upd (kvRebuild _ s.wal) u.1 (encV ((s.db u.1).getD [])) x = _
  by_cases hx : x = u.1
  · subst hx; rw [upd_same, encV_getD h, kvRebuild_of_not_mem _ _ _ hk]
  · rw [upd_other _ _ _ _ hx]
    exact kvRebuild_congr _ _ _ _ (upd_other _ _ _ _ hx)

theorem kv_noEmpty_apply (s : KvStore) (u : Nat × Bytes) (h : NoEmpty s.db) : NoEmpty (kvApply s u).db := by
  intro k v hk
  by_cases hku : k = u.1
  · subst hku
    simp only [kvApply, upd_same] at hk
    split at hk
    · cases hk
    · next hne => cases hk; intro he; simp [he] at hne
  · simp only [kvApply, upd_other _ _ _ _ hku] at hk
    exact h k v hk

theorem kv_fold_exact (ups : List (Nat × Bytes)) : ∀ (s : KvStore), NoEmpty s.db → (ups.map (·.1)).Nodup →
    (∀ k ∈ ups.map (·.1), k ∉ s.wal.map (·.1)) →
    kvRebuild (ups.foldl kvApply s).db (ups.foldl kvApply s).wal = kvRebuild s.db s.wal := by
  induction ups with
  | nil => intro s _ _ _; rfl
  | cons u rest ih =>
    intro s h0 hnd hfresh
    simp only [List.map_cons, List.nodup_cons] at hnd
    simp only [List.foldl_cons]
    rw [ih (kvApply s u) (kv_noEmpty_apply s u h0) hnd.2 ?_, kvRebuild_kvApply s u h0 (hfresh u.1 (List.mem_cons_self ..))]
    intro k hk hmem
    simp only [kvApply, List.map_append, List.map_cons, List.map_nil, List.mem_append, List.mem_singleton] at hmem
    rcases hmem with hmem | hmem
    · exact hfresh k (List.mem_cons_of_mem _ hk) hmem
    · subst hmem; exact hnd.1 hk

/-- **the undo log is exact**: replaying the log of a commit on the committed database gives back the database before it -/
theorem kv_rebuild_exact (s : KvStore) (height : Nat) (ups : List (Nat × Bytes)) (h0 : NoEmpty s.db)
    (hnd : (ups.map (·.1)).Nodup) :
    kvRebuild (kvCommit s height ups).db (kvCommit s height ups).wal = s.db :=
  kv_fold_exact ups { s with wal := [], kvh := height } h0 hnd (fun _ _ h => by cases h)

theorem kvApply_kvh (s : KvStore) (u : Nat × Bytes) : (kvApply s u).kvh = s.kvh := rfl

theorem kvCommit_kvh (s : KvStore) (height : Nat) (ups : List (Nat × Bytes)) : (kvCommit s height ups).kvh = height :=
  List.foldlRecOn ups kvApply (motive := fun t : KvStore => t.kvh = height) rfl (fun _ h _ _ => h)

theorem kv_noEmpty_commit (s : KvStore) (height : Nat) (ups : List (Nat × Bytes)) (h : NoEmpty s.db) :
    NoEmpty (kvCommit s height ups).db :=
  List.foldlRecOn ups kvApply (motive := fun t : KvStore => NoEmpty t.db) h (fun t ht u _ => kv_noEmpty_apply t u ht)

theorem kvOpen_succ {s : KvStore} {h : Nat} (hs : s.kvh = h + 1) : kvOpen s h = some { s with db := kvRebuild s.db s.wal } := by
  simp [kvOpen, hs]

/-- **block-granular revert**: commit block `h+1`; `CanRollBackOneBlock` holds; reopening at `h` yields exactly the database before the block -/
theorem kv_rollback_exact (s : KvStore) (h : Nat) (ups : List (Nat × Bytes)) (h0 : NoEmpty s.db) (hnd : (ups.map (·.1)).Nodup) :
    kvCanRollBack (kvCommit s (h + 1) ups) (h + 1) = true ∧
    ∃ s', kvOpen (kvCommit s (h + 1) ups) h = some s' ∧ s'.db = s.db :=
  ⟨by simp [kvCanRollBack, kvCommit_kvh], _, kvOpen_succ (kvCommit_kvh s (h + 1) ups), kv_rebuild_exact s (h + 1) ups h0 hnd⟩

/-- a start at the height of the last commit changes nothing -/
theorem kv_open_same_height (s : KvStore) (h : Nat) (ups : List (Nat × Bytes)) :
    kvOpen (kvCommit s h ups) h = some (kvCommit s h ups) := by
  simp [kvOpen, kvCommit_kvh]

/-- any other mismatch between the two stores panics -/
theorem kv_open_panics (s : KvStore) (h : Nat) (h1 : s.kvh ≠ h) (h2 : s.kvh ≠ h + 1) (h3 : s.kvh ≠ 0) : kvOpen s h = none := by
  simp [kvOpen, h1, h2, h3]

/-- replaying a log twice (a second start before the next commit) is the same as replaying it once -/
theorem kv_rebuild_idempotent (db : Flat) (wal : List (Nat × Bytes)) (hnd : (wal.map (·.1)).Nodup) :
    kvRebuild (kvRebuild db wal) wal = kvRebuild db wal := by
  funext k
  by_cases hk : k ∈ wal.map (·.1)
  · obtain ⟨r, hr, rfl⟩ := List.mem_map.mp hk
    rw [kvRebuild_of_mem wal _ r hnd hr, kvRebuild_of_mem wal _ r hnd hr]
  · rw [kvRebuild_of_not_mem wal _ k hk]

/-- why distinct keys matter: the same key updated twice inside one commit would be restored to the intermediate value -/
theorem kv_rebuild_exact_dup_counterexample :
    ¬ (∀ (s : KvStore) (height : Nat) (ups : List (Nat × Bytes)), NoEmpty s.db →
        kvRebuild (kvCommit s height ups).db (kvCommit s height ups).wal = s.db) := by
  intro h
  have := h KvStore.fresh 1 [(7, [1]), (7, [2])] (by intro k v hk; simp [KvStore.fresh] at hk)
  have h7 := congrFun this 7
  revert h7
  decide

/-- non-vacuity: a block that updates key 1, deletes key 2 and creates key 3 over a database holding keys 1 and 2 -/
def demoKv : KvStore := kvCommit KvStore.fresh 1 [(1, [10]), (2, [20])]
example : (kvCommit demoKv 2 [(1, [11]), (2, []), (3, [30])]).db 2 = none := by decide
example : (kvOpen (kvCommit demoKv 2 [(1, [11]), (2, []), (3, [30])]) 1).map (fun s => [s.db 1, s.db 2, s.db 3]) =
    some [some [10], some [20], none] := by decide

/-- `Reset(root)` answers every getter like `New(root)` -/
theorem reset_eq_new (heap : Ref → TokMap) (n : Nat) (t : Addr → Option Account) (s : State) :
    obs { heap := heap, nextRef := n, st := resetTo t s } = obs { heap := heap, nextRef := n, st := openAt t } := rfl

theorem reset_clean (t : Addr → Option Account) (s : State) :
    (resetTo t s).journal = [] ∧ (resetTo t s).revs = [] ∧ (resetTo t s).refund = 0 ∧ (resetTo t s).logSize = 0 ∧
    (∀ a, (resetTo t s).objs a = none) ∧ (∀ a, isDirtyJ (resetTo t s) a = false) := by
  simp [resetTo, State.empty, isDirtyJ]

/-- a revision id from before the `Reset` cannot revert anything: `RevertToSnapshot` panics -/
theorem reset_revert_panics (c : Ctx) (t : Addr → Option Account) (id : Nat) :
    revertTo { c with st := resetTo t c.st } id = none := rfl

/-- … and the same for Finalise/Commit (`clearJournalAndRefund`): reverting ACROSS them is a panic, never a partial undo -/
theorem finalise_revert_panics (del : Bool) (c : Ctx) (id : Nat) : revertTo (finalise del c) id = none := rfl

theorem commit_revert_panics (del : Bool) (c : Ctx) (id : Nat) : revertTo (commit del c) id = none := rfl

/-- a pending `SetState` does not move the committed value -/
theorem committed_dirty (o : Obj) (k : Key) (v : Option Bytes) (k' : Key) :
    committed { o with dirty := upd o.dirty k v } k' = committed o k' := rfl

/-- `SetState` on an existing account leaves `GetCommittedState` of every key as it was -/
theorem committed_setState (cfg : Cfg) (c : Ctx) (a : Addr) (k : Key) (v : Bytes) (o : Obj) (h : peek c.st a = some o) :
    ∃ o', peek (applyOp cfg c (.setState a k v)).st a = some o' ∧ ∀ k', committed o' k' = committed o k' := by
  have hnd := peek_not_deleted h
  simp only [applyOp, ensure, h]
  split
  · exact ⟨o, by simp [hnd], fun _ => rfl⟩
  · exact ⟨{ o with dirty := upd o.dirty k (some v) }, by simp [hnd], fun _ => rfl⟩

/-- the undo of a storage change leaves it too -/
theorem committed_undo_storage (c : Ctx) (a : Addr) (k : Key) (prev : Bytes) (o : Obj) (h : peek c.st a = some o) :
    ∃ o', peek (undo (.storage a k prev) c).st a = some o' ∧ ∀ k', committed o' k' = committed o k' := by
  have hnd := peek_not_deleted h
  simp only [undo, modObj, h]
  exact ⟨{ o with dirty := upd o.dirty k (some prev) }, by simp [hnd], fun _ => rfl⟩

end Props.C09
