import LinkVerif.Props.C14

/-!
# C14 — the encoder writes only what the decoder reads back (fix 0f01527)

`WALEncoder.Encode` refuses `length > maxMsgSizeBytes` before anything reaches the writer, `WALDecoder.Decode` refuses the
same lengths, and `maxMsgSizeBytes = maxMsgSize + 1024` where `maxMsgSize` is the consensus reactor's bound on a peer
message.  All three are regenerated from the source (Gen.WalFacts); the driver runs the model with the regenerated bound.
-/
namespace Props.C14
open Model.Wal

/-- regenerated facts (T2): both sides test the same bound at the right place.  Reverting the encoder hunk of 0f01527
breaks this obligation (and the correspondence: the model refuses, the code writes). -/
theorem encoder_and_decoder_check_length :
    Gen.WalFacts.encoderChecksLength = true ∧ Gen.WalFacts.decoderChecksLength = true := by decide

/-- **wal_bound_covers_reactor** (regenerated constants): the WAL bound exceeds the reactor's bound on a peer message by
at least 1024 bytes — the stated bound on the wrapper (`TimedWALMessage{time, msgInfo{msg, peerID}}`: time stamp, peer id,
two registered-type prefixes, list headers; the harness measures the real overhead of a reactor-maximum message with a
40-character peer id on every run and compares it with this bound).  Reverting the constant hunk of 0f01527 breaks it. -/
theorem wal_bound_covers_reactor :
    Gen.WalFacts.reactorMaxMsgSize + 1024 ≤ Gen.WalFacts.maxMsgSizeBytes := by decide

/-- the encoder refuses exactly the payloads above the bound, and a refusal writes nothing (the result carries no group) -/
theorem encodeWrite_refuses_iff (B : Nat) (c : Codec) (g : Group) (p : Bytes) :
    g.encodeWrite B c p = none ↔ c.maxMsg < p.length := by
  unfold Group.encodeWrite
  split <;> simp_all

theorem encodeWrite_accepts (B : Nat) (c : Codec) (g : Group) (p : Bytes) (h : p.length ≤ c.maxMsg) :
    g.encodeWrite B c p = some (g.write B (frame c p)) :=
  if_neg (Nat.not_lt.mpr h)

theorem valid_of_accepted (B : Nat) (c : Codec) (g : Group) (p : Bytes) (hpos : 0 < p.length) (hok : c.ok p = true)
    (hacc : (g.encodeWrite B c p).isSome = true) : Valid c p := by
  refine ⟨hpos, Nat.le_of_not_lt (fun h => ?_), hok⟩
  rw [(encodeWrite_refuses_iff B c g p).mpr h] at hacc
  cases hacc

/-- **The encode/decode clause at full strength**: every record the encoder accepts is decoded back — one `Decode` on
its bytes (whatever follows) returns exactly that message and leaves exactly the rest; a whole log of accepted records
replays completely, in order, then io.EOF.  (Payloads are the codec's: non-empty and decodable, C11.) -/
def C14_encode_decode_statement : Prop :=
  ∀ (B : Nat) (c : Codec) (g : Group), Bounded c →
    (∀ (p : Bytes), 0 < p.length → c.ok p = true → (g.encodeWrite B c p).isSome = true →
        ∀ (t : Tail) (r : Bytes), decode1 c t (frame c p ++ r) = (Res.msg p, r)) ∧
    (∀ (ps : List Bytes), (∀ p ∈ ps, 0 < p.length ∧ c.ok p = true ∧ (g.encodeWrite B c p).isSome = true) →
        decodeAll c Tail.eof (frames c ps) = (ps, Res.eof))

theorem C14_encode_decode : C14_encode_decode_statement := by
  intro B c g hb
  constructor
  · intro p hpos hok hacc t r
    exact decode1_frame c hb t p r (valid_of_accepted B c g p hpos hok hacc)
  · intro ps h
    exact intact_replay c hb ps (fun p hp => valid_of_accepted B c g p (h p hp).1 (h p hp).2.1 (h p hp).2.2)

/-- **wrapped_reactor_message_accepted**: with the bound of the current tree, a record whose payload is at most the
reactor's maximum peer message plus the 1024-byte wrapper bound is always accepted by the encoder (so `baseWAL.Write`'s
panic on an encoder error is unreachable from peer input) — and, by `C14_encode_decode`, read back. -/
theorem wrapped_reactor_message_accepted (B : Nat) (c : Codec) (g : Group) (p : Bytes)
    (hc : c.maxMsg = Gen.WalFacts.maxMsgSizeBytes)
    (hp : p.length ≤ Gen.WalFacts.reactorMaxMsgSize + 1024) :
    g.encodeWrite B c p = some (g.write B (frame c p)) := by
  apply encodeWrite_accepts
  have := wal_bound_covers_reactor
  omega

/-- non-vacuity: the toy codec accepts a marker record and its bound is the regenerated constant; one byte above the
bound is refused (next example) -/
example : ((({} : Group).encodeWrite 16 toyCodec [0xEE, 1]).isSome = true) ∧ toyCodec.maxMsg = Gen.WalFacts.maxMsgSizeBytes :=
  ⟨by decide, rfl⟩

example (p : Bytes) (h : p.length = Gen.WalFacts.maxMsgSizeBytes + 1) : ({} : Group).encodeWrite 16 toyCodec p = none := by
  rw [encodeWrite_refuses_iff]
  show Gen.WalFacts.maxMsgSizeBytes < p.length
  omega

end Props.C14
