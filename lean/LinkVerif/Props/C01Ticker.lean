import LinkVerif.Model.Ticker
/-
What the timeout ticker (consensus/ticker.go, model Model.Ticker) can fire: only what was scheduled, in (height, round,
step) order, after a burst the newest schedule.  "Only what was scheduled" is what the system theorem of Props/C01System
assumes of the ticker as `Sched`; the theorems here are about `Model.Ticker` alone.
Tie: the REAL timeoutTicker is driven with bursts and single schedules through the hooks VerifSchedule / VerifAwaitTock,
op `tick` of the C01 harness.
-/
namespace Props.C01Ticker
open Model.Ticker

theorem le_refl (a : TI) : le a a :=
  .inr ⟨rfl, .inr ⟨rfl, Nat.le_refl _⟩⟩

theorem le_trans {a b c : TI} (h1 : le a b) (h2 : le b c) : le a c := by
  unfold le at *; omega

theorem not_stale_le {ti n : TI} (h : stale ti n = false) : le ti n := by
  simp only [stale, Bool.or_eq_false_iff, Bool.and_eq_false_iff, decide_eq_false_iff_not] at h
  unfold le; omega

theorem stale_le {ti n : TI} (h : stale ti n = true) : le n ti := by
  simp only [stale, Bool.or_eq_true, Bool.and_eq_true, decide_eq_true_eq] at h
  unfold le
  rcases h with h | ⟨e, h | ⟨f, _, h⟩⟩
  · exact .inl h
  · exact .inr ⟨e, .inl h⟩
  · exact .inr ⟨e, .inr ⟨f, h⟩⟩

theorem sched_mono (ti n : TI) : le ti (sched ti n) := by
  unfold sched
  cases h : stale ti n
  · exact not_stale_le h
  · exact le_refl ti

theorem le_sched (ti n : TI) : le n (sched ti n) := by
  unfold sched
  cases h : stale ti n
  · exact le_refl n
  · exact stale_le h

/-- the pending timeout is the old one or the newly scheduled one: the ticker invents nothing -/
theorem sched_mem (ti n : TI) : sched ti n = ti ∨ sched ti n = n := by
  unfold sched
  cases stale ti n
  · exact .inr rfl
  · exact .inl rfl

theorem pending_mono (ti : TI) (ns : List TI) : le ti (pending ti ns) := by
  unfold pending
  induction ns generalizing ti with
  | nil => exact le_refl _
  | cons n ns ih => exact le_trans (sched_mono ti n) (ih (sched ti n))

/-- everything accepted was scheduled, in the order it was scheduled -/
theorem accepted_sublist (ti : TI) (ns : List TI) : (accepted ti ns).Sublist ns := by
  induction ns generalizing ti with
  | nil => simp [accepted]
  | cons n ns ih =>
    unfold accepted
    cases stale ti n
    · exact (ih n).cons_cons n
    · exact (ih ti).cons n

/-- the accepted timeouts never go back in (height, round, step) — neither against the pending one nor among themselves -/
theorem accepted_ordered (ti : TI) (ns : List TI) : (accepted ti ns).Pairwise le ∧ ∀ a ∈ accepted ti ns, le ti a := by
  induction ns generalizing ti with
  | nil => simp [accepted]
  | cons n ns ih =>
    unfold accepted
    cases h : stale ti n
    · have hn := not_stale_le h
      obtain ⟨c, hd⟩ := ih n
      exact ⟨List.pairwise_cons.2 ⟨hd, c⟩, List.forall_mem_cons.2 ⟨hn, fun a e => le_trans hn (hd a e)⟩⟩
    · exact ih ti

theorem pending_eq_last (ti : TI) (ns : List TI) : pending ti ns = ((accepted ti ns).getLast?).getD ti := by
  unfold pending
  induction ns generalizing ti with
  | nil => simp [accepted]
  | cons n ns ih =>
    rw [List.foldl_cons, sched]
    unfold accepted
    cases stale ti n
    · simp only [Bool.false_eq_true, if_false]
      rw [ih n, List.getLast?_cons]
      rfl
    · exact ih ti

theorem pending_mem (ti : TI) (ns : List TI) : pending ti ns = ti ∨ pending ti ns ∈ ns := by
  rw [pending_eq_last]
  cases h : (accepted ti ns).getLast? with
  | none => exact .inl rfl
  | some a => exact .inr ((accepted_sublist ti ns).subset (List.mem_of_getLast? h))

/-- after a burst nothing that was scheduled is newer than the pending timeout: the burst fires its newest schedule -/
theorem pending_ge_all (ti : TI) (ns : List TI) : ∀ n ∈ ns, le n (pending ti ns) := by
  induction ns generalizing ti with
  | nil => simp
  | cons m ms ih =>
    intro n hn
    show le n (pending (sched ti m) ms)
    rcases List.mem_cons.mp hn with e | e
    · subst e
      exact le_trans (le_sched ti n) (pending_mono (sched ti n) ms)
    · exact ih (sched ti m) n e

/-- the zero value the routine starts from accepts every first schedule with a non-negative round -/
theorem first_accepted (n : TI) (hr : 0 ≤ n.r) : stale zero n = false := by
  simp [stale, zero, Int.not_lt.2 hr]

example : accepted zero [⟨1, 0, 1⟩, ⟨1, 0, 3⟩, ⟨1, 0, 2⟩, ⟨1, 1, 1⟩, ⟨1, 0, 7⟩, ⟨2, 0, 1⟩] = [⟨1, 0, 1⟩, ⟨1, 0, 3⟩, ⟨1, 1, 1⟩, ⟨2, 0, 1⟩] := rfl
example : pending zero [⟨1, 0, 1⟩, ⟨1, 0, 3⟩, ⟨1, 0, 2⟩] = ⟨1, 0, 3⟩ := rfl
example : stale ⟨1, 0, 3⟩ ⟨1, 0, 3⟩ = true := rfl   -- the same step again does not re-arm the timer
example : stale ⟨1, 0, 0⟩ ⟨1, 0, 0⟩ = false := rfl  -- ... unless the pending step is 0

end Props.C01Ticker
