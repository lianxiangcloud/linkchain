import LinkVerif.Model.Ledger
import LinkVerif.Props.C06Lemmas

/-!
# C06 — no transaction or block creates or destroys value

Conservation of `supply` and `tokSupply` is proved for transactions that are `Honest` (indices in range and, for
confidential inputs, THE AMOUNT EQUATION between the output spent and the declared outputs + fee); the foundation gains
exactly the fees of the executed transactions; an invalid block moves nothing.
`C06_statement` — the property as demanded of the code, without the `Honest` hypothesis — is FALSE for the model
(which mirrors the code): `C06_counterexample`.  Nothing in `txValid`/`execTx` ties `outs`/`aout`/`gas` of a
confidential-input transaction to the amount of the output it spends.
-/
namespace Props.C06
open Model.Ledger

def allOuts (s : St) : List Out := s.wallets.flatten

def outIds (s : St) : List Nat := (allOuts s).map (·.id)

def IdsUnique (s : St) : Prop := (outIds s).Nodup ∧ ∀ i ∈ outIds s, i < s.nextOut

instance (s : St) : Decidable (IdsUnique s) := inferInstanceAs (Decidable (_ ∧ _))

structure Inv (s : St) : Prop where
  tok_len : s.tok.length = s.bal.length
  nonce_len : s.nonce.length = s.bal.length
  ids : IdsUnique s

theorem inv_iff (s : St) :
    Inv s ↔ (s.tok.length = s.bal.length ∧ s.nonce.length = s.bal.length ∧ IdsUnique s) :=
  ⟨fun h => ⟨h.1, h.2, h.3⟩, fun h => ⟨h.1, h.2.1, h.2.2⟩⟩

instance (s : St) : Decidable (Inv s) := decidable_of_iff _ (inv_iff s).symm

def aoutAmount (t : TxRec) : Int := match t.aout with | some (_, v) => v | none => 0

/-- What admission plus an honest construction guarantee at execution time: indices in range and, for a confidential
input, the output spent is unspent and its amount is what the transaction declares: created confidential outputs +
account output + fee. -/
structure Honest (s : St) (t : TxRec) : Prop where
  from_lt : t.kind ≠ .uin → t.from_ < s.bal.length
  to_lt : t.kind = .xfer ∨ t.kind = .xfertok → t.to < s.bal.length
  wallet_lt : t.kind = .ain → t.to < s.wallets.length
  outs_lt : t.kind = .uin → ∀ p ∈ t.outs, p.1 < s.wallets.length
  aout_lt : t.kind = .uin → ∀ p ∈ t.aout, p.1 < s.bal.length
  /-- THE AMOUNT EQUATION -/
  spend : t.kind = .uin → ∃ o ∈ allOuts s, o.id = t.spends ∧ o.spent = false ∧
    o.amount = (t.outs.map (·.2)).sum + aoutAmount t + feeOfGas t.gas

theorem honest_iff (s : St) (t : TxRec) :
    Honest s t ↔
      ((t.kind ≠ .uin → t.from_ < s.bal.length) ∧ (t.kind = .xfer ∨ t.kind = .xfertok → t.to < s.bal.length) ∧
       (t.kind = .ain → t.to < s.wallets.length) ∧ (t.kind = .uin → ∀ p ∈ t.outs, p.1 < s.wallets.length) ∧
       (t.kind = .uin → ∀ p ∈ t.aout, p.1 < s.bal.length) ∧
       (t.kind = .uin → ∃ o ∈ allOuts s, o.id = t.spends ∧ o.spent = false ∧
          o.amount = (t.outs.map (·.2)).sum + aoutAmount t + feeOfGas t.gas)) :=
  ⟨fun h => ⟨h.1, h.2, h.3, h.4, h.5, h.6⟩, fun h => ⟨h.1, h.2.1, h.2.2.1, h.2.2.2.1, h.2.2.2.2.1, h.2.2.2.2.2⟩⟩

instance (s : St) (t : TxRec) : Decidable (Honest s t) := decidable_of_iff _ (honest_iff s t).symm

theorem ids_inj {l : List Out} (h : (l.map (·.id)).Nodup) {a b : Out} (ha : a ∈ l) (hb : b ∈ l) (hab : a.id = b.id) :
    a = b := by
  induction l with
  | nil => simp at ha
  | cons x l ih =>
    simp only [List.map_cons, List.nodup_cons] at h
    rcases List.mem_cons.mp ha with rfl | ha' <;> rcases List.mem_cons.mp hb with rfl | hb'
    · rfl
    · exact absurd (List.mem_map.mpr ⟨b, hb', hab.symm⟩) h.1
    · exact absurd (List.mem_map.mpr ⟨a, ha', hab⟩) h.1
    · exact ih h.2 ha' hb'

theorem honest_spend_unique {s : St} {t : TxRec} (hi : Inv s) (hh : Honest s t) (hk : t.kind = .uin) :
    ∃ o ∈ allOuts s, o.id = t.spends ∧ ∀ o' ∈ allOuts s, o'.id = t.spends → o' = o := by
  obtain ⟨o, ho, hid, _, _⟩ := hh.spend hk
  exact ⟨o, ho, hid, fun o' ho' hid' => ids_inj hi.ids.1 ho' ho (hid'.trans hid.symm)⟩

theorem init_inv (a w : Nat) (b tb : Int) : Inv (init a w b tb) := by
  refine ⟨by simp [init], by simp [init], ?_⟩
  have : outIds (init a w b tb) = [] := by
    unfold outIds allOuts init
    simp only [List.map_eq_nil_iff, List.flatten_eq_nil_iff]
    intro l hl
    exact (List.mem_replicate.mp hl).2
  unfold IdsUnique
  rw [this]
  exact ⟨List.nodup_nil, fun i hi => absurd hi (List.not_mem_nil)⟩

theorem newOuts_xfer {t : TxRec} (h : t.kind = .xfer) : newOuts t = [] := by simp [newOuts, h]
theorem newOuts_xfertok {t : TxRec} (h : t.kind = .xfertok) : newOuts t = [] := by simp [newOuts, h]
theorem newOuts_ain {t : TxRec} (h : t.kind = .ain) : newOuts t = [(t.to, t.amount)] := by simp [newOuts, h]
theorem newOuts_uin {t : TxRec} (h : t.kind = .uin) : newOuts t = t.outs := by simp [newOuts, h]

theorem honest_newOuts_inrange {s : St} {t : TxRec} (hh : Honest s t) : ∀ p ∈ newOuts t, p.1 < s.wallets.length := by
  intro p hp
  unfold newOuts at hp
  split at hp
  · rename_i hk; rw [List.mem_singleton.mp hp]; exact hh.wallet_lt hk
  · rename_i hk; exact hh.outs_lt hk p hp
  · cases hp

theorem usum_addW (ws : List (List Out)) (n : Nat) (t : TxRec) (hr : ∀ p ∈ newOuts t, p.1 < ws.length) :
    usum (addW ws 0 (tagOf n t)).flatten = usum ws.flatten + ((newOuts t).map (·.2)).sum := by
  rw [usum_perm (addW_flatten_perm_inrange ws (tagOf n t) (tagOf_inrange n t _ hr)), usum_append, usum_mkOut,
    tagOf_amounts]

theorem pool_addOuts (s : St) (t : TxRec) (hr : ∀ p ∈ newOuts t, p.1 < s.wallets.length) :
    pool (addOuts s t) = pool s + ((newOuts t).map (·.2)).sum := by
  rw [pool_eq_usum, pool_eq_usum, addOuts_eq, usum_addW _ _ _ hr]

theorem pool_markSpent (s : St) (oid : Nat) (o : Out) (hnd : (outIds s).Nodup) (ho : o ∈ allOuts s)
    (hid : o.id = oid) (hsp : o.spent = false) :
    pool { s with wallets := markSpent s.wallets oid } = pool s - o.amount := by
  rw [pool_eq_usum, pool_eq_usum]
  simp only [markSpent_flatten]
  exact usum_mark _ oid o hnd ho hid hsp

theorem pool_execTx_acct {s : St} {t : TxRec} (hk : t.kind ≠ .uin) (hr : ∀ p ∈ newOuts t, p.1 < s.wallets.length) :
    pool (execTx s t) = pool s + ((newOuts t).map (·.2)).sum := by
  rw [pool_eq_usum, pool_eq_usum, execTx_wallets, if_neg hk, usum_addW _ _ _ hr]

theorem pool_execTx_uin {s : St} {t : TxRec} (hk : t.kind = .uin) (hnd : (outIds s).Nodup) {o : Out}
    (ho : o ∈ allOuts s) (hid : o.id = t.spends) (hsp : o.spent = false)
    (hr : ∀ p ∈ t.outs, p.1 < s.wallets.length) :
    pool (execTx s t) = pool s - o.amount + (t.outs.map (·.2)).sum := by
  have hr' : ∀ p ∈ newOuts t, p.1 < (markSpent s.wallets t.spends).length := by
    rw [newOuts_uin hk, length_markSpent]; exact hr
  rw [pool_eq_usum, pool_eq_usum, execTx_wallets, if_pos hk, usum_addW _ _ _ hr', markSpent_flatten,
    usum_mark s.wallets.flatten _ o hnd ho hid hsp, newOuts_uin hk]

theorem outIds_execTx_perm {s : St} {t : TxRec} (hr : ∀ p ∈ newOuts t, p.1 < s.wallets.length) :
    (outIds (execTx s t)).Perm (outIds s ++ List.range' s.nextOut (newOuts t).length) := by
  unfold outIds allOuts
  rw [execTx_wallets]
  have key : ∀ ws : List (List Out), ws.length = s.wallets.length →
      ws.flatten.map (·.id) = s.wallets.flatten.map (·.id) →
      ((addW ws 0 (tagOf s.nextOut t)).flatten.map (·.id)).Perm
        (s.wallets.flatten.map (·.id) ++ List.range' s.nextOut (newOuts t).length) := by
    intro ws hlen hids
    have hp := (addW_flatten_perm_inrange ws (tagOf s.nextOut t)
      (tagOf_inrange s.nextOut t _ (by rw [hlen]; exact hr))).map (·.id)
    rw [List.map_append, mkOut_ids, tagOf_snd, hids] at hp
    exact hp
  split
  · exact key _ (length_markSpent _ _) (by rw [markSpent_flatten, map_mark_ids])
  · exact key _ rfl rfl

theorem idsUnique_execTx {s : St} {t : TxRec} (h : IdsUnique s) (hr : ∀ p ∈ newOuts t, p.1 < s.wallets.length) :
    IdsUnique (execTx s t) := by
  have hp := outIds_execTx_perm (s := s) (t := t) hr
  constructor
  · rw [hp.nodup_iff, List.nodup_append]
    refine ⟨h.1, List.nodup_range' 1, ?_⟩
    intro a ha b hb hab
    have := h.2 a ha
    have := (List.mem_range'_1.mp hb).1
    omega
  · intro i hi
    rw [execTx_nextOut]
    rcases List.mem_append.mp (hp.mem_iff.mp hi) with h1 | h2
    · have := h.2 i h1; omega
    · exact (List.mem_range'_1.mp h2).2

theorem applyTx_lengths (s : St) (t : TxRec) :
    (applyTx s t).bal.length = s.bal.length ∧ (applyTx s t).tok.length = s.tok.length ∧
    (applyTx s t).nonce.length = s.nonce.length := by
  unfold applyTx
  generalize t.kind = k
  cases k
  · exact ⟨(length_addAt ..).trans (length_addAt ..), rfl, List.length_set⟩
  · exact ⟨length_addAt .., (length_addAt ..).trans (length_addAt ..), List.length_set⟩
  · exact ⟨length_addAt .., rfl, List.length_set⟩
  · cases t.aout
    · exact ⟨rfl, rfl, rfl⟩
    · exact ⟨length_addAt .., rfl, rfl⟩

theorem inv_execTx {s : St} {t : TxRec} (h : Inv s) (hr : ∀ p ∈ newOuts t, p.1 < s.wallets.length) :
    Inv (execTx s t) := by
  obtain ⟨hb, ht, hn⟩ := applyTx_lengths s t
  refine ⟨?_, ?_, idsUnique_execTx h.ids hr⟩
  · rw [execTx_tok, execTx_bal, ht, hb]; exact h.tok_len
  · rw [execTx_nonce, execTx_bal, hn, hb]; exact h.nonce_len

section
variable {s : St} {t : TxRec}

theorem applyTx_xfer (hk : t.kind = .xfer) :
    (applyTx s t).bal = addAt (addAt s.bal t.from_ (-(t.amount + feeOfGas t.gas))) t.to t.amount := by
  simp only [applyTx, hk]

theorem applyTx_xfertok (hk : t.kind = .xfertok) :
    (applyTx s t).bal = addAt s.bal t.from_ (-(feeOfGas t.gas)) ∧
    (applyTx s t).tok = addAt (addAt s.tok t.from_ (-t.amount)) t.to t.amount := by
  simp only [applyTx, hk, and_self]

theorem applyTx_ain (hk : t.kind = .ain) :
    (applyTx s t).bal = addAt s.bal t.from_ (-(t.amount + feeOfGas t.gas)) := by
  simp only [applyTx, hk]

theorem applyTx_tok_of_ne (hk : t.kind ≠ .xfertok) : (applyTx s t).tok = s.tok := by
  unfold applyTx
  generalize t.kind = k at hk
  cases k
  · rfl
  · exact absurd rfl hk
  · rfl
  · cases t.aout <;> rfl

theorem applyTx_uin_bal_sum (hk : t.kind = .uin) (hr : ∀ p ∈ t.aout, p.1 < s.bal.length) :
    (applyTx s t).bal.sum = s.bal.sum + aoutAmount t := by
  cases ha : t.aout with
  | none => simp only [applyTx, hk, aoutAmount, ha]; omega
  | some p =>
    obtain ⟨a, v⟩ := p
    simp only [applyTx, hk, aoutAmount, ha]
    rw [sum_addAt _ _ _ (hr (a, v) ha)]

end

theorem execTx_conserves {s : St} {t : TxRec} (hi : Inv s) (hh : Honest s t) :
    supply (execTx s t) = supply s ∧ tokSupply (execTx s t) = tokSupply s ∧ Inv (execTx s t) := by
  have hr := honest_newOuts_inrange hh
  refine ⟨?_, ?_, inv_execTx hi hr⟩
  · unfold supply
    rw [execTx_bal, execTx_found, execTx_zero]
    by_cases hu : t.kind = .uin
    · obtain ⟨o, ho, hid, hsp, hamt⟩ := hh.spend hu
      rw [pool_execTx_uin hu hi.ids.1 ho hid hsp (hh.outs_lt hu), applyTx_uin_bal_sum hu (hh.aout_lt hu)]
      omega
    · have hf := hh.from_lt hu
      rw [pool_execTx_acct hu hr]
      cases hk : t.kind with
      | uin => exact absurd hk hu
      | xfer =>
        rw [newOuts_xfer hk, applyTx_xfer hk, sum_addAt _ _ _ (by rw [length_addAt]; exact hh.to_lt (.inl hk)),
          sum_addAt _ _ _ hf]
        simp only [List.map_nil, List.sum_nil]; omega
      | xfertok =>
        rw [newOuts_xfertok hk, (applyTx_xfertok hk).1, sum_addAt _ _ _ hf]
        simp only [List.map_nil, List.sum_nil]; omega
      | ain =>
        rw [newOuts_ain hk, applyTx_ain hk, sum_addAt _ _ _ hf]
        simp only [List.map_cons, List.map_nil, List.sum_cons, List.sum_nil]; omega
  · unfold tokSupply
    rw [execTx_tok]
    by_cases hk : t.kind = .xfertok
    · have hf : t.from_ < s.tok.length := by rw [hi.tok_len]; exact hh.from_lt (by simp [hk])
      have ht : t.to < s.tok.length := by rw [hi.tok_len]; exact hh.to_lt (.inr hk)
      rw [(applyTx_xfertok hk).2, sum_addAt _ _ _ (by rw [length_addAt]; exact ht), sum_addAt _ _ _ hf]
      omega
    · rw [applyTx_tok_of_ne hk]

inductive HonestRun : St → List Nat → List TxRec → Prop where
  | nil (s : St) (seen : List Nat) : HonestRun s seen []
  | cons {s : St} {seen : List Nat} {t : TxRec} {rest : List TxRec} :
      Honest s t → HonestRun (execTx s t) (if t.kind = .uin then t.spends :: seen else seen) rest →
      HonestRun s seen (t :: rest)

end Props.C06

/-! Conservation over a block is proved for the receipt-accurate execution `execBlockR` (`Model.LedgerR`: a transaction
that is not valid where it stands may stay in the block with a failed receipt, which moves nothing); the strict `execBlock`
is its restriction to blocks without failed receipts (`execBlock_sub_R`). -/

namespace Props.C06R
open Model.Ledger
open Props.C06

theorem failTx_conserves {s : St} (t : TxRec) (hi : Inv s) :
    supply (failTx s t) = supply s ∧ tokSupply (failTx s t) = tokSupply s ∧ Inv (failTx s t) :=
  ⟨rfl, rfl, hi.tok_len, List.length_set.trans hi.nonce_len, hi.ids⟩

/-- only a transaction that EXECUTES has to be `Honest`; a failing one is unconstrained -/
def HonestRunR : St → List Nat → List TxRec → Prop
  | _, _, [] => True
  | s, seen, t :: rest =>
    if txValid s seen t = true then Honest s t ∧ HonestRunR (execTx s t) (if t.kind = .uin then t.spends :: seen else seen) rest
    else HonestRunR (failTx s t) seen rest

instance decHonestRunR : ∀ (recs : List TxRec) (s : St) (seen : List Nat), Decidable (HonestRunR s seen recs)
  | [], _, _ => isTrue trivial
  | t :: rest, s, seen =>
    if hv : txValid s seen t = true then
      match (inferInstance : Decidable (Honest s t)), decHonestRunR rest (execTx s t) (if t.kind = .uin then t.spends :: seen else seen) with
      | isTrue h1, isTrue h2 => isTrue (by unfold HonestRunR; rw [if_pos hv]; exact ⟨h1, h2⟩)
      | isFalse h1, _ => isFalse (by unfold HonestRunR; rw [if_pos hv]; exact fun h => h1 h.1)
      | _, isFalse h2 => isFalse (by unfold HonestRunR; rw [if_pos hv]; exact fun h => h2 h.2)
    else
      match decHonestRunR rest (failTx s t) seen with
      | isTrue h => isTrue (by unfold HonestRunR; rw [if_neg hv]; exact h)
      | isFalse h => isFalse (by unfold HonestRunR; rw [if_neg hv]; exact h)

theorem honestRunR_of_strict {s s' : St} {seen : List Nat} {recs : List TxRec} (hr : HonestRun s seen recs)
    (he : execBlock s seen recs = some s') : HonestRunR s seen recs := by
  induction hr generalizing s' with
  | nil s seen => trivial
  | cons hh _ ih =>
    obtain ⟨hv, he'⟩ := execBlock_cons he
    unfold HonestRunR
    rw [if_pos hv]
    exact ⟨hh, ih he'⟩

theorem execBlockR_conserves_inv {s s' : St} {seen : List Nat} {recs : List TxRec} (hi : Inv s) (hr : HonestRunR s seen recs)
    (he : execBlockR s seen recs = some s') : supply s' = supply s ∧ tokSupply s' = tokSupply s ∧ Inv s' := by
  induction recs generalizing s seen with
  | nil => rw [execBlockR_nil he]; exact ⟨rfl, rfl, hi⟩
  | cons t rest ih =>
    unfold HonestRunR at hr
    rcases execBlockR_cons he with ⟨hv, he'⟩ | ⟨hv, _, he'⟩
    · rw [if_pos hv] at hr
      obtain ⟨h1, h2, h3⟩ := execTx_conserves hi hr.1
      obtain ⟨k1, k2, k3⟩ := ih h3 hr.2 he'
      exact ⟨k1.trans h1, k2.trans h2, k3⟩
    · rw [if_neg (by rw [hv]; decide)] at hr
      obtain ⟨h1, h2, h3⟩ := failTx_conserves t hi
      obtain ⟨k1, k2, k3⟩ := ih h3 hr he'
      exact ⟨k1.trans h1, k2.trans h2, k3⟩

end Props.C06R

namespace Props.C06
open Model.Ledger
open Props.C06R (honestRunR_of_strict execBlockR_conserves_inv execBlock_sub_R)

theorem execBlock_conserves_inv {s s' : St} {seen : List Nat} {recs : List TxRec} (hi : Inv s) (hr : HonestRun s seen recs)
    (he : execBlock s seen recs = some s') : supply s' = supply s ∧ tokSupply s' = tokSupply s ∧ Inv s' :=
  execBlockR_conserves_inv hi (honestRunR_of_strict hr he) (execBlock_sub_R he)

/-- **C06, partial.**  Conservation over an executed block under the hypothesis that every transaction is `Honest` where
it executes.  The full statement (`C06_statement`, no such hypothesis) is false: `C06_counterexample`. -/
theorem execBlock_conserves {s s' : St} {seen : List Nat} {recs : List TxRec} (hi : Inv s) (hr : HonestRun s seen recs)
    (he : execBlock s seen recs = some s') : supply s' = supply s ∧ tokSupply s' = tokSupply s :=
  ⟨(execBlock_conserves_inv hi hr he).1, (execBlock_conserves_inv hi hr he).2.1⟩

def C06_partial_statement : Prop :=
  ∀ (s : St) (seen : List Nat) (recs : List TxRec) (s' : St), Inv s → HonestRun s seen recs →
    execBlock s seen recs = some s' → supply s' = supply s ∧ tokSupply s' = tokSupply s

theorem C06_partial : C06_partial_statement := fun _ _ _ _ hi hr he => execBlock_conserves hi hr he

theorem execBlock_inv {s s' : St} {seen : List Nat} {recs : List TxRec} (hi : Inv s) (hr : HonestRun s seen recs)
    (he : execBlock s seen recs = some s') : Inv s' := (execBlock_conserves_inv hi hr he).2.2

theorem supply_finishBlock (s s' : St) (ids : List Nat) : supply (finishBlock s s' ids) = supply s' := rfl
theorem tokSupply_finishBlock (s s' : St) (ids : List Nat) : tokSupply (finishBlock s s' ids) = tokSupply s' := rfl
theorem finishBlock_conserves {s s' : St} (ids : List Nat) (h : supply s' = supply s ∧ tokSupply s' = tokSupply s ∧ Inv s') :
    supply (finishBlock s s' ids) = supply s ∧ tokSupply (finishBlock s s' ids) = tokSupply s ∧ Inv (finishBlock s s' ids) :=
  ⟨h.1, h.2.1, h.2.2.tok_len, h.2.2.nonce_len, h.2.2.ids⟩

theorem block_conserves {s : St} (hi : Inv s) (hr : HonestRun s [] (recsOf s s.pending)) :
    supply (block s) = supply s ∧ tokSupply (block s) = tokSupply s ∧ Inv (block s) := by
  rw [block_eq]
  cases he : execBlock s [] (recsOf s s.pending) with
  | none => exact ⟨rfl, rfl, hi⟩
  | some s' => exact finishBlock_conserves _ (execBlock_conserves_inv hi hr he)

theorem forceBlock_conserves {s : St} {ids : List Nat} (hi : Inv s) (hr : HonestRun s [] (recsOf s ids)) :
    supply (forceBlock s ids).1 = supply s ∧ tokSupply (forceBlock s ids).1 = tokSupply s ∧ Inv (forceBlock s ids).1 := by
  rcases forceBlock_cases s ids with ⟨h, _⟩ | ⟨s', he, _, h⟩
  · rw [h]; exact ⟨rfl, rfl, hi⟩
  · rw [h]; exact finishBlock_conserves _ (execBlock_conserves_inv hi hr he)

def feesOf (recs : List TxRec) : Int := (recs.map (fun t => feeOfGas t.gas)).sum

theorem fees_match {s s' : St} {seen : List Nat} {recs : List TxRec} (he : execBlock s seen recs = some s') :
    s'.found = s.found + feesOf recs := by
  induction recs generalizing s seen with
  | nil => rw [execBlock_nil he]; exact (Int.add_zero _).symm
  | cons t rest ih =>
    obtain ⟨_, he'⟩ := execBlock_cons he
    rw [ih he', execTx_found]
    simp only [feesOf, List.map_cons, List.sum_cons]; omega

theorem block_fees {s s' : St} (he : execBlock s [] (recsOf s s.pending) = some s') :
    (block s).found = s.found + feesOf (recsOf s s.pending) := by
  have h := fees_match he
  simp only [block_eq, he]; exact h

theorem forceBlock_fees {s s' : St} {ids : List Nat} (he : execBlock s [] (recsOf s ids) = some s')
    (hok : (forceBlock s ids).2 = "ok") : (forceBlock s ids).1.found = s.found + feesOf (recsOf s ids) := by
  rcases forceBlock_cases s ids with ⟨_, h⟩ | ⟨_, he', _, h⟩
  · exact absurd hok h
  · have hf := fees_match he
    cases he.symm.trans he'
    rw [h]; exact hf

/-- `found` only changes in blocks: admission does not touch the committed ledger -/
theorem admitTx_supply (s : St) (id : Nat) (t : TxRec) :
    (admitTx s id t).2.found = s.found ∧ supply (admitTx s id t).2 = supply s ∧ tokSupply (admitTx s id t).2 = tokSupply s := by
  rw [admitTx_mempoolOnly s id t]
  exact ⟨rfl, rfl, rfl⟩

theorem forceBlock_invalid {s : St} {ids : List Nat} (he : execBlock s [] (recsOf s ids) = none) :
    (forceBlock s ids).1 = s := by
  rw [forceBlock_eq, he]

theorem forceBlock_refused {s : St} {ids : List Nat} (h : (forceBlock s ids).2 ≠ "ok") : (forceBlock s ids).1 = s := by
  rcases forceBlock_cases s ids with ⟨h', _⟩ | ⟨_, _, _, h'⟩
  · exact h'
  · rw [h'] at h; exact absurd rfl h

theorem block_invalid {s : St} (he : execBlock s [] (recsOf s s.pending) = none) : block s = s := by
  rw [block_eq, he]

/-- what C06 demands of the code: every executed block conserves the native supply — no `Honest` hypothesis -/
def C06_statement : Prop :=
  ∀ (s : St) (seen : List Nat) (recs : List TxRec) (s' : St), Inv s → execBlock s seen recs = some s' → supply s' = supply s

/-- one account, one wallet holding one unspent output of amount 5 -/
def cex_s : St := { bal := [0], tok := [0], nonce := [0], sbal := [0], stok := [0], snonce := [0],
                    wallets := [[{ id := 0, amount := 5, spent := false }]], nextOut := 1 }

/-- spends the output of amount 5, creates an output of amount 1000 -/
def cex_t : TxRec := { kind := .uin, spends := 0, outs := [(0, 1000)], gas := 0 }

theorem cex_inv : Inv cex_s := by decide
theorem cex_valid : txValid cex_s [] cex_t = true := by decide
theorem cex_supply : supply cex_s = 5 ∧ supply (execTx cex_s cex_t) = 1000 := by decide
/-- it passes admission too -/
theorem cex_admitted : (admitTx cex_s 0 cex_t).1 = "ok" := by decide

theorem C06_counterexample : ¬ C06_statement := by
  intro h
  have he : execBlock cex_s [] [cex_t] = some (execTx cex_s cex_t) := by
    simp only [execBlock, cex_valid, if_true]
  have := h cex_s [] [cex_t] _ cex_inv he
  rw [cex_supply.1, cex_supply.2] at this
  exact absurd this (by decide)

/-- end to end: the transaction is admitted to the mempool, the next mempool block executes it, the supply goes 5 → 1000 -/
theorem cex_block :
    let s1 := (admitTx { cex_s with txs := [cex_t] } 0 cex_t).2
    s1.pending = [0] ∧ supply s1 = 5 ∧ (block s1).height = 1 ∧ supply (block s1) = 1000 := by decide

/-- the counterexample is not `Honest`: only the amount equation fails -/
theorem cex_not_honest : ¬ Honest cex_s cex_t := by decide

/-! ## non-vacuity: a concrete honest run -/

def nv_s : St := init 2 2 100000000000 7

def nv_amt3 : Int := 5000000000
def nv_out2 : Int := nv_amt3 + feeOfGas (calGas nv_amt3)
def nv_change2 : Int := 30000000000 - nv_out2 - feeOfGas utxoGas

/-- account 0 → wallet 0 -/
def nv_t1 : TxRec := { kind := .ain, from_ := 0, to := 0, amount := 30000000000, nonce := 0, gas := calGas 30000000000 }
/-- wallet 0 spends output 0: pays wallet 1, change back to wallet 0 -/
def nv_t2 : TxRec := { kind := .uin, spends := 0, outs := [(1, nv_out2), (0, nv_change2)], gas := utxoGas }
/-- wallet 1 spends output 1 to account 1 -/
def nv_t3 : TxRec := { kind := .uin, spends := 1, outs := [], aout := some (1, nv_amt3), gas := calGas nv_amt3 }

example : Inv nv_s := by decide
example : HonestRun nv_s [] [nv_t1, nv_t2, nv_t3] :=
  .cons (by decide) (.cons (by decide) (.cons (by decide) (.nil _ _)))
example : (execBlock nv_s [] [nv_t1, nv_t2, nv_t3]).isSome = true := by decide
example : (execBlock nv_s [] [nv_t1, nv_t2, nv_t3]).map supply = some (supply nv_s) := by decide
example : (execBlock nv_s [] [nv_t1, nv_t2, nv_t3]).map (·.bal) = some [69850000000, 105000000000] := by decide
example : (execBlock nv_s [] [nv_t1, nv_t2, nv_t3]).map pool = some nv_change2 := by decide
example : nv_change2 > 0 ∧ (execBlock nv_s [] [nv_t1, nv_t2, nv_t3]).map (·.found) = some (feesOf [nv_t1, nv_t2, nv_t3]) := by
  decide
/-- the second spend of output 0 is not honest (already spent) -/
example : ¬ Honest (execTx (execTx nv_s nv_t1) nv_t2) nv_t2 := by decide

end Props.C06
