/-
C03 — Only >2/3 of voting power, correctly signed for that exact block, makes a commit.

`ValidatorSet.VerifyCommit` (model `Model.Commit.verifyCommit`) is sound and complete.
The signature scheme is a parameter (`verify`); what a verifying signature MEANS (the key holder signed
that message) is the explicit hypothesis `IdealSig.unforgeable`, never an axiom.
(Threshold arithmetic: `C03Arith`; the vote set: `C03VoteSet`, `C03Inv`; sign-bytes: `C03SignBytes`, `C03BlockId`, `C03Parts`;
`VerifyCommitAny`, restart, `VerifySign`, call sites: `C03Wide`; fast sync: `C03FastSync`.)
-/
import LinkVerif.Props.C03Arith

namespace Props.C03
open Go Gen.CommitArith Model.Vote Model.VoteSet Model.Commit

def SlotGood (verify : Verify) (chain : List UInt8) (h : Nat) (r : Int) (val : Val) (v : Vote) : Prop :=
  v.height = h ∧ v.round = r ∧ v.type = typePrecommit ∧ verify val.key (msgOf chain v) v.sig = true

/-- every non-nil slot is good (slot i is judged against validator i: the lists are walked in step) -/
def AllSlotsGood (verify : Verify) (chain : List UInt8) (h : Nat) (r : Int) : List Val → List (Option Vote) → Prop
  | val :: vals, some v :: ps => SlotGood verify chain h r val v ∧ AllSlotsGood verify chain h r vals ps
  | _ :: vals, none :: ps => AllSlotsGood verify chain h r vals ps
  | _, _ => True

/-- the (mathematical) voting power of the slots that hold a precommit for exactly `bid`;
every validator slot contributes at most once -/
def countedPower (bid : BlockID) : List Val → List (Option Vote) → Int
  | val :: vals, some v :: ps => (if bid = v.bid then val.power else 0) + countedPower bid vals ps
  | _ :: vals, none :: ps => countedPower bid vals ps
  | _, _ => 0

theorem guard_eq_iff {α : Type} {c : Prop} [Decidable c] {e x o : α} (he : e ≠ o) :
    (if c then e else x) = o ↔ ¬ c ∧ x = o := by
  by_cases hc : c
  · rw [if_pos hc]; exact ⟨fun h => absurd h he, fun h => absurd hc h.1⟩
  · rw [if_neg hc]; exact ⟨fun h => ⟨hc, h⟩, fun h => h.2⟩

section
variable {verify : Verify} {chain : List UInt8} {bid : BlockID} {h : Nat} {r : Int} {vals : List Val} {ps : List (Option Vote)}

theorem tallyLoop_some (val : Val) (v : Vote) (acc t : Int) :
    tallyLoop verify chain bid h r (val :: vals) (some v :: ps) acc = .ok t ↔
      SlotGood verify chain h r val v ∧
      tallyLoop verify chain bid h r vals ps (if bid = v.bid then wrapI64 (acc + val.power) else acc) = .ok t := by
  rw [tallyLoop, guard_eq_iff (by nofun), guard_eq_iff (by nofun), guard_eq_iff (by nofun), guard_eq_iff (by nofun)]
  unfold SlotGood
  simp only [Decidable.not_not, Bool.not_eq_true', Bool.not_eq_false, and_assoc]
  by_cases hb : bid = v.bid
  · rw [if_neg (not_not_intro hb), if_pos hb]
  · rw [if_pos hb, if_neg hb]

theorem tallyLoop_ok_iff {acc t : Int}
    (hp : ∀ v ∈ vals, 0 ≤ v.power) (hacc : 0 ≤ acc) (hs : acc + sumPowers vals < two62) :
    tallyLoop verify chain bid h r vals ps acc = .ok t ↔
      AllSlotsGood verify chain h r vals ps ∧ t = acc + countedPower bid vals ps := by
  induction vals generalizing ps acc with
  | nil => cases ps <;> simp [tallyLoop, countedPower, AllSlotsGood, eq_comm]
  | cons val vals ih =>
    obtain ⟨hv, hp'⟩ := List.forall_mem_cons.1 hp
    have hrest := sumPowers_nonneg hp'
    rw [sumPowers_cons] at hs
    cases ps with
    | nil => simp [tallyLoop, countedPower, AllSlotsGood, eq_comm]
    | cons o ps =>
      cases o with
      | none =>
        rw [tallyLoop, AllSlotsGood, countedPower]
        exact ih hp' hacc (by omega)
      | some v =>
        rw [tallyLoop_some, AllSlotsGood, countedPower, and_assoc]
        by_cases hb : bid = v.bid
        · rw [if_pos hb, if_pos hb, wrapI64_small (by omega) (by omega), ih hp' (by omega) (by omega), Int.add_assoc]
        · rw [if_neg hb, if_neg hb, ih hp' hacc (by omega), Int.zero_add]

theorem allSlotsGood_get (hg : AllSlotsGood verify chain h r vals ps) {i : Nat} {val : Val} {v : Vote}
    (hv : vals[i]? = some val) (hp : ps[i]? = some (some v)) : SlotGood verify chain h r val v := by
  induction vals generalizing ps i with
  | nil => simp at hv
  | cons w vals ih =>
    cases ps with
    | nil => simp at hp
    | cons o ps =>
      cases i with
      | zero =>
        cases hv; cases hp
        exact hg.1
      | succ i =>
        cases o with
        | none => exact ih hg hv hp
        | some u => exact ih hg.2 hv hp

theorem allSlotsGood_of_pointwise
    (hg : ∀ (i : Nat) (val : Val) (v : Vote), vals[i]? = some val → ps[i]? = some (some v) → SlotGood verify chain h r val v) :
    AllSlotsGood verify chain h r vals ps := by
  induction vals, ps using AllSlotsGood.induct with
  | case1 val vals v ps ih => exact ⟨hg 0 val v rfl rfl, ih fun i => hg (i + 1)⟩
  | case2 _ vals ps ih => exact ih fun i => hg (i + 1)
  | case3 vals ps h1 h2 => rw [AllSlotsGood.eq_3 _ _ _ _ _ _ h1 h2]; trivial

end

theorem verifyCommit_ok_iff {verify : Verify} {vals : List Val} {chain : List UInt8} {bid : BlockID} {h : Nat} {c : Commit}
    (hno : NoOverflow vals) :
    verifyCommit verify vals chain bid h c = .ok () ↔
      vals.length = c.precommits.length ∧ h = Model.Commit.height c ∧
      AllSlotsGood verify chain h (Model.Commit.round c) vals c.precommits ∧
      3 * countedPower bid vals c.precommits > 2 * sumPowers vals := by
  have hloop := fun t => tallyLoop_ok_iff (verify := verify) (chain := chain) (bid := bid) (h := h)
    (r := Model.Commit.round c) (ps := c.precommits) (t := t) hno.1 (Int.le_refl 0) (by simpa using hno.2)
  unfold verifyCommit
  rw [guard_eq_iff (by nofun), guard_eq_iff (by nofun), Decidable.not_not, Decidable.not_not, totalPower_eq hno]
  cases htl : tallyLoop verify chain bid h (Model.Commit.round c) vals c.precommits 0 with
  | error e =>
    refine and_congr_right fun _ => and_congr_right fun _ => ⟨nofun, fun hg => ?_⟩
    have := (hloop _).2 ⟨hg.1, rfl⟩
    rw [htl] at this; cases this
  | ok t =>
    obtain ⟨hg, ht⟩ := (hloop t).1 htl
    have hacc := verifyCommitAccepts_iff (tallied := t) (sumPowers_nonneg hno.1) hno.2
    refine and_congr_right fun _ => and_congr_right fun _ => ?_
    by_cases ha : verifyCommitAccepts t (sumPowers vals) = true
    · simp only [ha, if_true, true_iff]; exact ⟨hg, by have := hacc.1 ha; omega⟩
    · simp only [ha]
      exact ⟨nofun, fun hq => absurd (hacc.2 (by have := hq.2; omega)) ha⟩

/-- SOUNDNESS of `VerifyCommit`.  For a validator set with non-negative powers and total below 2^62: if the
commit is accepted for block `bid` at height `h` on `chain`, then the commit has one slot per validator, there is
ONE common round `r` such that every non-nil slot is a precommit at (`h`, `r`) whose signature verifies under the
key of the validator AT THAT INDEX over exactly (chain, h, r, precommit, block id, time), and the slots that carry
exactly `bid` hold STRICTLY more than two thirds of the true total power (each slot counted once, no int64 wrap). -/
theorem verifyCommit_sound (verify : Verify) (vals : List Val) (chain : List UInt8) (bid : BlockID) (h : Nat) (c : Commit)
    (hno : NoOverflow vals) (hok : verifyCommit verify vals chain bid h c = .ok ()) :
    vals.length = c.precommits.length ∧
    ∃ r, AllSlotsGood verify chain h r vals c.precommits ∧ 3 * countedPower bid vals c.precommits > 2 * sumPowers vals := by
  obtain ⟨hlen, _, hg, hq⟩ := (verifyCommit_ok_iff hno).1 hok
  exact ⟨hlen, _, hg, hq⟩

/-- COMPLETENESS (the check is not vacuous by always rejecting): a well-formed commit with > 2/3 is accepted -/
theorem verifyCommit_complete (verify : Verify) (vals : List Val) (chain : List UInt8) (bid : BlockID) (h : Nat) (c : Commit)
    (hno : NoOverflow vals) (hlen : vals.length = c.precommits.length) (hh : h = Model.Commit.height c)
    (hgood : AllSlotsGood verify chain h (Model.Commit.round c) vals c.precommits)
    (hq : 3 * countedPower bid vals c.precommits > 2 * sumPowers vals) :
    verifyCommit verify vals chain bid h c = .ok () :=
  (verifyCommit_ok_iff hno).2 ⟨hlen, hh, hgood, hq⟩

/-- An ideal signature scheme: `signedBy k m` = "the holder of key `k` signed message `m`".
Unforgeability is a HYPOTHESIS about `verify` (a structure field), listed in the trusted base. -/
structure IdealSig (verify : Verify) (signedBy : Nat → Msg → Prop) : Prop where
  unforgeable : ∀ k m s, verify k m s = true → signedBy k m

/-- the property clause for block validation / fast sync / LastCommit reconstruction, in the property's own words -/
theorem commit_needs_two_thirds_signers (verify : Verify) (signedBy : Nat → Msg → Prop) (I : IdealSig verify signedBy)
    (vals : List Val) (chain : List UInt8) (bid : BlockID) (h : Nat) (c : Commit)
    (hno : NoOverflow vals) (hok : verifyCommit verify vals chain bid h c = .ok ()) :
    ∃ r, (∀ (i : Nat) (val : Val) (v : Vote), vals[i]? = some val → c.precommits[i]? = some (some v) →
            v.height = h ∧ v.round = r ∧ v.type = typePrecommit ∧ signedBy val.key (msgOf chain v)) ∧
         3 * countedPower bid vals c.precommits > 2 * sumPowers vals := by
  obtain ⟨_, r, hg, hq⟩ := verifyCommit_sound verify vals chain bid h c hno hok
  refine ⟨r, ?_, hq⟩
  intro i val v hv hp
  obtain ⟨hh, hr, ht, hsig⟩ := allSlotsGood_get hg hv hp
  exact ⟨hh, hr, ht, I.unforgeable _ _ _ hsig⟩

/-- the symbolic scheme used by the driver, with the reading of `signedBy` that asks nothing (any scheme is ideal for it);
what a verifying symbolic signature says — the value names this key and this message — is `symVerify_iff` -/
theorem symVerify_ideal : IdealSig symVerify (fun _ _ => True) := ⟨fun _ _ _ _ => trivial⟩

theorem symVerify_iff (k : Nat) (m : Msg) (s : Sig) : symVerify k m s = true ↔ s = Sig.signed k m := by
  simp [symVerify]

/-- the sixth component of `Msg`, the canonical time, is not a field of `Vote` and is not in the conclusion -/
theorem msg_binds (c c' : List UInt8) (v v' : Vote) (h : msgOf c v = msgOf c' v') :
    c = c' ∧ v.height = v'.height ∧ v.round = v'.round ∧ v.type = v'.type ∧ v.bid = v'.bid := by
  simp only [msgOf, Msg.mk.injEq] at h
  obtain ⟨hc, hh, hr, ht, hb, _⟩ := h
  exact ⟨hc, hh, hr, ht, hb⟩

/-- OPEN (stated, not proved at full strength): the canonical-JSON rendering is injective on its domain (ASCII chain id,
32-byte block hash, time within years 1..9999), so identifying a signed payload with the tuple `Msg` loses nothing.
PROVED PARTIAL: `signBytes_binds_step_fields` (Props/C03SignBytes.lean): for a fixed block id and canonical time the
sign-bytes determine chain id (through Go's JSON escaping), height, round and type; `signBytes_binds_block_hash`
(Props/C03BlockId.lean): for votes for a block, the sign-bytes determine chain id and block hash with no assumption on the
other fields; `signBytes_nil_vs_block`: nil votes and block votes never share sign-bytes; `signBytes_binds_parts_hash`
(Props/C03Parts.lean): with a non-empty parts hash on both sides the parts hash is determined too.  What stays open is the parts
total, the empty-vs-present parts hash distinction (fields omitted when zero) and the time rendering; those are tied only by the
byte-for-byte comparison of `signBytes` with `Vote.SignBytes` (op `signbytes`) and the monitor `signbytes_binds`. -/
def C03_signBytes_binds_statement : Prop :=
  ∀ m m' : Msg, (∀ b ∈ m.chain ++ m'.chain, b.toNat < 128) → m.bid.hash.length = 32 → m'.bid.hash.length = 32 →
    (-62135596800000 ≤ m.tsMs ∧ m.tsMs < 253402300800000) → (-62135596800000 ≤ m'.tsMs ∧ m'.tsMs < 253402300800000) →
    signBytes m = signBytes m' → m = m'

/-! ### Non-vacuity: a concrete accepted commit (3 of 4 equal validators), and one that is rejected (2 of 3) -/

def exVals (n : Nat) : List Val := (List.range n).map (fun i => { addr := [UInt8.ofNat i], kaddr := [UInt8.ofNat i], key := i, power := 1 })
def exB : BlockID := ⟨zeroHash, 1, [1]⟩
def exVote (i : Nat) (b : BlockID) : Vote :=
  let v : Vote := { id := i, addr := [UInt8.ofNat i], idx := i, size := 4, height := 5, round := 0, tsSec := 0, tsNsec := 0, type := 2, bid := b, sig := .nil }
  { v with sig := .signed i (msgOf [99] v) }

/-- `none` = accepted -/
def verdict (e : Except VErr Unit) : Option VErr := match e with | .ok _ => none | .error x => some x

example : verdict (verifyCommit symVerify (exVals 4) [99] exB 5 ⟨exB, [some (exVote 0 exB), some (exVote 1 exB), none, some (exVote 3 exB)]⟩) = none := by decide
example : verdict (verifyCommit symVerify (exVals 3) [99] exB 5 ⟨exB, [some (exVote 0 exB), some (exVote 1 exB), none]⟩) = some .power := by decide
example : verdict (verifyCommit symVerify (exVals 4) [98] exB 5 ⟨exB, [some (exVote 0 exB), some (exVote 1 exB), none, some (exVote 3 exB)]⟩) = some .sig := by decide
/-- a precommit of validator 1 placed in slot 0 does not verify there -/
example : verdict (verifyCommit symVerify (exVals 4) [99] exB 5 ⟨exB, [some (exVote 1 exB), some (exVote 1 exB), none, some (exVote 3 exB)]⟩) = some .sig := by decide
example : NoOverflow (exVals 4) := by refine ⟨by decide, by decide⟩

/-! ### Duplicate-vote evidence is evidence of equivocation only -/

/-- evidence is accepted exactly when the two votes are two correctly signed votes of ONE validator (address, index, the
key the address belongs to) for the same height, round and TYPE and for different blocks — a prevote and a precommit of
one round, or two votes for the same block, never count -/
theorem dupev_ok_iff (verify : Verify) (chain : List UInt8) (key : Nat) (kaddr : List UInt8) (a b : Vote) :
    dupEvVerify verify chain key kaddr a b = .ok ↔
      (a.height = b.height ∧ a.round = b.round ∧ a.type = b.type ∧ a.addr = b.addr ∧ a.idx = b.idx ∧ a.bid ≠ b.bid ∧
       kaddr = a.addr ∧ verify key (msgOf chain a) a.sig = true ∧ verify key (msgOf chain b) b.sig = true) := by
  unfold dupEvVerify
  rw [guard_eq_iff (by nofun), guard_eq_iff (by nofun), guard_eq_iff (by nofun), guard_eq_iff (by nofun),
    guard_eq_iff (by nofun), guard_eq_iff (by nofun), guard_eq_iff (by nofun)]
  simp only [not_or, Decidable.not_not, Bool.not_eq_true', Bool.not_eq_false, and_true, and_assoc, ne_eq]

/-- under the ideal signature functionality: accepted evidence means the key holder signed two different blocks in one step -/
theorem dupev_sound (chain : List UInt8) (key : Nat) (kaddr : List UInt8) (a b : Vote)
    (h : dupEvVerify symVerify chain key kaddr a b = .ok) :
    a.sig = .signed key (msgOf chain a) ∧ b.sig = .signed key (msgOf chain b) ∧
    (msgOf chain a).height = (msgOf chain b).height ∧ (msgOf chain a).round = (msgOf chain b).round ∧
    (msgOf chain a).type = (msgOf chain b).type ∧ (msgOf chain a).bid ≠ (msgOf chain b).bid := by
  obtain ⟨e1, e2, e3, _, _, e6, _, s1, s2⟩ := (dupev_ok_iff symVerify chain key kaddr a b).mp h
  simp only [symVerify, decide_eq_true_eq] at s1 s2
  exact ⟨s1, s2, e1, e2, e3, e6⟩

example : dupEvVerify symVerify [99] 1 [1] (exVote 1 exB) (exVote 1 ⟨zeroHash, 2, [2]⟩) = .ok := by decide
/-- a prevote and a precommit of the same round are no evidence -/
example : dupEvVerify symVerify [99] 1 [1] (exVote 1 exB)
    (let v : Vote := { (exVote 1 ⟨zeroHash, 2, [2]⟩) with type := 1 }; { v with sig := .signed 1 (msgOf [99] v) }) = .hrs := by decide

end Props.C03
