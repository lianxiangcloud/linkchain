/-
C09: `revert_exact` — for every sequence of mutators interleaved with arbitrarily nested snapshot/revert pairs,
`RevertToSnapshot(id)` succeeds and restores every observable to its value at `Snapshot()`; `revert_exact_any` — with reverts to
arbitrary ids it panics or does so.
-/
import LinkVerif.Props.C09Ops

namespace Props.C09
open Model.StateDB

inductive Step where
  | op (o : Op)
  | snap
  | revert (id : Nat)

/-- a failed `RevertToSnapshot` panics before touching anything -/
def stepCtx (cfg : Cfg) (c : Ctx) : Step → Ctx
  | .op o => applyOp cfg c o
  | .snap => (snapshot c).1
  | .revert id => (revertTo c id).getD c

def run (cfg : Cfg) (c : Ctx) (steps : List Step) : Ctx := steps.foldl (stepCtx cfg) c

/-- the side condition of `Suicide` holds wherever it is executed -/
def Safe (cfg : Cfg) : Ctx → List Step → Prop
  | _, [] => True
  | c, s :: rest => (match s with
      | .op o => SafeOp c o
      | _ => True) ∧ Safe cfg (stepCtx cfg c s) rest

/-- inner reverts target snapshots taken after the outer one (ids are handed out increasingly) -/
def WellNested (id : Nat) : List Step → Prop
  | [] => True
  | .revert i :: rest => id < i ∧ WellNested id rest
  | _ :: rest => WellNested id rest

theorem WellNested.cons {id : Nat} {s : Step} {rest : List Step} (h : WellNested id (s :: rest)) :
    WellNested id [s] ∧ WellNested id rest := by
  cases s with
  | op o => exact ⟨trivial, h⟩
  | snap => exact ⟨trivial, h⟩
  | revert i => exact ⟨⟨h.1, trivial⟩, h.2⟩

/-- shape of `validRevisions` above the outer snapshot `(id, J)`: newer ids, journal indices not below `J` -/
inductive Stack (J id : Nat) (B : List (Nat × Nat)) : List (Nat × Nat) → Prop
  | base : Stack J id B ((id, J) :: B)
  | cons {i j : Nat} {rest : List (Nat × Nat)} : id < i → J ≤ j → Stack J id B rest → Stack J id B ((i, j) :: rest)

theorem Stack.find_outer {J id B l} (h : Stack J id B l) : findRev id l = some (J, B) := by
  induction h with
  | base => simp [findRev]
  | cons h1 _ _ ih =>
    simp only [findRev]
    rw [if_neg (by omega)]
    exact ih

theorem findRev_sub {i j : Nat} {l older : List (Nat × Nat)} (h : findRev i l = some (j, older)) :
    (i, j) ∈ l ∧ ∀ p ∈ older, p ∈ l := by
  induction l with
  | nil => simp [findRev] at h
  | cons q rest ih =>
    obtain ⟨i', j'⟩ := q
    simp only [findRev] at h
    split at h
    · next heq => cases h; exact ⟨by simp [heq], fun p hp => List.mem_cons_of_mem _ hp⟩
    · exact ⟨List.mem_cons_of_mem _ (ih h).1, fun p hp => List.mem_cons_of_mem _ ((ih h).2 p hp)⟩

theorem Stack.find {J id B l i j older} (h : Stack J id B l) (hB : ∀ p ∈ B, p.1 < id) (hf : findRev i l = some (j, older)) :
    (id < i ∧ J ≤ j ∧ Stack J id B older) ∨ (i ≤ id ∧ ∀ p ∈ older, p ∈ B) := by
  induction h with
  | base =>
    simp only [findRev] at hf
    split at hf
    · next heq => cases hf; exact Or.inr ⟨Nat.le_of_eq heq.symm, fun _ hp => hp⟩
    · exact Or.inr ⟨Nat.le_of_lt (hB _ (findRev_sub hf).1), (findRev_sub hf).2⟩
  | cons h1 h2 h3 ih =>
    simp only [findRev] at hf
    split at hf
    · next heq => cases hf; exact Or.inl ⟨heq ▸ h1, h2, h3⟩
    · exact ih hf

theorem findRev_none_of_absent {id : Nat} {l : List (Nat × Nat)} (h : ∀ p ∈ l, p.1 ≠ id) : findRev id l = none := by
  induction l with
  | nil => rfl
  | cons q rest ih =>
    obtain ⟨i', j'⟩ := q
    simp only [findRev]
    rw [if_neg (h (i', j') (by simp))]
    exact ih (fun p hp => h p (List.mem_cons_of_mem _ hp))

theorem modObj_frame {es : List Entry} (c : Ctx) (a : Addr) (f : Obj → Obj) (hd : ∀ o, (f o).deleted = o.deleted)
    (ht : ∀ o, (f o).toks = o.toks) : Frame es c (modObj c a f) := by
  unfold modObj
  cases h : peek c.st a with
  | none => exact .refl c
  | some o => exact .put c a _ ((hd o).trans (peek_not_deleted h)) (fun hn _ => Inl_of_toks (ht o) (NSo_peek hn h))

theorem modTok_frame {es : List Entry} (c : Ctx) (a : Addr) (t : Tok) (v : Option Int) : Frame es c (modTok c a t v) := by
  cases h : peek c.st a with
  | none => simp only [modTok, h]; exact .refl c
  | some o => rw [modTok_of_peek h]; exact .writeTok c a t v h

theorem restoreToks_frame {es : List Entry} (c : Ctx) (a : Addr) (pos : Tok → Option Int) : Frame es c (restoreToks c a pos) := by
  cases h : peek c.st a with
  | none => simp only [restoreToks, h]; exact .refl c
  | some o =>
    have hnd := peek_not_deleted h
    cases ht : o.toks with
    | inl m => simp only [restoreToks, h, ht]; exact .put c a _ hnd (fun _ _ => ⟨_, rfl⟩)
    | shared r =>
      simp only [restoreToks, h, ht]
      refine ⟨Upd_putObj _ a o hnd, rfl, rfl, fun hn _ => ?_⟩
      obtain ⟨m, hm⟩ := NSo_peek hn h
      rw [ht] at hm; cases hm

theorem undo_frame (e : Entry) (c : Ctx) : Frame [e] c (undo e c) := by
  cases e with
  | createObject a =>
    refine ⟨⟨rfl, fun b => ?_⟩, rfl, rfl, fun hn _ => ⟨rfl, fun b o hb => ?_, id⟩⟩
    · by_cases hb : b = a
      · subst hb; exact Or.inr (Or.inl (by simp [undo]))
      · exact Or.inl (by simp [undo, hb])
    · by_cases hba : b = a
      · subst hba; simp [undo] at hb
      · simp [undo, hba] at hb; exact hn b o hb
  | resetObject a prev => exact .put c a _ rfl (fun _ hp => Inl_of_toks rfl (hp a prev (List.mem_singleton.mpr rfl)))
  | suicide a prev bp tp =>
    exact (modObj_frame (es := []) c a (fun o => { o with suicided := prev, balance := bp.getD o.balance }) (fun _ => rfl)
      (fun _ => rfl)).append (restoreToks_frame _ a tp)
  | balance a prev => exact modObj_frame c a _ (fun _ => rfl) (fun _ => rfl)
  | nonce a prev => exact modObj_frame c a _ (fun _ => rfl) (fun _ => rfl)
  | credits a prev => exact modObj_frame c a _ (fun _ => rfl) (fun _ => rfl)
  | storage a k prev => exact modObj_frame c a _ (fun _ => rfl) (fun _ => rfl)
  | code a prev => exact modObj_frame c a _ (fun _ => rfl) (fun _ => rfl)
  | refund prev => exact .st c _ rfl
  | addLog tx => exact .st c _ rfl
  | touch a => exact .refl c
  | addPreimage p => exact .st c _ rfl
  | tokenBalance a t prev => exact modTok_frame c a t prev

theorem undoList_frame (es : List Entry) (c : Ctx) : Frame es c (undoList es c) := by
  induction es generalizing c with
  | nil => exact .refl c
  | cons e rest ih => exact (undo_frame e c).append (ih _)

theorem revertJournal_eq (n : Nat) (l : List Entry) (c : Ctx) :
    revertJournal n l c =
      { undoList (l.take (l.length - n)) c with
        st := { (undoList (l.take (l.length - n)) c).st with journal := l.drop (l.length - n) } } := by
  induction l generalizing c with
  | nil => simp [revertJournal, undoList]
  | cons e rest ih =>
    simp only [revertJournal]
    split
    · next hle => rw [Nat.sub_eq_zero_of_le hle]; rfl
    · next hgt => rw [List.length_cons, Nat.succ_sub (Nat.le_of_lt_succ (Nat.lt_of_not_le hgt)), ih]; rfl

theorem revertJournal_journal (n : Nat) (l : List Entry) (c : Ctx) :
    (revertJournal n l c).st.journal = l.drop (l.length - n) := by
  rw [revertJournal_eq]

theorem revertJournal_frame (n : Nat) (c : Ctx) :
    Frame (c.st.journal.take (c.st.journal.length - n)) c (revertJournal n c.st.journal c) := by
  have h := undoList_frame (c.st.journal.take (c.st.journal.length - n)) c
  rw [revertJournal_eq]
  refine ⟨h.upd, h.revs, h.nextRev, fun hn hp => ?_⟩
  obtain ⟨h1, h2, _⟩ := h.priv hn hp
  exact ⟨h1, h2, fun hj a p hm => hj a p (List.mem_of_mem_drop hm)⟩

theorem revertJournal_length {n : Nat} {l : List Entry} (h : n ≤ l.length) (c : Ctx) :
    (revertJournal n l c).st.journal.length = n := by
  rw [revertJournal_journal, List.length_drop, Nat.sub_sub_self h]

theorem stepCtx_revert {P : Ctx → Prop} (cfg : Cfg) (c : Ctx) (i : Nat) (h0 : P c)
    (h1 : ∀ j older, findRev i c.st.revs = some (j, older) →
      P { revertJournal j c.st.journal c with st := { (revertJournal j c.st.journal c).st with revs := older } }) :
    P (stepCtx cfg c (.revert i)) := by
  simp only [stepCtx, revertTo]
  cases hf : findRev i c.st.revs with
  | none => exact h0
  | some p => exact h1 p.1 p.2 hf

/-- The invariant of a history that started with `Snapshot()` in `c`: the outer revision is `(c.st.nextRev, c.st.journal.length)`,
still on the stack of the present context `c'` with only newer revisions above it. -/
structure Inv (c c' : Ctx) : Prop where
  ext : Ext c c'
  stack : Stack c.st.journal.length c.st.nextRev c.st.revs c'.st.revs
  next : c.st.nextRev < c'.st.nextRev

/-- the outer snapshot id is no longer on the revision stack, and can never come back (ids are handed out increasingly) -/
def Gone (c c' : Ctx) : Prop := (∀ p ∈ c'.st.revs, p.1 ≠ c.st.nextRev) ∧ c.st.nextRev < c'.st.nextRev

theorem Ext.journal_len {c c' : Ctx} (h : Ext c c') : c.st.journal.length ≤ c'.st.journal.length := by
  obtain ⟨es, hj, _⟩ := h.jr
  rw [hj]; simp

theorem Ext.setRevs {c c' : Ctx} (h : Ext c c') (r : List (Nat × Nat)) : Ext c { c' with st := { c'.st with revs := r } } := by
  obtain ⟨es, he, ha⟩ := h.jr
  refine ⟨h.upd, es, he, Eq.trans (abs_undoList_congr es ?_) ha⟩
  rfl

theorem Ext.abs_eq {c c' : Ctx} (h : Ext c c') (hl : c'.st.journal.length = c.st.journal.length) : abs c' = abs c := by
  obtain ⟨es, hj, ha⟩ := h.jr
  rw [hj, List.length_append] at hl
  have : es = [] := List.eq_nil_of_length_eq_zero (by omega)
  subst this
  exact ha

/-- the entries that remain are a suffix of the added ones, and undoing the rest completes the undo already performed -/
theorem Ext.revert {c c' : Ctx} (h : Ext c c') {j : Nat} (hj : c.st.journal.length ≤ j) :
    Ext c (revertJournal j c'.st.journal c') := by
  obtain ⟨es, hes, habs⟩ := h.jr
  have hfr := revertJournal_frame j c'
  rw [revertJournal_eq] at hfr ⊢
  generalize hk : c'.st.journal.length - j = k at hfr ⊢
  have hke : k ≤ es.length := by rw [hes, List.length_append] at hk; omega
  refine ⟨h.upd.trans hfr.upd, es.drop k, ?_, ?_⟩
  · show c'.st.journal.drop k = es.drop k ++ c.st.journal
    rw [hes, List.drop_append_of_le_length hke]
  · -- the journal field is invisible to `abs`
    refine Eq.trans (abs_undoList_congr (es.drop k) (c' := undoList (c'.st.journal.take k) c') ?_) ?_
    · rfl
    · rw [hes, List.take_append_of_le_length hke, ← undoList_append, List.take_append_drop]
      exact habs

theorem Inv_snapshot (c : Ctx) : Inv c (snapshot c).1 :=
  ⟨Ext.neutral ⟨rfl, fun _ => Or.inl rfl⟩ rfl rfl, .base, Nat.lt_succ_self _⟩

theorem Gone_step (cfg : Cfg) {c c' : Ctx} (h : Gone c c') (s : Step) : Gone c (stepCtx cfg c' s) := by
  cases s with
  | op o =>
    have hf := applyOp_frame cfg c' o
    simp only [stepCtx, Gone]; rw [hf.revs, hf.nextRev]; exact h
  | snap =>
    refine ⟨?_, Nat.lt_succ_of_lt h.2⟩
    intro p hp
    simp only [stepCtx, snapshot] at hp
    rcases List.mem_cons.mp hp with hp | hp
    · subst hp; exact Nat.ne_of_gt h.2
    · exact h.1 p hp
  | revert i =>
    exact stepCtx_revert (P := Gone c) cfg c' i h (fun j older hf =>
      ⟨fun p hp => h.1 p ((findRev_sub hf).2 p hp), Nat.lt_of_lt_of_eq h.2 (revertJournal_frame j c').nextRev.symm⟩)

theorem Gone_run (cfg : Cfg) {c c' : Ctx} (h : Gone c c') (steps : List Step) : Gone c (run cfg c' steps) :=
  List.foldlRecOn steps _ (motive := Gone c) h (fun _ h s _ => Gone_step cfg h s)

section
variable (cfg : Cfg) {c : Ctx} (hw : WF c.st) (hB : ∀ p ∈ c.st.revs, p.1 < c.st.nextRev)
include hw hB

/-- a step keeps the invariant, unless it is a revert to the outer snapshot or below: then the outer id is gone -/
theorem Inv_step {c' : Ctx} (h : Inv c c') (s : Step)
    (hs : match s with
      | .op o => SafeOp c' o
      | _ => True) :
    Inv c (stepCtx cfg c' s) ∨ (Gone c (stepCtx cfg c' s) ∧ ¬ WellNested c.st.nextRev [s]) := by
  cases s with
  | op o =>
    have hf := applyOp_frame cfg c' o
    refine Or.inl ⟨Ext.trans h.ext (applyOp_ext cfg c' o (WF_of_Upd hw h.ext.upd) hs), ?_, ?_⟩
    · simp only [stepCtx]; rw [hf.revs]; exact h.stack
    · simp only [stepCtx]; rw [hf.nextRev]; exact h.next
  | snap =>
    exact Or.inl ⟨Ext.trans h.ext (Ext.neutral ⟨rfl, fun _ => Or.inl rfl⟩ rfl rfl), .cons h.next h.ext.journal_len h.stack,
      Nat.lt_succ_of_lt h.next⟩
  | revert i =>
    refine stepCtx_revert (P := fun x => Inv c x ∨ (Gone c x ∧ ¬ WellNested c.st.nextRev [.revert i])) cfg c' i (Or.inl h)
      (fun j older hf => ?_)
    have hnext := Nat.lt_of_lt_of_eq h.next (revertJournal_frame j c').nextRev.symm
    rcases h.stack.find hB hf with ⟨_, hj, hst⟩ | ⟨hi, hlow⟩
    · exact Or.inl ⟨(h.ext.revert hj).setRevs older, hst, hnext⟩
    · exact Or.inr ⟨⟨fun p hp => Nat.ne_of_lt (hB p (hlow p hp)), hnext⟩, fun hn => absurd hn.1 (Nat.not_lt.mpr hi)⟩

theorem Inv_run (steps : List Step) : ∀ c', Inv c c' → Safe cfg c' steps →
    Inv c (run cfg c' steps) ∨ (Gone c (run cfg c' steps) ∧ ¬ WellNested c.st.nextRev steps) := by
  induction steps with
  | nil => exact fun c' h _ => Or.inl h
  | cons s rest ih =>
    intro c' h hs
    rcases Inv_step cfg hw hB h s hs.1 with h' | ⟨hg, hb⟩
    · exact (ih _ h' hs.2).imp id (fun r => ⟨r.1, fun hn => r.2 hn.cons.2⟩)
    · exact Or.inr ⟨Gone_run cfg hg rest, fun hn => hb hn.cons.1⟩

end

theorem Inv_final {c cf : Ctx} (h : Inv c cf) : ∃ c2, revertTo cf c.st.nextRev = some c2 ∧ obs c2 = obs c := by
  simp only [revertTo, h.stack.find_outer]
  exact ⟨_, rfl, obs_of_abs ((h.ext.revert (Nat.le_refl _)).abs_eq (revertJournal_length h.ext.journal_len cf))⟩

theorem Gone_final {c cf : Ctx} (h : Gone c cf) : revertTo cf c.st.nextRev = none := by
  simp [revertTo, findRev_none_of_absent h.1]

/-- **C09, first clause.**  Take a snapshot, run ANY sequence of mutators, nested snapshots and reverts to those nested
snapshots: `RevertToSnapshot(id)` succeeds and every observable named in the property (balances, token balances, nonces,
credits, code, storage, logs, refund counter, self-destruct marks, existence, emptiness) has the value it had at `Snapshot()`.
Holds for every configuration (pinned, current, repaired).  Without `WellNested`: `revert_exact_any` (below);
without the privacy half of `Safe` on the current tree: `revert_exact_ns` (Props/C09World.lean). -/
theorem revert_exact (cfg : Cfg) (c : Ctx) (hw : WF c.st) (hB : ∀ p ∈ c.st.revs, p.1 < c.st.nextRev) (steps : List Step)
    (hs : Safe cfg (snapshot c).1 steps) (hn : WellNested (snapshot c).2 steps) :
    ∃ c2, revertTo (run cfg (snapshot c).1 steps) (snapshot c).2 = some c2 ∧ obs c2 = obs c :=
  (Inv_run cfg hw hB steps _ (Inv_snapshot c) hs).elim Inv_final (fun h => absurd hn h.2)

/-- **C09, first clause, arbitrary revision ids.**  Whatever ids the intermediate `RevertToSnapshot` calls use — inner snapshots,
the outer snapshot itself, snapshots older than the outer one, ids never issued (an unknown id panics and changes nothing) — the
outer `RevertToSnapshot(id)` panics (`revertTo … = none`: the id was consumed by an earlier revert to it or below it) or restores
every observable to its value at `Snapshot()`. -/
theorem revert_exact_any (cfg : Cfg) (c : Ctx) (hw : WF c.st) (hB : ∀ p ∈ c.st.revs, p.1 < c.st.nextRev) (steps : List Step)
    (hs : Safe cfg (snapshot c).1 steps) :
    revertTo (run cfg (snapshot c).1 steps) (snapshot c).2 = none ∨
    ∃ c2, revertTo (run cfg (snapshot c).1 steps) (snapshot c).2 = some c2 ∧ obs c2 = obs c :=
  (Inv_run cfg hw hB steps _ (Inv_snapshot c) hs).elim (fun h => Or.inr (Inv_final h)) (fun h => Or.inl (Gone_final h.1))

end Props.C09
