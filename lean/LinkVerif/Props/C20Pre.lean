/-
C20 — the precompiled contracts are metered exactly: what `RunPrecompiledContract` charges is `RequiredGas(input)`, a pure
function of the input that the model transcribes (`Model.Evm.Pre`), and a call that cannot pay runs nothing and charges
nothing at this level.  The Go bodies of the eight
`RequiredGas` methods are pinned by hash (regenerated on every check), the prices and the two exported sets are regenerated.
-/
import LinkVerif.Model.Evm

namespace Props.C20Pre
open Model.Evm.Pre Gen.EvmTable

/-- **charged = required**: a precompile that runs leaves exactly `gas − RequiredGas(input)` -/
theorem pre_charged_exact (gas req left : Nat) (h : runPre gas req = some left) : left + req = gas := by
  unfold runPre at h
  split at h
  · cases h
  · cases h; omega

/-- **out of gas runs nothing**: the contract is not run iff the gas is below the price, and then nothing is deducted -/
theorem pre_oog_iff (gas req : Nat) : runPre gas req = none ↔ gas < req := by
  unfold runPre
  split <;> simp_all

theorem pre_never_gains (gas req left : Nat) (h : runPre gas req = some left) : left ≤ gas := by
  have := pre_charged_exact gas req left h; omega

/-- the word-priced contracts (sha256, ripemd160, identity) cost more for longer input, and at least the base price -/
theorem wordGas_mono (base perWord a b : Nat) (h : a ≤ b) : wordGas base perWord a ≤ wordGas base perWord b := by
  unfold wordGas
  have : (a + 31) / 32 ≤ (b + 31) / 32 := Nat.div_le_div_right (by omega)
  have := Nat.mul_le_mul_right perWord this
  omega

theorem wordGas_ge_base (base perWord len : Nat) : base ≤ wordGas base perWord len := by
  unfold wordGas; omega

/-- modexp's price never exceeds MaxUint64 (the cap `if gas.BitLen() > 64 { return math.MaxUint64 }`), whatever the headers -/
theorem modexpGas_le_cap (input : List UInt8) : modexpGas input ≤ 2 ^ 64 - 1 := by
  unfold modexpGas
  simp only []
  generalize multComplexity _ * _ / _ = g
  unfold capU64
  split <;> omega

/-- a price of MaxUint64 cannot be paid by any uint64 gas below it: such a call runs nothing -/
theorem modexp_cap_unpayable (gas : Nat) (input : List UInt8) (h : modexpGas input = 2 ^ 64 - 1) (hg : gas < 2 ^ 64 - 1) :
    runPre gas (modexpGas input) = none := by
  rw [pre_oog_iff, h]; exact hg

/-- pairing: the base price and one per-point price for every full 192 bytes of input -/
theorem pairing_price (len : Nat) :
    requiredGas "bn256Pairing" (List.replicate len 0) = some (bn256PairingBaseGas + len / 192 * bn256PairingPerPointGas) := by
  simp [requiredGas]

/-- evm.go (run, Call, UTXOCall) consults only the Homestead set -/
theorem set_in_use : precompileSetInUse = "PrecompiledContractsHomestead" := rfl

/-- that set is exactly ecrecover, sha256, ripemd160, identity at addresses 1..4: modexp and the bn256 contracts (5..8 of the
    Byzantium set) are NOT reachable from contract code in this tree (the harness drives them through the exported map) -/
theorem homestead_addresses : precompiledContractsHomestead.map (·.1) = [1, 2, 3, 4] := by decide
theorem byzantium_addresses : precompiledContractsByzantium.map (·.1) = [1, 2, 3, 4, 5, 6, 7, 8] := by decide

/-- every contract type of both sets has a transcribed price -/
theorem every_type_priced :
    (precompiledContractsHomestead ++ precompiledContractsByzantium).all (fun p => (requiredGas p.2 []).isSome) = true := by decide +kernel

/-- the Go bodies the transcription was made from (a change of any `RequiredGas` breaks these and is reviewed) -/
theorem body_ecrecover : requiredGasBody_ecrecover = "f763715f36860f1fa6dc40815293819764a5119d1554ec2f91430f0bdbdc2492" := rfl
theorem body_sha256 : requiredGasBody_sha256hash = "bfa23f79fbfb33e33e46d005c27e967466bd77189c3041457dae31dbf598d638" := rfl
theorem body_ripemd160 : requiredGasBody_ripemd160hash = "8fa3f121ee5f880f2dac4258d6d6e6c52bd3ec3134a1f0ee7ffd1e87d20678dc" := rfl
theorem body_dataCopy : requiredGasBody_dataCopy = "8cd69b6cd781bf88f68497d751afee78fecc124bbaa9f2b70861c2d3a8212ac5" := rfl
theorem body_bigModExp : requiredGasBody_bigModExp = "30ea6157171174144e9375975dab5cc79d6f5873265a4e8c9bf0180340450840" := rfl
theorem body_bn256Add : requiredGasBody_bn256Add = "1f2fab588c4e6968dd4b4551431159990299c97b2f0f97cf683f8a17eae4b238" := rfl
theorem body_bn256ScalarMul : requiredGasBody_bn256ScalarMul = "9048db10854a1cff1b3207b4bf592d5a282d8cc0e50135312fd029e29c5850e0" := rfl
theorem body_bn256Pairing : requiredGasBody_bn256Pairing = "716ce77f387784199cceae460f2e7c11d50fd48e29494fbf472a8ab3b0efa11e" := rfl

example : runPre 3000 ecrecoverGas = some 0 := by decide
example : runPre 2999 ecrecoverGas = none := by decide
example : wordGas sha256BaseGas sha256PerWordGas 33 = 84 := by decide
example : multComplexity 64 = 4096 ∧ multComplexity 65 = 4224 ∧ multComplexity 1025 = 357984 := by decide

end Props.C20Pre
