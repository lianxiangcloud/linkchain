/-
C01, link between the node layer (L-B) and the abstract protocol (L-A): a +2/3 majority recorded in a node's own vote set
(`maj23`, backed by `maj23_has_quorum`) IS a polka / commit quorum of `Model.Protocol` over any global history that contains the
votes the node has recorded (`Seen`: what the network delivered was sent — signatures are unforgeable).
-/
import LinkVerif.Props.C01Node
import LinkVerif.Props.C01Agreement

namespace Props.C01Node
open Model.Node Model.Protocol

/-- the L-A configuration of a node's validator set: validators `0..n-1` with the node's power table -/
def cfgOf (powers : List Nat) (byz : Nat → Bool) : Cfg :=
  { vals := List.range powers.length, power := fun i => powers.getD i 0, byz := byz }

/-- block numbers of the node model as L-A values: `0` is nil -/
def optV (v : Nat) : Option Nat := if v = 0 then none else some v

theorem sum_le_of_subset (f : Nat → Nat) : ∀ (who L : List Nat), who.Nodup → (∀ i ∈ who, i ∈ L) → (who.map f).sum ≤ (L.map f).sum
  | [], _, _, _ => by simp
  | a :: rest, L, hn, hs => by
    have hn' := List.nodup_cons.1 hn
    have ih := sum_le_of_subset f rest (L.erase a) hn'.2 fun i hi =>
      (List.mem_erase_of_ne (fun e => hn'.1 (e ▸ hi) : i ≠ a)).2 (hs i (List.mem_cons_of_mem _ hi))
    have hp := ((List.perm_cons_erase (hs a List.mem_cons_self)).map f).sum_nat
    simp only [List.map_cons, List.sum_cons] at hp ⊢
    omega

theorem range_getD (l : List Nat) : (List.range l.length).map (fun i => l.getD i 0) = l := by
  apply List.ext_getElem
  · simp
  · intro i h1 h2
    simp at h1
    simp [List.getD_eq_getElem?_getD, h1]

theorem total_cfgOf (powers : List Nat) (byz : Nat → Bool) : total (cfgOf powers byz) = powers.sum := by
  unfold total pow cfgOf
  have : (List.range powers.length).filter (fun _ => true) = List.range powers.length := by simp
  simp only [this]
  rw [range_getD]

theorem powSum_le_pow (powers : List Nat) (byz : Nat → Bool) (pred : Nat → Bool) (who : List Nat) (hn : who.Nodup)
    (hw : ∀ i ∈ who, i < powers.length ∧ pred i = true) : powSum powers who ≤ pow (cfgOf powers byz) pred := by
  unfold pow cfgOf powSum
  exact sum_le_of_subset _ who _ hn fun i hi => List.mem_filter.2 ⟨List.mem_range.2 (hw i hi).1, (hw i hi).2⟩

/-- the global history `p` contains every vote the node's table has recorded (`mk` = `Event.prevote` / `Event.precommit`):
what was delivered had been sent — the network does not invent votes and signatures are unforgeable -/
def Seen (mk : Nat → Nat → Option Nat → Event) (p : List Event) (tbl : Nat → VSet) : Prop :=
  ∀ r v bv i, alookup (tbl r).byBlock v = some bv → i ∈ bv.who → mk i r (optV v) ∈ p

theorem maj23_gives_polka (powers : List Nat) (byz : Nat → Bool) (p : List Event) (tbl : Nat → VSet) (r v : Nat)
    (hok : VOK powers (tbl r)) (hm : (tbl r).maj23 = some v) (hs : Seen Event.prevote p tbl) :
    polka (cfgOf powers byz) p r (optV v) = true ∧ ∃ n, Event.prevote n r (optV v) ∈ p := by
  obtain ⟨who, hn, hlt, ⟨bv, hb, hwho⟩, hq⟩ := maj23_has_quorum hok hm
  have hmem : ∀ i ∈ who, Event.prevote i r (optV v) ∈ p := fun i hi => hs r v bv i hb (by rw [hwho]; exact hi)
  constructor
  · rw [Props.C01.polka_iff, total_cfgOf]
    have := powSum_le_pow powers byz (prevoted p r (optV v)) who hn
      (fun i hi => ⟨hlt i hi, Props.C01.prevoted_iff.2 (hmem i hi)⟩)
    omega
  · cases who with
    | nil => simp [powSum] at hq
    | cons a rest => exact ⟨a, hmem a (by simp)⟩

theorem maj23_gives_commitQuorum (powers : List Nat) (byz : Nat → Bool) (p : List Event) (tbl : Nat → VSet) (r v : Nat) (hv : v ≠ 0)
    (hok : VOK powers (tbl r)) (hm : (tbl r).maj23 = some v) (hs : Seen Event.precommit p tbl) :
    commitQuorum (cfgOf powers byz) p r v = true := by
  obtain ⟨who, hn, hlt, ⟨bv, hb, hwho⟩, hq⟩ := maj23_has_quorum hok hm
  have hov : optV v = some v := by simp [optV, hv]
  have hmem : ∀ i ∈ who, Event.precommit i r (some v) ∈ p := fun i hi => by
    have := hs r v bv i hb (by rw [hwho]; exact hi); rwa [hov] at this
  rw [Props.C01.commitQuorum_iff, total_cfgOf]
  have := powSum_le_pow powers byz (precommitted p r (some v)) who hn
    (fun i hi => ⟨hlt i hi, Props.C01.precommitted_iff.2 (hmem i hi)⟩)
  omega

/-- **d2 in L-A's words**: the node precommits a block only when the global history (containing what the node has seen) has a polka for it -/
theorem node_precommit_polka_in_history (s : St) (i : In) (hg : Good s) (ht : WellTimed s i) (byz : Nat → Bool) (p : List Event)
    (hs : Seen Event.prevote p (stepCore s i).pvs) (h r v : Nat)
    (hm : Out.vote tPrecommit h r v ∈ (stepCore s i).out) (hv : v ≠ 0) :
    polka (cfgOf s.powers byz) p r (some v) = true := by
  have hmaj := (node_precommit_needs_polka s i hg.1 ht h r v hm hv).2
  have := (maj23_gives_polka s.powers byz p _ r v (stepCore_tables s i hg ht r).1 hmaj hs).1
  simpa [optV, hv] using this

/-- **d4 in L-A's words**: the node commits a block only when the global history has a commit quorum for it in that round -/
theorem node_commit_quorum_in_history (s : St) (i : In) (hg : Good s) (ht : WellTimed s i) (byz : Nat → Bool) (p : List Event)
    (hs : Seen Event.precommit p (stepCore s i).pcs) (h r v : Nat) (hm : Out.commit h r v ∈ (stepCore s i).out) :
    commitQuorum (cfgOf s.powers byz) p r v = true := by
  obtain ⟨_, hv, hmaj⟩ := node_commit_needs_precommits s i hg.1 ht h r v hm
  exact maj23_gives_commitQuorum s.powers byz p _ r v hv (stepCore_tables s i hg ht r).2 hmaj hs

theorem released_gives_unlockingPolka (powers : List Nat) (byz : Nat → Bool) (p : List Event) (tbl : Nat → VSet) (b r0 r' : Nat)
    (hok : ∀ q, VOK powers (tbl q)) (hs : Seen Event.prevote p tbl) (hrel : Released tbl b r0 r') :
    unlockingPolka (cfgOf powers byz) p b r0 r' = true := by
  obtain ⟨r'', x, h1, h2, h3, h4⟩ := hrel
  obtain ⟨hpol, n, hn⟩ := maj23_gives_polka powers byz p tbl r'' x (hok r'') h3 hs
  have hne : (optV x != some b) = true := by
    unfold optV; split
    · simp
    · simpa using h4
  unfold unlockingPolka
  rw [List.any_eq_true]
  exact ⟨_, hn, by simp [h1, h2, hne, hpol]⟩

/-- **d3 in L-A's words**: having precommitted block `b` at `(h, r0)`, the node later prevotes something else at `(h, r')` only when the
global history (containing what the node has seen) has an unlocking polka at a round in `(r0, r']` -/
theorem node_prevote_unlocking_polka_in_history (s0 : St) (is : List In) (i : In) (hg : Good s0) (ht : Timed s0 is)
    (hti : WellTimed (run s0 is) i) (byz : Nat → Bool) (p : List Event)
    (hs : Seen Event.prevote p (stepCore (run s0 is) i).pvs) (h r0 b r' v : Nat)
    (hpc : Out.vote tPrecommit h r0 b ∈ outs s0 is) (hb0 : b ≠ 0)
    (hpv : Out.vote tPrevote h r' v ∈ (stepCore (run s0 is) i).out) (hne : v ≠ b) :
    unlockingPolka (cfgOf (run s0 is).powers byz) p b r0 r' = true := by
  have hgr := run_Good is s0 hg ht
  rcases node_prevote_respects_precommits s0 is i hg.1 ht hti h r0 b r' v hpc hb0 hpv with e | hrel
  · exact absurd e hne
  · exact released_gives_unlockingPolka _ byz p _ b r0 r' (fun q => (stepCore_tables _ i hgr hti q).1) hs hrel

/-- executable form of `Seen` for the prevote tables of a state -/
def seenPvB (p : List Event) (s : St) : Bool :=
  s.rvs.all (fun x => x.2.pv.byBlock.all (fun y => y.2.who.all (fun i => p.contains (Event.prevote i x.1 (optV y.1)))))

theorem seen_of_B {p : List Event} {s : St} (h : seenPvB p s = true) : Seen Event.prevote p s.pvs := by
  intro r v bv i hb hi
  unfold St.pvs St.rv at hb
  cases hr : alookup s.rvs r with
  | none => rw [hr] at hb; simp [RV.empty, VSet.empty, alookup] at hb
  | some rv =>
    rw [hr] at hb
    simp only [seenPvB, List.all_eq_true] at h
    exact List.contains_iff_mem.1 (h _ (alookup_mem hr) _ (alookup_mem hb) i hi)

/-- the three prevotes of `exRun` as a global history -/
def exP : List Event := [.prevote 0 0 (some 7), .prevote 1 0 (some 7), .prevote 2 0 (some 7)]

/-- non-vacuity of the `…_in_history` theorems: on the concrete run the hypotheses (`Good`, `WellTimed`, `Seen`) hold and the node does
emit the precommit whose polka the theorem finds in the history -/
example : Good (run exInit (exRun.take 5)) ∧ WellTimed (run exInit (exRun.take 5)) (.vote tPrevote 1 0 2 7 1 2 true) ∧
    Seen Event.prevote exP (stepCore (run exInit (exRun.take 5)) (.vote tPrevote 1 0 2 7 1 2 true)).pvs ∧
    Out.vote tPrecommit 1 0 7 ∈ (stepCore (run exInit (exRun.take 5)) (.vote tPrevote 1 0 2 7 1 2 true)).out ∧
    polka (cfgOf [1, 1, 1, 1] (fun _ => false)) exP 0 (some 7) = true :=
  ⟨run_Good _ _ (initSt_Good _ _ _ _ _) (timed_of_B _ _ (by decide)), wellTimed_of_B (by decide), seen_of_B (by decide), by decide, by decide⟩

end Props.C01Node
