/-
C11, layer 2: the hex-ASCII integers of libs/ser.  ParseInt(FormatInt(z,16),16,64) = z for every int64 —
the identity behind int/int64 fields, map counts and time.Time.
-/
import LinkVerif.Model.Ser

namespace Props.C11
open Model.Rlp Model.Ser

theorem hexDigit_table : ∀ d, d < 16 → hexVal? (hexDigitChar d) = some d ∧ hexDigitChar d ≠ 43 ∧ hexDigitChar d ≠ 45 := by
  decide

theorem parseHexDigits_append (xs : Bytes) (c : UInt8) : ∀ (acc : Nat),
    parseHexDigits (xs ++ [c]) acc = (parseHexDigits xs acc).bind (fun a => (hexVal? c).map (fun d => a * 16 + d)) := by
  induction xs with
  | nil =>
    intro acc
    simp only [List.nil_append, parseHexDigits]
    cases hexVal? c <;> simp
  | cons x xs ih =>
    intro acc
    simp only [List.cons_append, parseHexDigits]
    cases hexVal? x with
    | none => simp
    | some d => simp only; exact ih _

theorem parse_hexDigitsF : ∀ (f n : Nat), n < 16 ^ f → parseHexDigits (hexDigitsF f n) 0 = some n
  | 0, n, h => by
    have : n = 0 := by simpa using h
    subst this; rfl
  | f + 1, n, h => by
    unfold hexDigitsF
    split
    · next h0 => subst h0; rfl
    · have hlt : n / 16 < 16 ^ f := by
        rw [Nat.div_lt_iff_lt_mul (by decide)]; rw [Nat.pow_succ] at h; exact h
      rw [parseHexDigits_append, parse_hexDigitsF f (n / 16) hlt, (hexDigit_table _ (Nat.mod_lt _ (by decide))).1]
      simp
      omega

theorem hexDigitsF_digits : ∀ (f n : Nat) (c : UInt8), c ∈ hexDigitsF f n → c ≠ 43 ∧ c ≠ 45
  | 0, n, c, h => by simp [hexDigitsF] at h
  | f + 1, n, c, h => by
    unfold hexDigitsF at h
    split at h
    · cases h
    · rcases List.mem_append.mp h with h | h
      · exact hexDigitsF_digits f _ c h
      · rw [List.mem_singleton.mp h]
        exact (hexDigit_table _ (Nat.mod_lt _ (by decide))).2

theorem hexNat_spec (n : Nat) : ∃ c r, hexNat n = c :: r ∧ c ≠ 43 ∧ c ≠ 45 ∧ parseHexDigits (c :: r) 0 = some n := by
  unfold hexNat
  split
  · next h0 => subst h0; exact ⟨48, [], rfl, by decide, by decide, by decide⟩
  · next hn =>
    have hp := parse_hexDigitsF n n (Nat.lt_pow_self (by decide))
    cases hx : hexDigitsF n n with
    | nil =>
      rw [hx] at hp
      exact absurd (Option.some.inj hp).symm hn
    | cons c r =>
      obtain ⟨h1, h2⟩ := hexDigitsF_digits n n c (by rw [hx]; exact List.mem_cons_self ..)
      exact ⟨c, r, rfl, h1, h2, by rw [← hx]; exact hp⟩

/-- ParseInt ∘ FormatInt = id on int64 -/
theorem parseInt_formatInt (z : Int) (hlo : -(2 ^ 63 : Int) ≤ z) (hhi : z < 2 ^ 63) : parseInt16 (formatInt16 z) = some z := by
  obtain ⟨c, r, hx, h1, h2, hp⟩ := hexNat_spec z.natAbs
  unfold formatInt16
  by_cases hneg : z < 0
  · simp only [hneg, if_true, hx]
    unfold parseInt16
    simp only [List.isEmpty_cons, Bool.false_eq_true, if_false, hp, if_true]
    have : z.natAbs ≤ 2 ^ 63 := by omega
    simp only [this, if_true]
    congr 1; omega
  · simp only [hneg, if_false, hx]
    unfold parseInt16
    have : z.natAbs < 2 ^ 63 := by omega
    split
    next neg ds heq =>
      -- the first character is a digit, so no sign is taken off
      split at heq
      · next heq2 => simp only [List.cons.injEq] at heq2; exact absurd heq2.1 h1
      · next heq2 => simp only [List.cons.injEq] at heq2; exact absurd heq2.1 h2
      · simp only [Prod.mk.injEq] at heq
        obtain ⟨hn, hd⟩ := heq
        subst hn; subst hd
        simp only [List.isEmpty_cons, Bool.false_eq_true, if_false, hp, this, if_true]
        congr 1; omega

/-- SetInt does not truncate a value that fits the kind -/
theorem wrapInt_id (bits : Nat) (z : Int) (hb : 1 ≤ bits) (hlo : -(2 ^ (bits - 1) : Int) ≤ z) (hhi : z < 2 ^ (bits - 1)) :
    wrapInt bits z = z := by
  obtain ⟨k, rfl⟩ : ∃ k, bits = k + 1 := ⟨bits - 1, by omega⟩
  simp only [Nat.add_sub_cancel] at hlo hhi
  unfold wrapInt
  simp only [Int.pow_succ]
  generalize (2 : Int) ^ k = M at hlo hhi
  rw [Int.mul_ediv_cancel M (by decide)]
  by_cases hz : 0 ≤ z
  · rw [Int.emod_eq_of_lt hz (by omega), if_neg (by omega)]
  · -- a negative `z` is `z + 2M` modulo `2M`, in the upper half
    rw [← Int.add_mul_emod_self_left z (M * 2) 1, Int.mul_one, Int.emod_eq_of_lt (by omega) (by omega), if_pos (by omega)]
    omega

end Props.C11
