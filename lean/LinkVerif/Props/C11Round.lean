/-
C11, layer 2: the round trip `decV (encV v) = v` through the Stream state machine.
The bridge: whenever the enclosing lists leave room, `Stream.readKind` is the pure header parser `readHead` of layer 1.
On it: the Stream operations on encoder output, the decoders of the single types, and the induction `rt_fragN` over the
fragment `FragN` of (type, value written, value read back).  `Frag` is the first-order part, which reads back unchanged.
-/
import LinkVerif.Props.C11Stream
import LinkVerif.Props.C11Int

namespace Props.C11
open Model.Rlp Model.Ser

/-- the innermost open list can take `n` more bytes -/
def Room (st : List (Nat × Nat)) (n : Nat) : Prop :=
  match st with
  | [] => True
  | (pos, size) :: _ => pos + n ≤ size

/-- position bookkeeping of `willRead` -/
def bump (n : Nat) (st : List (Nat × Nat)) : List (Nat × Nat) :=
  match st with
  | [] => []
  | (pos, size) :: up => (pos + n, size) :: up

theorem bump_bump (a b : Nat) (st : List (Nat × Nat)) : bump b (bump a st) = bump (a + b) st := by
  cases st with
  | nil => rfl
  | cons x up => obtain ⟨p, z⟩ := x; simp [bump, Nat.add_assoc]

theorem bump_zero (st : List (Nat × Nat)) : bump 0 st = st := by
  cases st with
  | nil => rfl
  | cons x up => obtain ⟨p, z⟩ := x; simp [bump]

theorem Room_split {st : List (Nat × Nat)} {a b : Nat} (h : Room st (a + b)) : Room st a ∧ Room (bump a st) b := by
  cases st with
  | nil => simp [Room, bump]
  | cons x up => obtain ⟨p, z⟩ := x; simp [Room, bump] at *; omega

theorem Room_le {st : List (Nat × Nat)} {a b : Nat} (h : Room st b) (hab : a ≤ b) : Room st a := by
  cases st with
  | nil => simp [Room]
  | cons x up => obtain ⟨p, z⟩ := x; simp [Room] at *; omega

theorem willRead_ok (n : Nat) (s : Stream) (hr : Room s.stack n) (hn : n ≤ s.rest.length) :
    willRead n s = (none, { s with kind := none, stack := bump n s.stack }) := by
  have hov : ∀ (s' : Stream), s'.rest = s.rest → s'.phantom = s.phantom → over s' n = false := by
    intro s' h1 h2
    unfold over
    have : ¬ (n > s'.rest.length + s'.phantom) := by rw [h1]; omega
    simp [this]
  have hsub : n - s.rest.length = 0 := by omega
  unfold willRead
  cases hs : s.stack with
  | nil => simp [bump, hov, hsub]
  | cons x up =>
    obtain ⟨p, z⟩ := x
    rw [hs] at hr
    simp only [Room] at hr
    have h1 : ¬ (n > z - p) := by omega
    simp [bump, h1, hov, hsub]

theorem readByte_ok (s : Stream) (b : UInt8) (r : Bytes) (hrest : s.rest = b :: r) (hr : Room s.stack 1) :
    readByte s = (.ok b, { s with kind := none, stack := bump 1 s.stack, rest := r }) := by
  unfold readByte
  rw [willRead_ok 1 s hr (by simp [hrest])]
  simp [hrest]

theorem readFull_ok (n : Nat) (s : Stream) (hr : Room s.stack n) (hn : n ≤ s.rest.length) :
    readFull n s = (.ok (s.rest.take n), { s with kind := none, stack := bump n s.stack, rest := s.rest.drop n }) := by
  unfold readFull
  rw [willRead_ok n s hr hn]
  simp [Nat.not_lt.mpr hn]

theorem readUintSz_eq (ll : Nat) (s : Stream) (h1 : 1 ≤ ll) (hlen : ll ≤ s.rest.length) (hr : Room s.stack ll) :
    readUintSz ll s =
      ((if ll > 1 ∧ (s.rest.take ll).head? = some 0 then .error .canonSize else .ok (beVal (s.rest.take ll))),
       { s with kind := none, stack := bump ll s.stack, rest := s.rest.drop ll }) := by
  match ll, h1 with
  | 1, _ =>
    cases hrest : s.rest with
    | nil => simp [hrest] at hlen
    | cons b r =>
      unfold readUintSz
      rw [readByte_ok s b r hrest hr]
      simp [beVal]
  | n + 2, _ =>
    unfold readUintSz
    rw [readFull_ok (n + 2) s hr hlen]
    simp only
    have : n + 2 > 1 := by omega
    simp only [this, true_and]
    split <;> rfl

theorem readKind_of_readHead (s : Stream) (k : Kind) (sz : Nat) (bv : UInt8) (r : Bytes)
    (h : readHead s.rest = .ok (k, sz, bv, r)) (hr : Room s.stack (s.rest.length - r.length)) :
    readKind s = ((k, sz, none),
      { s with kind := none, byteval := bv, rest := r, stack := bump (s.rest.length - r.length) s.stack }) := by
  have arith : ∀ a l : Nat, l ≤ a → a + 1 - (a - l) = 1 + l := fun a l h => by omega
  cases hrest : s.rest with
  | nil => rw [hrest] at h; cases h
  | cons t r0 =>
    rw [hrest, readHead_cons] at h
    rw [hrest] at hr
    have hone : (t :: r0).length - r0.length = 1 := by simp
    rw [readKind_eq]
    have sp := tagOf_spec t
    cases hT : tagOf t with
    | byte | short k' n =>
      -- the header is the tag byte
      rw [hT] at h
      cases h
      rw [hone] at hr ⊢
      rw [readByte_ok s _ _ hrest hr]
      dsimp only
      rw [hT]
    | long k' ll =>
      rw [hT] at h sp
      obtain ⟨_, hll, _⟩ := sp
      dsimp only at h
      cases hrs : readSize ll r0 with
      | error e => rw [hrs] at h; cases h
      | ok v =>
        rw [hrs] at h
        cases h
        obtain ⟨hlen, hz, h56, hv, hd⟩ := readSize_ok hrs
        have hl : (t :: r0).length - v.2.length = 1 + ll := by rw [hd, List.length_cons, List.length_drop]; exact arith _ _ hlen
        rw [hl] at hr ⊢
        obtain ⟨hr1, hr2⟩ := Room_split hr
        rw [readByte_ok s t r0 hrest hr1]
        dsimp only
        rw [hT]
        dsimp only
        rw [readUintSz_eq ll _ hll hlen hr2]
        rw [if_neg hz, ← hv]
        dsimp only
        rw [if_neg (by omega), bump_bump, ← hd]

theorem atEnd_false_of_room (s : Stream) (n : Nat) (hn : 1 ≤ n) (hr : Room s.stack n) : atEnd s = false := by
  unfold atEnd
  cases hs : s.stack with
  | nil => rfl
  | cons x up =>
    obtain ⟨p, z⟩ := x
    rw [hs] at hr
    simp only [Room] at hr
    simp; omega

theorem limitErr_none (s : Stream) (sz : Nat) (hsz : sz ≤ s.rest.length) (hr : Room s.stack sz) : limitErr s sz = none := by
  unfold limitErr
  cases hs : s.stack with
  | nil =>
    unfold over
    have : ¬ (sz > s.rest.length + s.phantom) := by omega
    simp [this]
  | cons x up =>
    obtain ⟨p, z⟩ := x
    rw [hs] at hr
    simp only [Room] at hr
    simp; omega

theorem kindOf_fresh (s : Stream) (hk : s.kind = none) :
    kindOf s = if atEnd s then ((.byte, 0, some .eol), { s with kind := none, kinderr := none }) else
      let r := readKind { s with kind := none, kinderr := none }
      let e := match r.1.2.2 with
        | some e => some e
        | none => limitErr r.2 r.1.2.1
      ((r.1.1, r.1.2.1, e), { r.2 with kind := some r.1.1, size := r.1.2.1, kinderr := e }) := by
  cases s
  cases hk
  rfl

/-- Stream.Kind on a fresh position: header parsed by `readHead`, value fits the list and the input -/
theorem kindOf_ok (s : Stream) (k : Kind) (sz : Nat) (bv : UInt8) (r : Bytes) (hk : s.kind = none)
    (h : readHead s.rest = .ok (k, sz, bv, r)) (hroom : Room s.stack (s.rest.length - r.length + sz)) (hsz : sz ≤ r.length) :
    kindOf s = ((k, sz, none),
      { s with kind := some k, size := sz, kinderr := none, byteval := bv, rest := r,
               stack := bump (s.rest.length - r.length) s.stack }) := by
  obtain ⟨hr1, hr2⟩ := Room_split hroom
  have hpos := readHead_rest_lt h
  rw [kindOf_fresh s hk, if_neg (ne_true_of_eq_false (atEnd_false_of_room s _ (by omega) hr1))]
  dsimp only
  rw [readKind_of_readHead { s with kind := none, kinderr := none } k sz bv r h hr1]
  dsimp only
  rw [limitErr_none _ sz hsz hr2]

theorem kindOf_eol (s : Stream) (hk : s.kind = none) (he : atEnd s = true) :
    kindOf s = ((.byte, 0, some .eol), { s with kind := none, kinderr := none }) := by
  rw [kindOf_fresh s hk, if_pos he]

theorem kindOf_cached (s : Stream) (k : Kind) (h : s.kind = some k) : kindOf s = ((k, s.size, s.kinderr), s) := by
  unfold kindOf; rw [h]

theorem kindOf_idem (s : Stream) (hk : s.kind = none) : kindOf (kindOf s).2 = kindOf s := by
  by_cases he : atEnd s = true
  · rw [kindOf_eol s hk he]
    exact kindOf_eol _ rfl he
  · rw [kindOf_fresh s hk, if_neg he]
    exact kindOf_cached _ _ rfl

/-- after reading an item of `n` bytes: rearmed, positioned at `tail`, `n` bytes accounted to the innermost list -/
def After (s s' : Stream) (n : Nat) (tail : Bytes) : Prop :=
  s'.kind = none ∧ s'.rest = tail ∧ s'.stack = bump n s.stack

theorem kindOf_byte (s : Stream) (x : UInt8) (tail : Bytes) (hk : s.kind = none) (hrest : s.rest = x :: tail)
    (hx : x < 0x80) (hroom : Room s.stack 1) :
    kindOf s = ((.byte, 0, none),
      { s with kind := some .byte, size := 0, kinderr := none, byteval := x, rest := tail, stack := bump 1 s.stack }) := by
  have hlen : s.rest.length - tail.length = 1 := by rw [hrest]; simp
  rw [kindOf_ok s .byte 0 x tail hk (by rw [hrest]; exact readHead_byte x tail hx) (by rw [hlen]; exact hroom) (Nat.zero_le _),
    hlen]

theorem kindOf_encHead (k : Kind) (hkb : k ≠ .byte) (s : Stream) (n : Nat) (r : Bytes) (hk : s.kind = none)
    (hrest : s.rest = encHead (Tag.base k) (Tag.base k + 55) n ++ r) (hsz : n < 2 ^ 64) (hn : n ≤ r.length)
    (hroom : Room s.stack ((encHead (Tag.base k) (Tag.base k + 55) n).length + n)) :
    kindOf s = ((k, n, none),
      { s with kind := some k, size := n, kinderr := none, byteval := 0, rest := r,
               stack := bump (encHead (Tag.base k) (Tag.base k + 55) n).length s.stack }) := by
  have hlen : s.rest.length - r.length = (encHead (Tag.base k) (Tag.base k + 55) n).length := by rw [hrest]; simp
  rw [kindOf_ok s k n 0 r hk (by rw [hrest]; exact readHead_encHead k hkb n r hsz) (by rw [hlen]; exact hroom) hn, hlen]

/-- Stream.Bytes reads back what encodeString wrote -/
theorem sBytes_enc (s : Stream) (bs tail : Bytes) (hk : s.kind = none) (hrest : s.rest = encStr bs ++ tail)
    (hsz : (encStr bs).length < 2 ^ 64) (hroom : Room s.stack (encStr bs).length) :
    ∃ s', sBytes s = (.ok bs, s') ∧ After s s' (encStr bs).length tail := by
  have hsz := Nat.lt_of_le_of_lt (encStr_length bs).2 hsz
  unfold sBytes
  cases h7 : single7 bs with
  | true =>
    obtain ⟨x, rfl, hx⟩ := (single7_iff bs).mp h7
    rw [encStr_single x hx] at hrest hroom ⊢
    rw [kindOf_byte s x tail hk hrest hx hroom]
    exact ⟨_, rfl, rfl, rfl, rfl⟩
  | false =>
    rw [encStr_general bs h7] at hrest hroom ⊢
    rw [List.append_assoc] at hrest
    rw [List.length_append] at hroom ⊢
    rw [kindOf_encHead .string nofun s bs.length (bs ++ tail) hk hrest hsz (by simp) hroom]
    dsimp only
    rw [readFull_ok bs.length _ (Room_split hroom).2 (by simp)]
    simp only [List.take_left', List.drop_left', h7]
    exact ⟨_, rfl, rfl, rfl, bump_bump ..⟩

/-- Stream.uint reads back what writeUint wrote -/
theorem sUint_enc (mb : Nat) (s : Stream) (n : Nat) (tail : Bytes) (hk : s.kind = none)
    (hrest : s.rest = encStr (beBytes n) ++ tail) (hn : n < 2 ^ 64) (hmb : (beBytes n).length ≤ mb / 8)
    (hroom : Room s.stack (encStr (beBytes n)).length) :
    ∃ s', sUint mb s = (.ok n, s') ∧ After s s' (encStr (beBytes n)).length tail := by
  have hval := beBytes_val n hn
  unfold sUint
  cases h7 : single7 (beBytes n) with
  | true =>
    obtain ⟨x, hx1, hx⟩ := (single7_iff _).mp h7
    rw [hx1] at hrest hroom hval ⊢
    rw [encStr_single x hx] at hrest hroom ⊢
    rw [kindOf_byte s x tail hk hrest hx hroom]
    have hxv : x.toNat = n := by simpa [beVal] using hval
    have hx0 : x ≠ 0 := by
      intro h0
      subst h0
      rw [← hxv] at hx1
      cases hx1
    dsimp only
    rw [if_neg hx0, hxv]
    exact ⟨_, rfl, rfl, rfl, rfl⟩
  | false =>
    rw [encStr_general _ h7] at hrest hroom ⊢
    rw [List.append_assoc] at hrest
    rw [List.length_append] at hroom ⊢
    have hl8 := beBytes_length_le n
    rw [kindOf_encHead .string nofun s _ (beBytes n ++ tail) hk hrest (by omega) (by simp) hroom]
    dsimp only
    rw [if_neg (by omega)]
    by_cases hn0 : n = 0
    · subst hn0
      exact ⟨_, rfl, rfl, rfl, rfl⟩
    · rw [readUintSz_eq (beBytes n).length _ (beBytes_length_pos n hn0) (by simp) (Room_split hroom).2]
      simp only [List.take_left', List.drop_left', hval]
      rw [if_neg (fun hc => (beBytesF_head 8 n hn0 (by simpa using hn)).1 hc.2)]
      -- a number below 128 is written as the single byte the other case has dealt with
      have hbig : ¬ ((beBytes n).length > 0 ∧ n < 128) := by
        intro hc
        have hb : beBytes n = [UInt8.ofNat n] := by
          rw [beBytes, beBytesF, if_neg hn0, Nat.div_eq_of_lt (by omega), beBytesF_zero, Nat.mod_eq_of_lt (by omega)]
          rfl
        have hlt : UInt8.ofNat n < 0x80 := by
          rw [UInt8.lt_iff_toNat_lt, UInt8.toNat_ofNat', Nat.mod_eq_of_lt (by omega)]
          exact hc.2
        rw [hb, single7, decide_eq_true hlt] at h7
        cases h7
      dsimp only
      rw [if_neg hbig]
      exact ⟨_, rfl, rfl, rfl, bump_bump ..⟩

/-- round trip of one value through the stream, wherever it sits: `b` is consumed exactly, `v` comes back -/
def RT (env : Env) (g : Nat) (t : Ty) (v : Val) (b : Bytes) : Prop :=
  ∀ (s : Stream) (tail : Bytes), s.kind = none → s.rest = b ++ tail → Room s.stack b.length →
    ∃ s', decV env g t s = (v, none, s') ∧ After s s' b.length tail

theorem RT.step {env : Env} {g : Nat} {t : Ty} {v : Val} {b : Bytes} (h : RT env g t v b) {s : Stream} {tail : Bytes}
    {pos size : Nat} {up : List (Nat × Nat)} (hk : s.kind = none) (hrest : s.rest = b ++ tail)
    (hst : s.stack = (pos, size) :: up) (hroom : pos + b.length ≤ size) :
    ∃ s', decV env g t s = (v, none, s') ∧ s'.kind = none ∧ s'.rest = tail ∧ s'.stack = (pos + b.length, size) :: up := by
  obtain ⟨s', hd, hk', hr', hs'⟩ := h s tail hk hrest (by rw [hst]; exact hroom)
  exact ⟨s', hd, hk', hr', by rw [hs', hst]; rfl⟩

/-- a type whose decoder is a function of the answer of Stream.Bytes (uint: of Stream.uint) reads back what that function
    makes of the string written -/
theorem rt_of_sBytes {env : Env} {g : Nat} {t : Ty} {v : Val} {bs : Bytes} (hsz : (encStr bs).length < 2 ^ 64)
    (hD : ∀ s s', sBytes s = (.ok bs, s') → decV env g t s = (v, none, s')) : RT env g t v (encStr bs) := by
  intro s tail hk hrest hroom
  obtain ⟨s', h1, h2⟩ := sBytes_enc s bs tail hk hrest hsz hroom
  exact ⟨s', hD s s' h1, h2⟩

theorem rt_of_sUint {env : Env} {g mb n : Nat} {t : Ty} {v : Val} (hn : n < 2 ^ 64) (hmb : (beBytes n).length ≤ mb / 8)
    (hD : ∀ s s', sUint mb s = (.ok n, s') → decV env g t s = (v, none, s')) : RT env g t v (encStr (beBytes n)) := by
  intro s tail hk hrest hroom
  obtain ⟨s', h1, h2⟩ := sUint_enc mb s n tail hk hrest hn hmb hroom
  exact ⟨s', hD s s' h1, h2⟩

theorem rt_bool (env : Env) (g : Nat) (x : Bool) :
    RT env (g + 1) .bool (.b x) (if x then [0x01] else [0x80]) := by
  cases x
  · exact rt_of_sUint (mb := 8) (n := 0) (by decide) (by decide) fun s s' h => by simp [decV, h]
  · exact rt_of_sUint (mb := 8) (n := 1) (by decide) (by decide) fun s s' h => by simp [decV, h]

theorem natBytes_val (n : Nat) : beVal (natBytes n) = n :=
  beVal_beBytesF n n (Nat.lt_pow_self (by decide))

theorem natBytes_zero : natBytes 0 = [] := rfl

theorem encBig_nonneg (n : Nat) : encBig false n = .ok (encStr (natBytes n)) := by
  unfold encBig
  split
  · next h => subst h; rfl
  · rfl

theorem natBytes_head (n : Nat) : (natBytes n).head? ≠ some 0 := by
  by_cases hn : n = 0
  · subst hn; nofun
  · exact (beBytesF_head n n hn (Nat.lt_pow_self (by decide))).1

/-- a *big.Int, also the 0 that a nil one is written as -/
theorem rt_bigptr (env : Env) (g n : Nat) (hsz : (encStr (natBytes n)).length < 2 ^ 64) :
    RT env (g + 1) .bigptr (.ptr (.big false n)) (encStr (natBytes n)) :=
  rt_of_sBytes hsz fun s s' h => by simp only [decV, decBigPtr, h, natBytes_head, natBytes_val, if_false]

theorem rt_bytearr (env : Env) (g : Nat) (bs : Bytes) (hsz : (encStr bs).length < 2 ^ 64) (hq : bs ≠ [0]) :
    RT env (g + 1) (.bytearr bs.length) (.bytes bs) (encStr bs) := by
  have hsz := Nat.lt_of_le_of_lt (encStr_length bs).2 hsz
  intro s tail hk hrest hroom
  simp only [decV]
  unfold decByteArr
  cases h7 : single7 bs with
  | true =>
    obtain ⟨x, rfl, hx⟩ := (single7_iff bs).mp h7
    rw [encStr_single x hx] at hrest hroom ⊢
    rw [kindOf_byte s x tail hk hrest hx hroom]
    have hx0 : x ≠ 0 := fun h0 => hq (by rw [h0])
    simp only [List.length_singleton, Nat.one_ne_zero, if_false, Nat.lt_irrefl, gt_iff_lt, hx0]
    exact ⟨_, rfl, rfl, rfl, rfl⟩
  | false =>
    rw [encStr_general bs h7] at hrest hroom ⊢
    rw [List.append_assoc] at hrest
    rw [List.length_append] at hroom ⊢
    rw [kindOf_encHead .string nofun s bs.length (bs ++ tail) hk hrest hsz (by simp) hroom]
    simp only [Nat.lt_irrefl, if_false, gt_iff_lt]
    rw [readFull_ok bs.length _ (Room_split hroom).2 (by simp)]
    simp only [List.take_left', List.drop_left', h7]
    exact ⟨_, rfl, rfl, rfl, bump_bump ..⟩

/-- Stream.List on a list header followed by its payload -/
theorem sList_enc (s : Stream) (p tail : Bytes) (hk : s.kind = none) (hrest : s.rest = encListHead p ++ tail)
    (hsz : (encListHead p).length < 2 ^ 64) (hroom : Room s.stack (encListHead p).length) :
    ∃ s', sList s = (.ok p.length, s') ∧ s'.kind = none ∧ s'.rest = p ++ tail ∧
      s'.stack = (0, p.length) :: bump (encHead 0xC0 0xF7 p.length).length s.stack := by
  unfold encListHead at hrest hroom hsz
  rw [List.append_assoc] at hrest
  rw [List.length_append] at hroom hsz
  have hsz : p.length < 2 ^ 64 := by omega
  unfold sList
  rw [kindOf_encHead .list nofun s p.length (p ++ tail) hk hrest hsz (by simp) hroom]
  exact ⟨_, rfl, rfl, rfl, rfl⟩

theorem sListEnd_ok (s : Stream) (n : Nat) (up : List (Nat × Nat)) (hst : s.stack = (n, n) :: up) :
    ∃ s', sListEnd s = (none, s') ∧ s'.kind = none ∧ s'.rest = s.rest ∧ s'.stack = bump n up := by
  unfold sListEnd
  rw [hst]
  simp only [ne_eq, not_true_eq_false, if_false]
  refine ⟨_, rfl, rfl, rfl, ?_⟩
  cases up with
  | nil => rfl
  | cons x r => obtain ⟨a, b⟩ := x; rfl

theorem encListHead_length (p : Bytes) : (encListHead p).length = (encHead 0xC0 0xF7 p.length).length + p.length := by
  simp [encListHead]

theorem encListHead_pos (p : Bytes) : 1 ≤ (encListHead p).length := by
  have := encHead_length_pos 0xC0 0xF7 p.length
  rw [encListHead_length]; omega

/-- a list item: `Stream.List` enters the payload; a stream that has consumed the payload exactly is taken by
    `Stream.ListEnd` to the position after the item -/
theorem list_enc (s : Stream) (p tail : Bytes) (hk : s.kind = none) (hrest : s.rest = encListHead p ++ tail)
    (hsz : (encListHead p).length < 2 ^ 64) (hroom : Room s.stack (encListHead p).length) :
    ∃ s1 up, sList s = (.ok p.length, s1) ∧ s1.kind = none ∧ s1.rest = p ++ tail ∧ s1.stack = (0, p.length) :: up ∧
      ∀ s2 : Stream, s2.rest = tail → s2.stack = (p.length, p.length) :: up →
        ∃ s3, sListEnd s2 = (none, s3) ∧ After s s3 (encListHead p).length tail := by
  obtain ⟨s1, hl1, hk1, hr1, hs1⟩ := sList_enc s p tail hk hrest hsz hroom
  refine ⟨s1, _, hl1, hk1, hr1, hs1, fun s2 hr2 hs2 => ?_⟩
  obtain ⟨s3, hd3, hk3, hr3, hs3⟩ := sListEnd_ok s2 p.length _ hs2
  exact ⟨s3, hd3, hk3, hr3.trans hr2, by rw [hs3, bump_bump, encListHead_length]⟩

/-- decodeInt reads back what writeInt wrote (any int64 that fits the kind) -/
theorem rt_int (env : Env) (g bits : Nat) (z : Int) (hsz : (encStr (formatInt16 z)).length < 2 ^ 64)
    (h64lo : -(2 ^ 63 : Int) ≤ z) (h64hi : z < 2 ^ 63) (hb : 1 ≤ bits)
    (hlo : -(2 ^ (bits - 1) : Int) ≤ z) (hhi : z < 2 ^ (bits - 1)) :
    RT env (g + 1) (.int bits) (.i z) (encStr (formatInt16 z)) :=
  rt_of_sBytes hsz fun s s' h => by
    simp only [decV, decInt, h, parseInt_formatInt z h64lo h64hi, wrapInt_id bits z hb hlo hhi]

/-- time.Time: the model value is (Unix seconds, nanoseconds); exactly the times with int64 seconds and
    0 ≤ nsec ≤ 999999999 round-trip (Go side: the decoder returns UTC with the monotonic reading stripped, so the
    instant and its nanoseconds are preserved, the location is not) -/
theorem rt_time (env : Env) (g : Nat) (sec nsec : Int) (hslo : -(2 ^ 63 : Int) ≤ sec) (hshi : sec < 2 ^ 63)
    (hn0 : 0 ≤ nsec) (hn1 : nsec ≤ 999999999)
    (hsz : (encListHead (encStr (formatInt16 sec) ++ encStr (formatInt16 nsec))).length < 2 ^ 64) :
    RT env (g + 1) .time (.time sec nsec) (encListHead (encStr (formatInt16 sec) ++ encStr (formatInt16 nsec))) := by
  intro s tail hk hrest hroom
  obtain ⟨s1, up, hl1, hk1, hr1, hs1, hend⟩ := list_enc s _ tail hk hrest hsz hroom
  rw [encListHead_length] at hsz
  simp only [List.length_append] at hsz hs1 hend
  -- the two integers are read by the decoder of `int` (at any fuel)
  obtain ⟨s2, hd2, hk2, hr2, hs2⟩ :=
    (rt_int env 0 64 sec (by omega) hslo hshi (by decide) (by simpa using hslo) (by simpa using hshi)).step
      hk1 (by rw [hr1, List.append_assoc]) hs1 (by omega)
  obtain ⟨s3, hd3, hk3, hr3, hs3⟩ :=
    (rt_int env 0 32 nsec (by omega) (by omega) (by omega) (by decide) (by simp; omega) (by simp; omega)).step
      hk2 hr2 hs2 (by omega)
  obtain ⟨s4, hd4, haft⟩ := hend s3 hr3 (by rw [hs3, Nat.zero_add])
  simp only [decV] at hd2 hd3
  have hchk : ¬ (nsec < 0 ∨ 999999999 < nsec) := by omega
  exact ⟨s4, by simp only [decV, decTime, hl1, hd2, intOr0, hd3, hchk, if_false, hd4], haft⟩

/-! ### two properties every decoder of the fragment has because it starts with Stream.Kind -/

/-- PK: a decoder that is handed a stream whose next header is already cached behaves as on the fresh stream;
    EOL: at the end of the innermost list it answers EOL without moving -/
def PK (D : Stream → DecR) : Prop := ∀ s, s.kind = none → D (kindOf s).2 = D s
def EOL (D : Stream → DecR) : Prop :=
  ∀ s, s.kind = none → atEnd s = true → ∃ x s', D s = (x, some .eol, s') ∧ s'.kind = none ∧ s'.rest = s.rest ∧ s'.stack = s.stack

/-- a decoder that is a function of the answer of Stream.Bytes has both (likewise of Stream.uint, List, Kind below) -/
theorem head_of_sBytes (D : Stream → DecR) (F : Except Err Bytes × Stream → DecR) (hD : ∀ s, D s = F (sBytes s))
    (hF : ∀ s, ∃ x, F (.error .eol, s) = (x, some .eol, s)) : PK D ∧ EOL D := by
  constructor
  · intro s hk; rw [hD, hD, sBytes, sBytes, kindOf_idem s hk]
  · intro s hk he
    obtain ⟨x, hx⟩ := hF { s with kind := none, kinderr := none }
    exact ⟨x, { s with kind := none, kinderr := none }, by rw [hD, sBytes, kindOf_eol s hk he, hx], rfl, rfl, rfl⟩

theorem head_of_sUint (mb : Nat) (D : Stream → DecR) (F : Except Err Nat × Stream → DecR) (hD : ∀ s, D s = F (sUint mb s))
    (hF : ∀ s, ∃ x, F (.error .eol, s) = (x, some .eol, s)) : PK D ∧ EOL D := by
  constructor
  · intro s hk; rw [hD, hD, sUint, sUint, kindOf_idem s hk]
  · intro s hk he
    obtain ⟨x, hx⟩ := hF { s with kind := none, kinderr := none }
    exact ⟨x, { s with kind := none, kinderr := none }, by rw [hD, sUint, kindOf_eol s hk he, hx], rfl, rfl, rfl⟩

theorem head_of_sList (D : Stream → DecR) (F : Except Err Nat × Stream → DecR) (hD : ∀ s, D s = F (sList s))
    (hF : ∀ s, ∃ x, F (.error .eol, s) = (x, some .eol, s)) : PK D ∧ EOL D := by
  constructor
  · intro s hk; rw [hD, hD, sList, sList, kindOf_idem s hk]
  · intro s hk he
    obtain ⟨x, hx⟩ := hF { s with kind := none, kinderr := none }
    exact ⟨x, { s with kind := none, kinderr := none }, by rw [hD, sList, kindOf_eol s hk he, hx], rfl, rfl, rfl⟩

theorem head_of_kindOf (D : Stream → DecR) (F : (Kind × Nat × Option Err) × Stream → DecR) (hD : ∀ s, D s = F (kindOf s))
    (hF : ∀ s, ∃ x s', F ((.byte, 0, some .eol), s) = (x, some .eol, s') ∧ s'.kind = none ∧ s'.rest = s.rest ∧ s'.stack = s.stack) :
    PK D ∧ EOL D := by
  constructor
  · intro s hk; rw [hD, hD, kindOf_idem s hk]
  · intro s hk he
    obtain ⟨x, s', hx, h1, h2, h3⟩ := hF { s with kind := none, kinderr := none }
    exact ⟨x, s', by rw [hD, kindOf_eol s hk he, hx], h1, h2, h3⟩

def HeadT (env : Env) (g : Nat) (t : Ty) : Prop := PK (decV env g t) ∧ EOL (decV env g t)

/-- the types whose decoder begins by asking Stream.Kind (directly or through Bytes / uint / List) -/
def kindFirst : Ty → Bool
  | .uint _ | .int _ | .bool | .bigptr | .bigval | .bytes | .string | .bytearr _ | .time | .map20 | .slice _ | .struct _
  | .ptr _ => true
  | _ => false

theorem head_kind (env : Env) (g : Nat) (t : Ty) (ht : kindFirst t = true) : HeadT env (g + 1) t := by
  -- the reason is `head_of_kindOf`; to apply it each decoder would have to be written out as a function of the answer,
  -- so the decoders are unfolded as far as their first call of Stream.Kind instead
  cases t with
  | uint | bool =>
    exact ⟨fun s hk => by simp only [decV, sUint]; rw [kindOf_idem s hk],
      fun s hk he => by simp only [decV, sUint, kindOf_eol s hk he]; exact ⟨_, _, rfl, rfl, rfl, rfl⟩⟩
  | int | bigptr | bigval | bytes | string =>
    exact ⟨fun s hk => by simp only [decV, decInt, decBigPtr, decBigVal, decBytesLike, sBytes]; rw [kindOf_idem s hk],
      fun s hk he => by
        simp only [decV, decInt, decBigPtr, decBigVal, decBytesLike, sBytes, kindOf_eol s hk he]
        exact ⟨_, _, rfl, rfl, rfl, rfl⟩⟩
  | time | map20 | slice | struct =>
    exact ⟨fun s hk => by simp only [decV, decTime, decMap, sList]; rw [kindOf_idem s hk],
      fun s hk he => by simp only [decV, decTime, decMap, sList, kindOf_eol s hk he]; exact ⟨_, _, rfl, rfl, rfl, rfl⟩⟩
  | bytearr | ptr =>
    exact ⟨fun s hk => by simp only [decV, decByteArr]; rw [kindOf_idem s hk],
      fun s hk he => by simp only [decV, decByteArr, kindOf_eol s hk he]; exact ⟨_, _, rfl, rfl, rfl, rfl⟩⟩
  | _ => cases ht

theorem head_map (env : Env) (g : Nat) : HeadT env (g + 1) .map20 := head_kind env g _ rfl

theorem decV_ref {env : Env} {id : Nat} {t' : Ty} (hd : env.def? id = some t') (g : Nat) :
    decV env (g + 1) (.ref id) = decV env g t' := by
  funext s; simp only [decV, hd]

mutual
  /-- the first-order fragment of (type, value) pairs: what reads back unchanged in every environment.  Left to `FragN`:
      `int`/`time` (hex-ASCII integers), `ptr`/`cptr`/`cval`/`slice` (nil and empty conventions), `ref` (environment), the
      nil big integer.  In neither: `map20`, `iface`, `split`, `arr`, `bytearr 1` holding 0x00 (round trip FALSE: see
      `C11_roundtrip_counterexample`), negative big integers. -/
  inductive Frag : Ty → Val → Prop where
    | uint (bits n : Nat) : n < 2 ^ 64 → (beBytes n).length ≤ bits / 8 → Frag (.uint bits) (.u n)
    | bool (x : Bool) : Frag .bool (.b x)
    | bytes (bs : Bytes) : Frag .bytes (.bytes bs)
    | string (bs : Bytes) : Frag .string (.bytes bs)
    | bytearr (bs : Bytes) : bs ≠ [0] → Frag (.bytearr bs.length) (.bytes bs)
    | bigval (n : Nat) : Frag .bigval (.big false n)
    | bigptr (n : Nat) : Frag .bigptr (.ptr (.big false n))
    | struct (fs : List Ty) (vs : List Val) : FragL fs vs → Frag (.struct fs) (.list vs)
  inductive FragL : List Ty → List Val → Prop where
    | nil : FragL [] []
    | cons (t : Ty) (v : Val) (ts : List Ty) (vs : List Val) : Frag t v → FragL ts vs → FragL (t :: ts) (v :: vs)
end

mutual
  /-- `FragN env t v v'`: `v` is a value of `t` in the proved fragment and `v'` is what decoding its encoding returns.
      `v' = v` except for the conventions: a nil *big.Int comes back as 0.  Pointers: nil pointers whose nil encoding is an
      empty item come back nil; non-nil pointers to values encoded as a non-empty list or a string with header come back
      as pointers.  (A pointer to a value that encodes as an empty item comes back nil, and a nil pointer to an int comes
      back as a pointer to 0: those two conventions are not in `FragN`.) -/
  inductive FragN (env : Env) : Ty → Val → Val → Prop where
    | uint (bits n : Nat) : n < 2 ^ 64 → (beBytes n).length ≤ bits / 8 → FragN env (.uint bits) (.u n) (.u n)
    | int (bits : Nat) (z : Int) : -(2 ^ 63 : Int) ≤ z → z < 2 ^ 63 → 1 ≤ bits → -(2 ^ (bits - 1) : Int) ≤ z → z < 2 ^ (bits - 1) →
        FragN env (.int bits) (.i z) (.i z)
    | bool (x : Bool) : FragN env .bool (.b x) (.b x)
    | bytes (bs : Bytes) : FragN env .bytes (.bytes bs) (.bytes bs)
    | string (bs : Bytes) : FragN env .string (.bytes bs) (.bytes bs)
    | bytearr (bs : Bytes) : bs ≠ [0] → FragN env (.bytearr bs.length) (.bytes bs) (.bytes bs)
    | bigval (n : Nat) : FragN env .bigval (.big false n) (.big false n)
    | bigptr (n : Nat) : FragN env .bigptr (.ptr (.big false n)) (.ptr (.big false n))
    | bigptrNil : FragN env .bigptr .nil (.ptr (.big false 0))
    | time (sec nsec : Int) : -(2 ^ 63 : Int) ≤ sec → sec < 2 ^ 63 → 0 ≤ nsec → nsec ≤ 999999999 →
        FragN env .time (.time sec nsec) (.time sec nsec)
    | struct (fs : List Ty) (vs vs' : List Val) : FragNL env fs vs vs' → FragN env (.struct fs) (.list vs) (.list vs')
    | slice (e : Ty) (vs vs' : List Val) : FragNS env e vs vs' → FragN env (.slice e) (.list vs) (.list vs')
    | ref (id : Nat) (t' : Ty) (v v' : Val) : env.def? id = some t' → FragN env t' v v' → FragN env (.ref id) v v'
    | cval (a : Bool) (e : Ty) (v v' : Val) : FragN env e v v' → FragN env (.cval a e) v v'
    | cptr (a : Bool) (e : Ty) (v v' : Val) : FragN env e v v' → FragN env (.cptr a e) (.ptr v) (.ptr v')
    | ptrList (e : Ty) (v v' : Val) : FragN env e v v' →
        (∀ f b, encV env f e v = .ok b → ∃ p, b = encListHead p ∧ p ≠ []) → FragN env (.ptr e) (.ptr v) (.ptr v')
    | ptrStr (e : Ty) (v v' : Val) : FragN env e v v' →
        (∀ f b, encV env f e v = .ok b → ∃ bs, b = encHead 0x80 0xB7 bs.length ++ bs ∧ bs ≠ []) → FragN env (.ptr e) (.ptr v) (.ptr v')
    | ptrNilList (e : Ty) : (∀ f, encV env (f + 1) (.ptr e) .nil = .ok [0xC0]) → FragN env (.ptr e) .nil .nil
    | ptrNilStr (e : Ty) : (∀ f, encV env (f + 1) (.ptr e) .nil = .ok [0x80]) → FragN env (.ptr e) .nil .nil
  inductive FragNL (env : Env) : List Ty → List Val → List Val → Prop where
    | nil : FragNL env [] [] []
    | cons (t : Ty) (v v' : Val) (ts : List Ty) (vs vs' : List Val) : FragN env t v v' → FragNL env ts vs vs' →
        FragNL env (t :: ts) (v :: vs) (v' :: vs')
  inductive FragNS (env : Env) : Ty → List Val → List Val → Prop where
    | nil (e : Ty) : FragNS env e [] []
    | cons (e : Ty) (v v' : Val) (vs vs' : List Val) : FragN env e v v' → FragNS env e vs vs' → FragNS env e (v :: vs) (v' :: vs')
end

theorem Frag.toN (env : Env) {t : Ty} {v : Val} (h : Frag t v) : FragN env t v v :=
  Frag.rec (motive_1 := fun t v _ => FragN env t v v) (motive_2 := fun ts vs _ => FragNL env ts vs vs)
    (fun bits n h1 h2 => .uint bits n h1 h2) (fun x => .bool x) (fun bs => .bytes bs) (fun bs => .string bs)
    (fun bs h => .bytearr bs h) (fun n => .bigval n) (fun n => .bigptr n) (fun fs vs _ ih => .struct fs vs vs ih)
    .nil (fun t v ts vs _ _ ih1 ih2 => .cons t v v ts vs vs ih1 ih2) h

/-- what the induction carries for one (type, value): the round trip, a non-empty encoding, the two head properties -/
def Good3 (env : Env) (g : Nat) (t : Ty) (v' : Val) (b : Bytes) : Prop := RT env g t v' b ∧ 1 ≤ b.length ∧ HeadT env g t

theorem append_ok {a c : Except Err Bytes} {p : Bytes}
    (h : (match a with
      | .error e => .error e
      | .ok b => match c with
        | .error e => .error e
        | .ok bs => .ok (b ++ bs)) = Except.ok p) : ∃ b bs, a = .ok b ∧ c = .ok bs ∧ p = b ++ bs := by
  obtain _ | b := a
  · cases h
  · obtain _ | bs := c
    · cases h
    · cases h; exact ⟨b, bs, rfl, rfl, rfl⟩

theorem encSeq_cons_ok {f : Ty → Val → Except Err Bytes} {t : Ty} {ts : List Ty} {v : Val} {vs : List Val} {p : Bytes}
    (h : encSeq f (t :: ts) (v :: vs) = .ok p) : ∃ b bs, f t v = .ok b ∧ encSeq f ts vs = .ok bs ∧ p = b ++ bs :=
  append_ok (by rwa [encSeq] at h)

theorem encAll_cons_ok {f : Val → Except Err Bytes} {v : Val} {vs : List Val} {p : Bytes}
    (h : encAll f (v :: vs) = .ok p) : ∃ b bs, f v = .ok b ∧ encAll f vs = .ok bs ∧ p = b ++ bs :=
  append_ok (by rwa [encAll] at h)

theorem decFields_enc (env : Env) (f g : Nat)
    (IH : ∀ t v v' b, FragN env t v v' → encV env f t v = .ok b → b.length < 2 ^ 64 → Good3 env g t v' b) :
    ∀ (fs : List Ty) (vs vs' : List Val) (p : Bytes), FragNL env fs vs vs' → encSeq (encV env f) fs vs = .ok p → p.length < 2 ^ 64 →
      ∀ (acc : List Val) (s : Stream) (tail : Bytes) (pos size : Nat) (up : List (Nat × Nat)),
        s.kind = none → s.rest = p ++ tail → s.stack = (pos, size) :: up → pos + p.length ≤ size →
        ∃ s', decFields (decV env g) (zeroV env 64) fs acc s = (.list (acc.reverse ++ vs'), none, s') ∧
          s'.kind = none ∧ s'.rest = tail ∧ s'.stack = (pos + p.length, size) :: up ∧ (fs ≠ [] → 1 ≤ p.length) := by
  intro fs
  induction fs with
  | nil =>
    intro vs vs' p hf he hp acc s tail pos size up hk hrest hst hroom
    cases hf
    simp only [encSeq, Except.ok.injEq] at he
    subst he
    exact ⟨s, by simp [decFields], hk, by simpa using hrest, by simpa using hst, by simp⟩
  | cons t ts ih =>
    intro vs vs' p hf he hp acc s tail pos size up hk hrest hst hroom
    cases hf with
    | cons _ v v' _ vs1 vs1' hfv hfl =>
      obtain ⟨b, bs, hb, hbs, rfl⟩ := encSeq_cons_ok he
      simp only [List.length_append] at hp hroom
      obtain ⟨hrt, hb1, _⟩ := IH t v v' b hfv hb (by omega)
      obtain ⟨s1, hd, hk1, hr1, hs1⟩ := hrt.step hk (by rw [hrest, List.append_assoc]) hst (by omega)
      obtain ⟨s2, hd2, hk2, hr2, hs2, _⟩ := ih vs1 vs1' bs hfl hbs (by omega) (v' :: acc) s1 tail (pos + b.length) size up
        hk1 hr1 hs1 (by omega)
      refine ⟨s2, ?_, hk2, hr2, ?_, ?_⟩
      · unfold decFields
        rw [hd]
        simp only
        rw [hd2]
        simp
      · rw [hs2]; simp only [List.length_append, Nat.add_assoc]
      · intro _; simp only [List.length_append]; omega

/-- decodeSliceElems: the elements in sequence, then EOL at the end of the list; every element is at least one byte, so
    fuel above the payload length suffices -/
theorem decElems_enc (env : Env) (f g : Nat) (e : Ty)
    (IH : ∀ v v' b, FragN env e v v' → encV env f e v = .ok b → b.length < 2 ^ 64 → Good3 env g e v' b)
    (heol : EOL (decV env g e)) :
    ∀ (vs vs' : List Val) (p : Bytes), FragNS env e vs vs' → encAll (encV env f e) vs = .ok p → p.length < 2 ^ 64 →
      ∀ (n : Nat) (acc : List Val) (s : Stream) (tail : Bytes) (pos size : Nat) (up : List (Nat × Nat)),
        p.length + 1 ≤ n → s.kind = none → s.rest = p ++ tail → s.stack = (pos, size) :: up → pos + p.length = size →
        ∃ s', decElems (decV env g e) n acc s = (.list (acc.reverse ++ vs'), none, s') ∧
          s'.kind = none ∧ s'.rest = tail ∧ s'.stack = (size, size) :: up := by
  intro vs
  induction vs with
  | nil =>
    intro vs' p hf he hp n acc s tail pos size up hn hk hrest hst hsz
    cases hf
    simp only [encAll, Except.ok.injEq] at he
    subst he
    obtain ⟨m, rfl⟩ : ∃ m, n = m + 1 := ⟨n - 1, by omega⟩
    have hae : atEnd s = true := by
      unfold atEnd; rw [hst]; simp at hsz ⊢; exact hsz
    obtain ⟨x, s', hx, h1, h2, h3⟩ := heol s hk hae
    refine ⟨s', ?_, h1, by rw [h2]; simpa using hrest, ?_⟩
    · unfold decElems; rw [hx]; simp
    · rw [h3, hst]; simp at hsz; rw [hsz]
  | cons v vs ih =>
    intro vs' p hf he hp n acc s tail pos size up hn hk hrest hst hsz
    cases hf with
    | cons _ _ v' _ vs1' hfv hfl =>
      obtain ⟨b, bs, hb, hbs, rfl⟩ := encAll_cons_ok he
      simp only [List.length_append] at hp hsz hn
      obtain ⟨m, rfl⟩ : ∃ m, n = m + 1 := ⟨n - 1, by omega⟩
      obtain ⟨hrt, hb1, _⟩ := IH v v' b hfv hb (by omega)
      obtain ⟨s1, hd, hk1, hr1, hs1⟩ := hrt.step hk (by rw [hrest, List.append_assoc]) hst (by omega)
      obtain ⟨s2, hd2, hk2, hr2, hs2⟩ := ih vs1' bs hfl hbs (by omega) m (v' :: acc) s1 tail (pos + b.length) size up
        (by omega) hk1 hr1 hs1 (by omega)
      refine ⟨s2, ?_, hk2, hr2, hs2⟩
      unfold decElems
      rw [hd]
      simp only
      rw [hd2]
      simp

theorem rt_struct (env : Env) (f g : Nat)
    (IH : ∀ t v v' b, FragN env t v v' → encV env f t v = .ok b → b.length < 2 ^ 64 → Good3 env g t v' b)
    (fs : List Ty) (vs vs' : List Val) (p : Bytes) (hfl : FragNL env fs vs vs') (hp : encSeq (encV env f) fs vs = .ok p)
    (hb : (encListHead p).length < 2 ^ 64) : RT env (g + 1) (.struct fs) (.list vs') (encListHead p) := by
  intro s tail hk hrest hroom
  obtain ⟨s1, up, hl1, hk1, hr1, hs1, hend⟩ := list_enc s p tail hk hrest hb hroom
  rw [encListHead_length] at hb
  obtain ⟨s2, hd2, hk2, hr2, hs2, hne⟩ := decFields_enc env f g IH fs vs vs' p hfl hp (by omega) [] s1 tail 0 p.length up
    hk1 hr1 hs1 (by omega)
  rw [Nat.zero_add] at hs2
  obtain ⟨s3, hd3, haft⟩ := hend s2 hr2 hs2
  refine ⟨s3, ?_, haft⟩
  simp only [decV, hl1]
  by_cases hp0 : p.length = 0
  · -- no payload, hence no fields, and `decFields` has not moved
    cases hfl with
    | cons => have := hne nofun; omega
    | nil =>
      rw [decFields] at hd2
      cases hd2
      rw [if_pos hp0, hd3]
      rfl
  · rw [if_neg hp0, hd2]
    dsimp only
    rw [hd3]
    rfl

theorem rt_slice (env : Env) (f g : Nat) (e : Ty)
    (IH : ∀ v v' b, FragN env e v v' → encV env f e v = .ok b → b.length < 2 ^ 64 → Good3 env g e v' b)
    (vs vs' : List Val) (p : Bytes) (hfs : FragNS env e vs vs') (hp : encAll (encV env f e) vs = .ok p)
    (hb : (encListHead p).length < 2 ^ 64) : RT env (g + 1) (.slice e) (.list vs') (encListHead p) := by
  intro s tail hk hrest hroom
  obtain ⟨s1, up, hl1, hk1, hr1, hs1, hend⟩ := list_enc s p tail hk hrest hb hroom
  rw [encListHead_length] at hb
  simp only [decV, hl1]
  cases hfs with
  | nil =>
    rw [encAll] at hp
    cases hp
    obtain ⟨s3, hd3, haft⟩ := hend s1 hr1 hs1
    exact ⟨s3, by simp only [List.length_nil, if_true, hd3], haft⟩
  | cons _ v0 v0' vs0 vs0' hfv hfl =>
    -- the element decoder's answer at the end of the list is that of the first element's type
    obtain ⟨b0, bs, hb0, hbs, rfl⟩ := encAll_cons_ok hp
    rw [List.length_append] at hb
    obtain ⟨_, hb1, _, heol⟩ := IH v0 v0' b0 hfv hb0 (by omega)
    obtain ⟨s2, hd2, hk2, hr2, hs2⟩ := decElems_enc env f g e IH heol (v0 :: vs0) (v0' :: vs0') (b0 ++ bs) (.cons _ _ _ _ _ hfv hfl)
      hp (by rw [List.length_append]; omega) (s1.rest.length + 2) [] s1 tail 0 (b0 ++ bs).length up
      (by simp only [hr1, List.length_append]; omega) hk1 hr1 hs1 (by omega)
    obtain ⟨s3, hd3, haft⟩ := hend s2 hr2 hs2
    refine ⟨s3, ?_, haft⟩
    rw [if_neg (by rw [List.length_append]; omega), hd2]
    dsimp only
    rw [hd3]
    rfl

/-- a non-nil pointer whose target's encoding starts with a header announcing a non-empty item -/
theorem rt_ptr_some (env : Env) (g : Nat) (e : Ty) (v' : Val) (k : Kind) (hkb : k ≠ .byte) (c : Bytes) (hc : c ≠ [])
    (hsz : (encHead (Tag.base k) (Tag.base k + 55) c.length ++ c).length < 2 ^ 64)
    (hrt : RT env g e v' (encHead (Tag.base k) (Tag.base k + 55) c.length ++ c)) (hpk : PK (decV env g e)) :
    RT env (g + 1) (.ptr e) (.ptr v') (encHead (Tag.base k) (Tag.base k + 55) c.length ++ c) := by
  intro s tail hk hrest hroom
  obtain ⟨s', hd, haft⟩ := hrt s tail hk hrest hroom
  refine ⟨s', ?_, haft⟩
  have h2 := hpk s hk
  simp only [decV]
  rw [kindOf_encHead k hkb s c.length (c ++ tail) hk (by rw [hrest, List.append_assoc])
    (by rw [List.length_append] at hsz; omega) (by simp) (by rw [← List.length_append]; exact hroom)] at h2 ⊢
  dsimp only at h2 ⊢
  rw [if_neg (fun h => hc (List.eq_nil_of_length_eq_zero h.1)), h2, hd]

theorem rt_ptr_nil (env : Env) (g : Nat) (e : Ty) (k : Kind) (hkb : k ≠ .byte) :
    RT env (g + 1) (.ptr e) .nil (encHead (Tag.base k) (Tag.base k + 55) 0) := by
  intro s tail hk hrest hroom
  simp only [decV]
  rw [kindOf_encHead k hkb s 0 tail hk hrest (by decide) (Nat.zero_le _) hroom]
  dsimp only
  rw [if_pos ⟨rfl, hkb⟩]
  exact ⟨_, rfl, rfl, rfl, rfl⟩

theorem rt_fragN (env : Env) : ∀ (f : Nat) (t : Ty) (v v' : Val) (b : Bytes), FragN env t v v' → encV env f t v = .ok b →
    b.length < 2 ^ 64 → ∀ g, f ≤ g → Good3 env g t v' b := by
  intro f
  induction f with
  | zero => intro t v v' b _ he; simp [encV] at he
  | succ f ih =>
    intro t v v' b hf he hb g hg
    obtain ⟨g', rfl⟩ : ∃ g', g = g' + 1 := ⟨g - 1, by omega⟩
    have IH : ∀ t v v' b, FragN env t v v' → encV env f t v = .ok b → b.length < 2 ^ 64 → Good3 env g' t v' b :=
      fun t v v' b h1 h2 h3 => ih t v v' b h1 h2 h3 g' (by omega)
    cases hf with
    | uint bits n hn hl =>
      simp only [encV, Except.ok.injEq] at he; subst he
      exact ⟨rt_of_sUint hn hl fun s s' h => by simp only [decV, h], (encStr_length _).1, head_kind env g' _ rfl⟩
    | int bits z h1 h2 h3 h4 h5 =>
      simp only [encV, Except.ok.injEq] at he; subst he
      exact ⟨rt_int env g' bits z hb h1 h2 h3 h4 h5, (encStr_length _).1, head_kind env g' _ rfl⟩
    | bool x =>
      cases x with
      | true | false =>
        simp only [encV, Except.ok.injEq] at he; subst he
        exact ⟨rt_bool env g' _, by simp, head_kind env g' _ rfl⟩
    | bytes bs | string bs =>
      simp only [encV, Except.ok.injEq] at he; subst he
      exact ⟨rt_of_sBytes hb fun s s' h => by simp only [decV, decBytesLike, h], (encStr_length _).1, head_kind env g' _ rfl⟩
    | bytearr bs hq =>
      simp only [encV, if_true, Except.ok.injEq] at he; subst he
      exact ⟨rt_bytearr env g' bs hb hq, (encStr_length _).1, head_kind env g' _ rfl⟩
    | bigval n =>
      rw [encV, encBig_nonneg] at he
      cases he
      exact ⟨rt_of_sBytes hb fun s s' h => by simp only [decV, decBigVal, h, natBytes_head, natBytes_val, if_false],
        (encStr_length _).1, head_kind env g' _ rfl⟩
    | bigptr n =>
      rw [encV, encBig_nonneg] at he
      cases he
      exact ⟨rt_bigptr env g' n hb, (encStr_length _).1, head_kind env g' _ rfl⟩
    | bigptrNil =>
      simp only [encV, Except.ok.injEq] at he; subst he
      exact ⟨rt_bigptr env g' 0 (by decide), by simp, head_kind env g' _ rfl⟩
    | time sec nsec h1 h2 h3 h4 =>
      simp only [encV, Except.ok.injEq] at he; subst he
      exact ⟨rt_time env g' sec nsec h1 h2 h3 h4 hb, encListHead_pos _, head_kind env g' _ rfl⟩
    | struct fs vs vs' hfl =>
      simp only [encV] at he
      split at he
      · cases he
      · next p hp =>
        cases he
        exact ⟨rt_struct env f g' IH fs vs vs' p hfl hp hb, encListHead_pos p, head_kind env g' _ rfl⟩
    | slice e vs vs' hfs =>
      simp only [encV] at he
      split at he
      · cases he
      · next p hp =>
        cases he
        exact ⟨rt_slice env f g' e (IH e) vs vs' p hfs hp hb, encListHead_pos p, head_kind env g' _ rfl⟩
    | ref id t' _ _ hd hft =>
      simp only [encV, hd] at he
      rw [Good3, RT, HeadT, decV_ref hd]
      exact IH t' v v' b hft he hb
    | cval a e _ _ hfe | cptr a e _ _ hfe =>
      -- both hand the stream to the decoder of `e` and keep its stream and its error
      simp only [encV] at he
      obtain ⟨h1, h2, hpk, heol⟩ := IH e _ _ b hfe he hb
      refine ⟨fun s tail hk hrest hroom => ?_, h2, fun s hk => ?_, fun s hk hend => ?_⟩
      · obtain ⟨s', hd, haft⟩ := h1 s tail hk hrest hroom
        exact ⟨s', by simp only [decV, hd], haft⟩
      · simp only [decV]; rw [hpk s hk]
      · obtain ⟨x, s', hx, h'⟩ := heol s hk hend
        simp only [decV, hx]
        exact ⟨_, s', rfl, h'⟩
    | ptrList e v0 v0' hfe hshape =>
      simp only [encV] at he
      obtain ⟨h1, h2, hpk, _⟩ := IH e v0 v0' b hfe he hb
      obtain ⟨p, rfl, hpne⟩ := hshape f b he
      exact ⟨rt_ptr_some env g' e v0' .list nofun p hpne hb h1 hpk, h2, head_kind env g' _ rfl⟩
    | ptrStr e v0 v0' hfe hshape =>
      simp only [encV] at he
      obtain ⟨h1, h2, hpk, _⟩ := IH e v0 v0' b hfe he hb
      obtain ⟨bs, rfl, hbne⟩ := hshape f b he
      exact ⟨rt_ptr_some env g' e v0' .string nofun bs hbne hb h1 hpk, h2, head_kind env g' _ rfl⟩
    | ptrNilList e hn =>
      rw [hn f] at he
      cases he
      exact ⟨rt_ptr_nil env g' e .list nofun, by decide, head_kind env g' _ rfl⟩
    | ptrNilStr e hn =>
      rw [hn f] at he
      cases he
      exact ⟨rt_ptr_nil env g' e .string nofun, by decide, head_kind env g' _ rfl⟩

end Props.C11
