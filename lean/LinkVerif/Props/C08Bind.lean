/-
C08, binding at full strength on top of `Props/C08Inj.lean`: with the digest instantiated as `H ∘ rlpList` (what the driver
runs, H = Keccak-256), the theorems need only `Function.Injective H`:
  `hash_binds_fields`   equal Hash() ⇒ equal payload fields and equal signatures, for every modelled kind
  `prefix_binds`        equal PrefixHash() (the RingCT message) ⇒ equal payload fields and equal account signature
  `sender_bound_to_chain`, `v_encodes_chain`   protected signatures are bound to their sign parameter
  `tamper_any_field_changes_sender_or_rejects` any change of signed fields and/or of the sign parameter
-/
import LinkVerif.Props.C08
import LinkVerif.Props.C08Inj

namespace Props.C08
open Model.SigHash Gen.SigFacts

/-- signature values the wire can carry (non-negative), of sizes Go can represent -/
def SigOK (s : Sig) : Prop :=
  0 ≤ s.v ∧ 0 ≤ s.r ∧ 0 ≤ s.s ∧ Small (beBytes s.v.toNat) ∧ Small (beBytes s.r.toNat) ∧ Small (beBytes s.s.toNat) ∧
  Small ([encInt s.v, encInt s.r, encInt s.s].flatten)

/-- the payload fields of a kind, by Go field name (the wire fields that are not the signature) -/
def payloadNames : Kind → List String
  | .tx => txSignFields
  | .tok => tokSignFields
  | .cut => serNames cutMainInfoFields
  | .utxo => utxoSignFields ++ ["RCTSig"]

/-- the names whose item is computed from the signature(s) / the embedded main info -/
def specialNames : List String :=
  ["V", "R", "S", "Signdata", "ContractUpgradeMainInfo", "Signatures", "Sigs", "Sigs.R", "Sigs.S", "Sigs.V"]

structure TxOK (t : TxV) : Prop where
  fields : ∀ n ∈ payloadNames t.kind, Framed (lookupField t n)
  sigs : ∀ s ∈ t.sigs, SigOK s
  one : t.kind ≠ .cut → ∃ s, t.sigs = [s]
  small : Small (hashItems t).flatten
  smallSigs : Small (t.sigs.map (sigItem (serNames signdataFields))).flatten
  smallMain : Small ((serNames cutMainInfoFields).map (lookupField t)).flatten

theorem sigItem_vrs (s : Sig) :
    sigItem (serNames signdataFields) s = rlpList [encInt s.v, encInt s.r, encInt s.s] := by rfl

theorem itemsOK_vrs {s : Sig} (hs : SigOK s) : ItemsOK [encInt s.v, encInt s.r, encInt s.s] := by
  obtain ⟨_, _, _, sv, sr, ss, sm⟩ := hs
  refine ⟨?_, sm⟩
  simp only [List.forall_mem_cons, List.not_mem_nil, false_imp_iff, implies_true, and_true]
  exact ⟨framed_rlpStr _ sv, framed_rlpStr _ sr, framed_rlpStr _ ss⟩

theorem framed_sigItem {s : Sig} (hs : SigOK s) : Framed (sigItem (serNames signdataFields) s) := by
  rw [sigItem_vrs]; exact framed_rlpList _ (itemsOK_vrs hs).2

theorem sig_ext {s s' : Sig} (hs : SigOK s) (hs' : SigOK s') (hv : encInt s.v = encInt s'.v)
    (hr : encInt s.r = encInt s'.r) (h : encInt s.s = encInt s'.s) : s = s' := by
  obtain ⟨v0, r0, s0, sv, sr, ss, _⟩ := hs
  obtain ⟨v0', r0', s0', sv', sr', ss', _⟩ := hs'
  cases s; cases s'
  rw [Sig.mk.injEq]
  exact ⟨encInt_inj v0 v0' sv sv' hv, encInt_inj r0 r0' sr sr' hr, encInt_inj s0 s0' ss ss' h⟩

theorem sigItem_inj {s s' : Sig} (hs : SigOK s) (hs' : SigOK s')
    (h : sigItem (serNames signdataFields) s = sigItem (serNames signdataFields) s') : s = s' := by
  rw [sigItem_vrs, sigItem_vrs] at h
  have h3 := rlpList_inj (itemsOK_vrs hs) (itemsOK_vrs hs') h
  simp only [List.cons.injEq, and_true] at h3
  exact sig_ext hs hs' h3.1 h3.2.1 h3.2.2

theorem sigOK_zero : SigOK ⟨0, 0, 0⟩ := by unfold SigOK Small; decide

theorem sigOK_sig0 {t : TxV} (ok : TxOK t) : SigOK (sig0 t) := by
  unfold sig0
  cases h : t.sigs with
  | nil => exact sigOK_zero
  | cons s ss => exact ok.sigs s (by simp [h])

theorem item_plain (t : TxV) {n : String} (h : n ∉ specialNames) : item t n = lookupField t n := by
  simp only [specialNames, List.mem_cons, List.not_mem_nil, or_false, not_or] at h
  simp [item, h]

theorem payload_plain : ∀ k, ∀ n ∈ payloadNames k, n ∉ specialNames := by
  intro k; cases k <;> decide

theorem item_payload (t : TxV) {n : String} (hn : n ∈ payloadNames t.kind) : item t n = lookupField t n :=
  item_plain t (payload_plain _ n hn)

theorem framed_item {t : TxV} (ok : TxOK t) {n : String} (hn : n ∈ payloadNames t.kind ∨ n ∈ specialNames) :
    Framed (item t n) := by
  have h0 := sigOK_sig0 ok
  have ⟨_, _, _, sv, sr, ss, _⟩ := h0
  fun_cases item t n with
  | case1 => exact framed_rlpStr _ sv
  | case2 => exact framed_rlpStr _ sr
  | case3 => exact framed_rlpStr _ ss
  | case4 => exact framed_sigItem h0
  | case5 => exact framed_rlpList _ ok.smallSigs
  | case6 => exact framed_rlpList _ ok.smallMain
  | case7 h1 h2 h3 h4 h5 h6 =>
    simp only [not_or] at h1 h2 h3 h4
    exact ok.fields n (hn.resolve_right (by
      simp only [specialNames, List.mem_cons, List.not_mem_nil, h1, h2, h3, h4, h5, h6, or_self, not_false_eq_true]))

theorem itemsOK_items {t : TxV} (ok : TxOK t) {ns : List String}
    (hns : ∀ n ∈ ns, n ∈ payloadNames t.kind ∨ n ∈ specialNames) (sm : Small (ns.map (item t)).flatten) :
    ItemsOK (ns.map (item t)) :=
  ⟨List.forall_mem_map.2 fun n hn => framed_item ok (hns n hn), sm⟩

/-- the names whose items `Hash()` hashes: the payload fields followed by the signature in the kind's spelling -/
def hashNames : Kind → List String
  | .tx => txSignFields ++ ["V", "R", "S"]
  | .tok => tokSignFields ++ ["Signdata"]
  | .cut => ["ContractUpgradeMainInfo", "Signatures"]
  | .utxo => utxoSignFields ++ ["Sigs", "RCTSig"]

/-- … which is what the regenerated struct tables say -/
theorem hashItems_eq (t : TxV) : hashItems t = (hashNames t.kind).map (item t) := by
  obtain ⟨k, f, s⟩ := t
  cases k <;> rfl

/-- payload names followed by special names, the latter in the order of `specialNames` (so that finding them costs few
    string comparisons) -/
theorem known_append {k : Kind} {ps ss : List String} (hp : ∀ n ∈ ps, n ∈ payloadNames k) (hs : ss.Sublist specialNames) :
    ∀ n ∈ ps ++ ss, n ∈ payloadNames k ∨ n ∈ specialNames :=
  fun n hn => (List.mem_append.1 hn).imp (hp n) (hs.subset ·)

theorem hashNames_known : ∀ k, ∀ n ∈ hashNames k, n ∈ payloadNames k ∨ n ∈ specialNames
  | .tx => known_append (fun _ h => h) (by decide)
  | .tok => known_append (fun _ h => h) (by decide)
  | .cut => known_append (ps := []) nofun (by decide)
  | .utxo => fun n hn => by
    -- utxoSignFields ++ ["Sigs", "RCTSig"]: "Sigs" is special, "RCTSig" is the last payload name
    rcases List.mem_append.1 hn with h | h
    · exact Or.inl (List.mem_append_left _ h)
    · rcases List.mem_cons.1 h with rfl | h
      · exact Or.inr (by decide)
      · exact Or.inl (List.mem_append_right _ h)

theorem prefixNames_known : ∀ n ∈ utxoPrefixHashFields, n ∈ payloadNames .utxo ∨ n ∈ specialNames :=
  known_append (ps := utxoSignFields) (ss := ["Sigs.R", "Sigs.S", "Sigs.V"]) (fun _ => List.mem_append_left _)
    (by decide)

theorem signNames_hashed : ∀ k, ∀ n ∈ signFieldNames k, n ∈ hashNames k
  | .tx | .tok | .cut | .utxo => fun _ => List.mem_append_left _

theorem payload_hashed : ∀ k, k ≠ .cut → (payloadNames k).Sublist (hashNames k)
  | .tx, _ | .tok, _ => List.sublist_append_left _ _
  | .utxo, _ => .append (.refl _) (.cons _ (.refl _))
  | .cut, h => absurd rfl h

theorem itemsOK_hashItems {t : TxV} (ok : TxOK t) : ItemsOK ((hashNames t.kind).map (item t)) :=
  itemsOK_items ok (hashNames_known _) (hashItems_eq t ▸ ok.small)

theorem map_inj_on {α β : Type} (f : α → β) {xs ys : List α}
    (hi : ∀ a ∈ xs, ∀ b ∈ ys, f a = f b → a = b) (h : xs.map f = ys.map f) : xs = ys :=
  List.ext_getElem (by simpa using congrArg List.length h) fun i h₁ h₂ =>
    hi _ (List.getElem_mem h₁) _ (List.getElem_mem h₂) (by
      rw [← List.getElem_map f, ← List.getElem_map f]
      exact List.getElem_of_eq h (by rwa [List.length_map]))

theorem sigs_of_sig0 {t t' : TxV} (ok : TxOK t) (ok' : TxOK t') (hk : t'.kind = t.kind) (hc : t.kind ≠ .cut)
    (h : sig0 t' = sig0 t) : t'.sigs = t.sigs := by
  obtain ⟨s, hs⟩ := ok.one hc
  obtain ⟨s', hs'⟩ := ok'.one (hk ▸ hc)
  simp only [sig0, hs, hs', List.headD_cons] at h
  rw [hs, hs', h]

section
variable {δ : Type} (H : Bytes → δ)

/-- **`hash_binds_fields`** (equal Hash() ⇒ equal content), for every modelled kind — Transaction, TokenTransaction,
    ContractUpgradeTx (any number of signatures), UTXOTransaction: every payload field and every signature is determined
    by the transaction hash.  Hypotheses: hash injectivity; sizes Go can represent (`TxOK`). -/
theorem hash_binds_fields (hH : Function.Injective H) (t t' : TxV) (hk : t'.kind = t.kind) (ok : TxOK t) (ok' : TxOK t')
    (h : H (rlpList (hashItems t')) = H (rlpList (hashItems t))) :
    (∀ n ∈ payloadNames t.kind, lookupField t' n = lookupField t n) ∧ t'.sigs = t.sigs := by
  -- equal hashes ⇒ equal items, name by name
  have hi : ∀ n ∈ hashNames t.kind, item t' n = item t n := by
    rw [hashItems_eq, hashItems_eq, hk] at h
    exact List.map_inj_left.1 (rlpList_inj (hk ▸ itemsOK_hashItems ok') (itemsOK_hashItems ok) (hH h))
  by_cases hc : t.kind = .cut
  · -- the payload is the embedded main info, the signatures a list: both are list items, opened by `rlpList_inj`
    rw [hc] at hi ⊢
    have hm := hi "ContractUpgradeMainInfo" (by decide)
    have hs := hi "Signatures" (by decide)
    simp only [item, String.reduceEq, or_self, ↓reduceIte] at hm hs
    have okm : ∀ u : TxV, TxOK u → u.kind = .cut → ItemsOK ((serNames cutMainInfoFields).map (lookupField u)) :=
      fun u oku hu => ⟨List.forall_mem_map.2 fun n hn => oku.fields n (hu ▸ hn), oku.smallMain⟩
    have oks : ∀ u : TxV, TxOK u → ItemsOK (u.sigs.map (sigItem (serNames signdataFields))) :=
      fun u oku => ⟨List.forall_mem_map.2 fun s hs => framed_sigItem (oku.sigs s hs), oku.smallSigs⟩
    exact ⟨List.map_inj_left.1 (rlpList_inj (okm t' ok' (hk.trans hc)) (okm t ok hc) hm),
      map_inj_on _ (fun a ha b hb hab => sigItem_inj (ok'.sigs a ha) (ok.sigs b hb) hab)
        (rlpList_inj (oks t' ok') (oks t ok) hs)⟩
  · -- one signature: the payload fields are hashed themselves, and the signature in one of three spellings
    refine ⟨fun n hn => ?_, sigs_of_sig0 ok ok' hk hc ?_⟩
    · rw [← item_payload t hn, ← item_payload t' (hk ▸ hn)]
      exact hi n ((payload_hashed _ hc).subset hn)
    have h0 := sigOK_sig0 ok
    have h0' := sigOK_sig0 ok'
    match t.kind, hc, hi with
    | .cut, hc, _ => exact absurd rfl hc
    | .tx, _, hi =>
      exact sig_ext h0' h0 (by simpa [item] using hi "V" (List.mem_append_right _ (by decide)))
        (by simpa [item] using hi "R" (List.mem_append_right _ (by decide)))
        (by simpa [item] using hi "S" (List.mem_append_right _ (by decide)))
    | .tok, _, hi =>
      exact sigItem_inj h0' h0 (by simpa [item] using hi "Signdata" (List.mem_append_right _ (by decide)))
    | .utxo, _, hi =>
      exact sigItem_inj h0' h0 (by simpa [item] using hi "Sigs" (List.mem_append_right _ (by decide)))

/-- **`prefix_binds`**: the RingCT message (UTXOTransaction.PrefixHash) determines inputs, outputs, token, transaction
    keys, fee, extra and the account signature -/
theorem prefix_binds (hH : Function.Injective H) (t t' : TxV) (hk : t.kind = .utxo) (hk' : t'.kind = .utxo)
    (ok : TxOK t) (ok' : TxOK t') (sp : Small (prefixItems t).flatten) (sp' : Small (prefixItems t').flatten)
    (h : H (rlpList (prefixItems t')) = H (rlpList (prefixItems t))) :
    (∀ n ∈ utxoSignFields, lookupField t' n = lookupField t n) ∧ t'.sigs = t.sigs := by
  have hi : ∀ n ∈ utxoPrefixHashFields, item t' n = item t n :=
    List.map_inj_left.1 (rlpList_inj (itemsOK_items ok' (hk' ▸ prefixNames_known) sp')
      (itemsOK_items ok (hk ▸ prefixNames_known) sp) (hH h))
  refine ⟨fun n hn => ?_, ?_⟩
  · have hpn : n ∈ payloadNames .utxo := List.mem_append_left _ hn
    rw [← item_payload t (hk ▸ hpn), ← item_payload t' (hk' ▸ hpn)]
    exact hi n (List.mem_append_left _ hn)
  · refine sigs_of_sig0 ok ok' (by rw [hk, hk']) (by rw [hk]; decide) (sig_ext (sigOK_sig0 ok') (sigOK_sig0 ok) ?_ ?_ ?_)
    · simpa [item] using hi "Sigs.V" (by decide)
    · simpa [item] using hi "Sigs.R" (by decide)
    · simpa [item] using hi "Sigs.S" (by decide)

end

/-- the big.Int V arithmetic is outside go2lean's integer subset; the hand model (`isProtectedV`, `deriveSignParam`,
    `plainRecid`, the `V - signParamMul - 8` of both `recover` methods) mirrors exactly this source text, regenerated on
    every check (and is compared with the real functions on a V grid by the `vinfo` / `sender` ops) -/
theorem v_arith_vetted :
    isProtectedVBody = ["if V != nil && V.BitLen() <= 8 { v := V.Uint64() return v != 27 && v != 28 }", "return true"] ∧
    deriveSignParamBody = ["if v == nil { return big.NewInt(0) }",
      "if v.BitLen() <= 64 { v := v.Uint64() if v == 27 || v == 28 { return new(big.Int) } return new(big.Int).SetUint64((v - 35) / 2) }",
      "v = new(big.Int).Sub(v, big.NewInt(35))", "return v.Div(v, big.NewInt(2))"] ∧
    signdataRecoverBody = ["if signParamMul == nil { return recoverPlain(hash, data.R, data.S, data.V, homestead) }",
      "V := new(big.Int).Sub(data.V, signParamMul)", "V.Sub(V, big8)", "return recoverPlain(hash, data.R, data.S, V, homestead)"] ∧
    txdataRecoverBody = signdataRecoverBody ∧
    recoverPlainBody.take 3 = ["if Vb.BitLen() > 8 { return common.EmptyAddress, ErrInvalidSig }", "V := byte(Vb.Uint64() - 27)",
      "if !crypto.ValidateSignatureValues(V, R, S, homestead) { return common.EmptyAddress, ErrInvalidSig }"] :=
  ⟨rfl, rfl, rfl, rfl, rfl⟩

/-- **full statement, chain clause for PROTECTED signatures**: for all sign parameters p ≠ p', a protected signature that the
    signer of p accepts (for any transaction, with any sender) is rejected by the signer of p' for every transaction -/
def C08_chain_statement : Prop :=
  ∀ {δ α : Type} (D : List Bytes → δ) (rec : δ → Int → Int → Int → Option α) (p p' : Nat) (t t' : TxV) (sg : Sig) (w : Who α),
    p ≠ p' → isProtectedV sg.v = true → signerSender D rec (.eip p) t sg = .ok w →
      signerSender D rec (.eip p') t' sg = .error .param

/-- **`sender_bound_to_chain`**: proved at full strength, no cryptographic hypothesis -/
theorem sender_bound_to_chain : C08_chain_statement :=
  fun D rec p p' t t' sg w hpp hprot h => chain_param_binds D rec p p' t t' sg w hprot h hpp

/-- … and independently of acceptance: ANY signature whose V encodes p is rejected by the signer of every p' ≠ p -/
theorem v_encodes_chain {δ α : Type} (D : List Bytes → δ) (rec : δ → Int → Int → Int → Option α)
    (p p' : Nat) (c : Int) (hc : c = 0 ∨ c = 1) (hpp : p ≠ p') (t : TxV) (r s : Int) :
    signerSender D rec (.eip p') t ⟨35 + 2 * p + c, r, s⟩ = .error .param := by
  obtain ⟨hd, hprot⟩ := derive_encode p c hc
  exact signerSender_other_param D rec (sg := ⟨35 + 2 * p + c, r, s⟩) hprot hd hpp t

/-- an accepted protected signature does encode its chain: the hypothesis of `v_encodes_chain` is what acceptance gives -/
theorem accepted_encodes_chain {δ α : Type} (D : List Bytes → δ) (rec : δ → Int → Int → Int → Option α)
    (p : Nat) (t : TxV) (sg : Sig) (w : Who α) (hprot : isProtectedV sg.v = true)
    (h : signerSender D rec (.eip p) t sg = .ok w) : ∃ c : Int, (c = 0 ∨ c = 1) ∧ sg.v = 35 + 2 * p + c := by
  have := (protected_accept D rec hprot h).2.1
  exact ⟨sg.v - 35 - 2 * p, by omega, by omega⟩

theorem small_beBytes_zero : Small (beBytes 0) := by unfold Small; decide

theorem itemsOK_sigHashItems {t : TxV} (ok : TxOK t) (p : Nat) (hp : Small (beBytes p))
    (sm : Small (sigHashItems (.eip p) t).flatten) : ItemsOK (sigHashItems (.eip p) t) := by
  refine ⟨?_, sm⟩
  intro b hb
  simp only [sigHashItems, signItems, hashSuffix, List.mem_append, List.mem_map, List.mem_cons, List.not_mem_nil,
    or_false] at hb
  rcases hb with ⟨n, hn, rfl⟩ | rfl | rfl | rfl
  · exact framed_item ok (hashNames_known _ n (signNames_hashed _ n hn))
  · exact framed_rlpStr _ hp
  · exact framed_rlpStr _ small_beBytes_zero
  · exact framed_rlpStr _ small_beBytes_zero

/-- **`tamper_any_field_changes_sender_or_rejects`**: the sender recovered from a protected signature under sign parameter
    p cannot be obtained with the same signature after ANY change of the signed fields (one or many at once: some
    signed field's item differs) and/or of the sign parameter.  Hypotheses: hash injectivity (`H`), the ECDSA digest
    law `RecInj`, sizes Go can represent.  (The item encoding's injectivity is proved, `rlpList_inj`.) -/
theorem tamper_any_field_changes_sender_or_rejects {δ α : Type} (H : Bytes → δ) (hH : Function.Injective H)
    (rec : δ → Int → Int → Int → Option α) (hR : RecInj rec)
    (p p' : Nat) (t t' : TxV) (hk : t'.kind = t.kind) (ok : TxOK t) (ok' : TxOK t') (hp : Small (beBytes p))
    (sm : Small (sigHashItems (.eip p) t).flatten) (sm' : Small (sigHashItems (.eip p) t').flatten)
    (sg : Sig) (a : α) (hprot : isProtectedV sg.v = true)
    (h : signerSender (fun xs => H (rlpList xs)) rec (.eip p) t sg = .ok (.addr a))
    (hch : p' ≠ p ∨ ∃ n ∈ signFieldNames t.kind, item t' n ≠ item t n) :
    signerSender (fun xs => H (rlpList xs)) rec (.eip p') t' sg ≠ .ok (.addr a) := by
  by_cases hpp : p' = p
  · subst hpp
    obtain ⟨n, hn, hne⟩ := hch.resolve_left (fun e => e rfl)
    exact fun h' => sigHashItems_field (.eip p') hk hn hne
      (rlpList_inj (itemsOK_sigHashItems ok' p' hp sm') (itemsOK_sigHashItems ok p' hp sm)
        (hH (recoverWith_binds rec hR (protected_accept _ rec hprot h).2.2 (protected_accept _ rec hprot h').2.2)))
  · rw [chain_param_binds _ rec p p' t t' sg _ hprot h (fun e => hpp e.symm)]
    nofun

def t0s : TxV := { t0 with sigs := [⟨37, 1, 1⟩] }
def t1s : TxV := { t1 with sigs := [⟨37, 1, 1⟩] }

theorem small_of_le {b : Bytes} (h : b.length ≤ 1000) : Small b := by unfold Small; omega

theorem framed_lookupField {t : TxV} {n : String} (hf : ∀ p ∈ t.fields, Framed p.2) (hn : n ∈ t.fields.map (·.1)) :
    Framed (lookupField t n) := by
  obtain ⟨p, hp, rfl⟩ := List.mem_map.1 hn
  unfold lookupField
  cases h : t.fields.find? (·.1 = p.1) with
  | none => exact absurd (decide_eq_true rfl) (List.find?_eq_none.1 h p hp)
  | some q => exact hf q (List.mem_of_find?_eq_some h)

theorem t0s_ok : TxOK t0s where
  fields := fun n hn => framed_lookupField (t := t0s) (by
    intro p hp
    simp only [t0s, t0, List.mem_cons, List.not_mem_nil, or_false] at hp
    rcases hp with rfl | rfl | rfl | rfl | rfl | rfl <;> dsimp only <;> exact framed_rlpStr _ (small_of_le (by decide))) hn
  sigs := by
    intro s hs
    cases List.mem_singleton.1 hs
    unfold SigOK Small
    decide
  one := fun _ => ⟨_, rfl⟩
  small := small_of_le (by decide)
  smallSigs := small_of_le (by decide)
  smallMain := small_of_le (by decide)

theorem t1s_ok : TxOK t1s where
  fields := fun n hn => framed_lookupField (t := t1s) (by
    intro p hp
    simp only [t1s, t1, t0, List.mem_cons, List.not_mem_nil, or_false] at hp
    rcases hp with rfl | rfl | rfl | rfl | rfl | rfl <;> dsimp only <;> exact framed_rlpStr _ (small_of_le (by decide))) hn
  sigs := t0s_ok.sigs
  one := fun _ => ⟨_, rfl⟩
  small := small_of_le (by decide)
  smallSigs := t0s_ok.smallSigs
  smallMain := small_of_le (by decide)

/-- the digest "is" the encoded bytes, every (r,s,recid) recovers the holder of the digest: an ideal instance -/
def recB : Bytes → Int → Int → Int → Option Bytes := fun d _ _ _ => some d
theorem recB_inj : RecInj recB := fun _ _ _ _ _ _ h h' => Option.some.inj (h.trans h'.symm)

/-- the hypotheses of `tamper_any_field_changes_sender_or_rejects` are satisfiable with an accepted protected signature:
    changing the nonce (7 → 8) yields a different sender -/
example : signerSender (fun xs => id (rlpList xs)) recB (.eip 1) t1s ⟨37, 1, 1⟩
    ≠ .ok (.addr (rlpList (sigHashItems (.eip 1) t0s))) :=
  tamper_any_field_changes_sender_or_rejects id (fun _ _ h => h) recB recB_inj 1 1 t0s t1s rfl t0s_ok t1s_ok
    (small_of_le (by decide)) (small_of_le (by decide)) (small_of_le (by decide)) ⟨37, 1, 1⟩ _ (by decide) (by rfl)
    (Or.inr ⟨"AccountNonce", by decide, by decide⟩)

/-- … and `hash_binds_fields` separates the two transactions' hashes -/
example : rlpList (hashItems t1s) ≠ rlpList (hashItems t0s) := by
  intro h
  have := (hash_binds_fields id (fun _ _ h => h) t0s t1s rfl t0s_ok t1s_ok h).1 "AccountNonce" (by decide)
  revert this; decide

example : signerSender (fun xs => id (rlpList xs)) recB (.eip 2) t0s ⟨37, 1, 1⟩ = .error .param :=
  v_encodes_chain _ recB 1 2 0 (Or.inl rfl) (by decide) t0s 1 1

end Props.C08
