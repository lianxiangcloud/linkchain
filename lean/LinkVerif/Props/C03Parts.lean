/-
C03: the sign-bytes also bind the PARTS HASH of the block id (`signBytes_binds_parts_hash`): upper-case hex is
injective and self-delimiting (`hexUpper_cancel`), and in the rendering of a block id with a non-zero hash and a non-empty
parts hash the two hex strings come in sequence (`blockIDJSON_flat_parts`).  Still open of `C03_signBytes_binds_statement`:
the parts total, the empty-vs-present parts hash distinction and the time rendering.
-/
import LinkVerif.Props.C03BlockId

namespace Props.C03
open Model.Vote

theorem hexUp_spec (k : Nat) (h : k < 16) : unhex (hexUp k) = k ∧ hexUp k ≠ '"' :=
  (by decide : ∀ k : Fin 16, unhex (hexUp k.val) = k.val ∧ hexUp k.val ≠ '"') ⟨k, h⟩

theorem hexUpper_cancel (a b : List UInt8) (r r' : List Char)
    (h : hexUpper a ++ '"' :: r = hexUpper b ++ '"' :: r') : a = b ∧ r = r' :=
  hex_cancel hexUp hexUp_spec h

theorem blockIDJSON_flat_parts (b : BlockID) (hb : b.hash ≠ zeroHash) (hp : b.phash ≠ []) :
    ∃ tail, blockIDJSON b = "{\"hash\":\"0x".toList ++ (hexLower b.hash ++ '"' ::
      (",\"parts\":{\"hash\":\"".toList ++ (hexUpper b.phash ++ '"' :: tail))) := by
  by_cases ht : b.total = 0
  · exact ⟨['}', '}'], by simp [blockIDJSON, partsJSON, obj, field, q, str, List.intercalate, hb, hp, ht]⟩
  · exact ⟨",\"total\":\"".toList ++ ((toString b.total).toList ++ ['"', '}', '}']),
      by simp [blockIDJSON, partsJSON, obj, field, q, str, List.intercalate, hb, hp, ht]⟩

/-- PARTIAL of `C03_signBytes_binds_statement` (proved): for ASCII chain ids and votes for a block with a parts hash, equal
sign-bytes force the same chain, block hash AND parts hash, with no assumption on any other field. -/
theorem signBytes_binds_parts_hash (m m' : Msg) (hc : ∀ b ∈ m.chain, b.toNat < 128) (hc' : ∀ b ∈ m'.chain, b.toNat < 128)
    (hb : m.bid.hash ≠ zeroHash) (hb' : m'.bid.hash ≠ zeroHash) (hp : m.bid.phash ≠ []) (hp' : m'.bid.phash ≠ [])
    (h : signBytes m = signBytes m') :
    m.chain = m'.chain ∧ m.bid.hash = m'.bid.hash ∧ m.bid.phash = m'.bid.phash := by
  obtain ⟨echain, h3⟩ := signBytes_split hc hc' h
  obtain ⟨t, e⟩ := blockIDJSON_flat_parts m.bid hb hp
  obtain ⟨t', e'⟩ := blockIDJSON_flat_parts m'.bid hb' hp'
  rw [e, e'] at h3
  simp only [List.append_assoc, List.cons_append] at h3
  obtain ⟨eh, h4⟩ := hexLower_cancel _ _ _ _ (List.append_cancel_left h3)
  obtain ⟨ep, _⟩ := hexUpper_cancel _ _ _ _ (List.append_cancel_left h4)
  exact ⟨echain, eh, ep⟩

example : signBytes bhA ≠ signBytes { bhA with bid := ⟨bhA.bid.hash, 1, [10]⟩ } := by
  intro h
  have := (signBytes_binds_parts_hash _ _ (by decide) (by decide) (by decide) (by decide) (by decide) (by decide) h).2.2
  revert this; decide

end Props.C03
