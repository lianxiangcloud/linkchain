/-
C11 — wire and storage encoding is canonical, lossless, and safe on arbitrary input.

Layer 1 (RLP framing): fully proved in Props/C11Rlp.lean
  dec_enc, enc_dec_canonical, decExact_canonical, enc_injective, enc_prefix_free, dec_total, alloc_bound, dec_progress.
Layer 2 (libs/ser conventions, Model/Ser.lean): this file and the other Props/C11*.lean.
  The full statements are kept as `def … : Prop`: C11_no_panic_statement is proved; C11_roundtrip_statement is false
  ([1]byte zero, counterexample below) and proved for the fragment `Frag`; C11_canonical_statement is false for foreign
  bytes (ParseInt leniency) and proved for encoder output of the fragment.
-/
import LinkVerif.Model.Ser
import LinkVerif.Props.C11Rlp
import LinkVerif.Props.C11NoPanic
import LinkVerif.Props.C11Map
import LinkVerif.Props.C11Round
import LinkVerif.Props.C11Roots

namespace Props.C11
open Model.Rlp Model.Ser

/-- the equality the code provides after a round trip: re-encoding equality (nil/empty and nil/zero conventions are
    exactly the values with equal encodings) -/
def Equiv (env : Env) (t : Ty) (v v' : Val) : Prop := encV env 1000 t v = encV env 1000 t v'

/-- lossless: whatever the encoder accepts, the decoder accepts, with nothing left over, and returns an equivalent value -/
def C11_roundtrip_statement : Prop :=
  ∀ (env : Env) (t : Ty) (v : Val) (b : Bytes), encodeBytes env t [] v = .ok b →
    ∃ v', decodeBytes env t false b = .ok v' ∧ Equiv env t v v'

/-- canonical: whatever the decoder accepts re-encodes to the very same bytes -/
def C11_canonical_statement : Prop :=
  ∀ (env : Env) (t : Ty) (b : Bytes) (v : Val), decodeBytes env t false b = .ok v → encodeBytes env t [] v = .ok b

/-- safe: no input makes a decoder panic -/
def C11_no_panic_statement : Prop :=
  ∀ (env : Env) (t : Ty) (pre : Bool) (b : Bytes), decodeBytes env t pre b ≠ .error .panic

/-! ParseInt leniency: "+5" decodes as the int 5, which re-encodes as "5" -/
set_option maxRecDepth 100000 in
theorem C11_canonical_counterexample : ¬ C11_canonical_statement := by
  intro h
  have h1 := h {} (.int 64) [0x82, 43, 53] (.i 5) (by rfl)
  have h2 : encodeBytes {} (.int 64) [] (.i 5) = .ok [53] := by rfl
  rw [h2] at h1
  simp at h1

/-- the encoder is partial on nil pointers to types with their own EncodeSER (it dereferences the nil receiver) -/
theorem encode_nil_custom_panics (env : Env) (a : Bool) (t : Ty) :
    encodeBytes env (.cptr a t) [] .nil = .error .panic := by
  simp [encodeBytes, encV]

/-! `struct{A [1]byte; B uint64}{A:{0},B:7}` encodes to c2 00 07; decodeByteArray stores the 0x00 but, ignoring the error of
    s.Uint(), does not consume it, so B reads 0x00 and fails with ErrCanonInt.  Replayed on the real code:
    EncodeToBytes = c20007, DecodeBytes = "rlp: non-canonical integer (leading zero bytes) for uint64".  No registered type
    contains a [1]byte (the reflection walk of the harness would report it in its descriptors). -/
set_option maxRecDepth 100000 in
theorem C11_roundtrip_counterexample : ¬ C11_roundtrip_statement := by
  intro h
  obtain ⟨v', hd, _⟩ := h {} (.struct [.bytearr 1, .uint 64]) (.list [.bytes [0], .u 7]) [0xC2, 0x00, 0x07] (by rfl)
  have : decodeBytes {} (.struct [.bytearr 1, .uint 64]) false [0xC2, 0x00, 0x07] = .error .canonInt := by rfl
  rw [this] at hd
  cases hd

/-- layer-2 round trip, stream form (`decV_encV`): for the fragment `Frag` (uint, bool, bytes, string, byte arrays,
    big integers, structs of those, nested), whatever the encoder writes, the decoder - positioned anywhere, inside any
    open lists that leave room, followed by any tail - reads back exactly, consuming exactly those bytes.  Decoder fuel
    ≥ encoder fuel suffices (so fuel is never the reason for a failure on encoder output). -/
theorem decV_encV (env : Env) (f g : Nat) (t : Ty) (v : Val) (b : Bytes) (hf : Frag t v) (he : encV env f t v = .ok b)
    (hb : b.length < 2 ^ 64) (hg : f ≤ g) : RT env g t v b :=
  (rt_fragN env f t v v b (hf.toN env) he hb g hg).1

theorem decodeBytes_of_rt {env : Env} {t : Ty} {v : Val} {b : Bytes} (hrt : RT env (2 * b.length + 200) t v b) :
    decodeBytes env t false b = .ok v := by
  obtain ⟨s', hd, _, hr, _⟩ := hrt { rest := b } [] rfl (by simp) trivial
  unfold decodeBytes
  simp only [Bool.false_eq_true, if_false, hd, hr, List.isEmpty_nil, if_true]

/-- layer-2 round trip, entry-point form: DecodeBytes (EncodeToBytes v) = v on the fragment.  `hfuel`: the encoder succeeds
    with the fuel the decoder is given (2·|b|+200; automatic for types nested less than 200 deep). -/
theorem C11_roundtrip_fragment (env : Env) (t : Ty) (v : Val) (b : Bytes) (hf : Frag t v)
    (hfuel : encV env (2 * b.length + 200) t v = .ok b) (hb : b.length < 2 ^ 64) :
    decodeBytes env t false b = .ok v :=
  decodeBytes_of_rt (decV_encV env _ _ t v b hf hfuel hb (Nat.le_refl _))

/-- canonicity of encoder output at layer 2 (fragment): decoding it and encoding the result gives the same bytes.  The
    decoded value is `v` itself, so this is the round trip once more; nothing is said of other values decoding from `b`. -/
theorem C11_reencode_fragment (env : Env) (t : Ty) (v : Val) (b : Bytes) (hf : Frag t v)
    (hfuel : encV env (2 * b.length + 200) t v = .ok b) (hb : b.length < 2 ^ 64) (f : Nat) (he : encV env f t v = .ok b) :
    ∃ v', decodeBytes env t false b = .ok v' ∧ encV env f t v' = .ok b :=
  ⟨v, C11_roundtrip_fragment env t v b hf hfuel hb, he⟩

/-! non-vacuity: a nested struct of the fragment, its bytes, and the theorem applied to it -/
example : decodeBytes {} (.struct [.uint 64, .struct [.bytes, .bool], .bigptr]) false [0xC6, 0x05, 0xC3, 0x81, 0xAA, 0x01, 0x80]
    = .ok (.list [.u 5, .list [.bytes [0xAA], .b true], .ptr (.big false 0)]) :=
  C11_roundtrip_fragment {} _ _ _
    (.struct _ _ (.cons _ _ _ _ (.uint 64 5 (by decide) (by decide))
      (.cons _ _ _ _ (.struct _ _ (.cons _ _ _ _ (.bytes _) (.cons _ _ _ _ (.bool true) .nil)))
        (.cons _ _ _ _ (.bigptr 0) .nil))))
    (by rfl) (by decide)

/-- layer-2 round trip, extended fragment `FragN` (adds hex-ASCII ints, time.Time, slices, named types, custom encoders,
    pointers and the nil-*big.Int convention): the decoder reads back `v'`, the value `FragN` relates to `v`
    (`v' = v` except nil *big.Int ↦ 0), consuming exactly the encoder's bytes, wherever the value sits -/
theorem decV_encV_N (env : Env) (f g : Nat) (t : Ty) (v v' : Val) (b : Bytes) (hf : FragN env t v v') (he : encV env f t v = .ok b)
    (hb : b.length < 2 ^ 64) (hg : f ≤ g) : RT env g t v' b :=
  (rt_fragN env f t v v' b hf he hb g hg).1

theorem C11_roundtrip_fragmentN (env : Env) (t : Ty) (v v' : Val) (b : Bytes) (hf : FragN env t v v')
    (hfuel : encV env (2 * b.length + 200) t v = .ok b) (hb : b.length < 2 ^ 64) :
    decodeBytes env t false b = .ok v' :=
  decodeBytes_of_rt (decV_encV_N env _ _ t v v' b hf hfuel hb (Nat.le_refl _))

/-! non-vacuity: a PartSetHeader-shaped value {Total int, Hash []byte} and a slice of uints through a named type -/
example : decodeBytes { defs := [(5, .struct [.int 64, .bytes])] } (.ref 5) false [0xC6, 0x82, 45, 51, 0x82, 0xAA, 0xBB]
    = .ok (.list [.i (-3), .bytes [0xAA, 0xBB]]) :=
  C11_roundtrip_fragmentN _ _ _ _ _
    (.ref 5 _ _ _ rfl (.struct _ _ _ (.cons _ _ _ _ _ _ (.int 64 (-3) (by decide) (by decide) (by decide) (by decide) (by decide))
      (.cons _ _ _ _ _ _ (.bytes _) .nil))))
    (by rfl) (by decide)
example : decodeBytes {} (.slice (.uint 64)) false [0xC2, 0x05, 0x07] = .ok (.list [.u 5, .u 7]) :=
  C11_roundtrip_fragmentN _ _ _ _ _
    (.slice _ _ _ (.cons _ _ _ _ _ (.uint 64 5 (by decide) (by decide)) (.cons _ _ _ _ _ (.uint 64 7 (by decide) (by decide)) (.nil _))))
    (by rfl) (by decide)

/-- safe on arbitrary input, clause "never crashes": for every type universe, registry, type, entry point and byte string
    the decoder's outcome is a value or an error other than `panic` (after fixes 8c7e349 and 2f1154b; before 2f1154b a
    registered prefix of a non-implementing type reached `rv.Set` and panicked) -/
theorem C11_no_panic : C11_no_panic_statement := by
  intro env t pre b
  unfold decodeBytes
  dsimp only
  have value : ∀ s, Good s → (match decV env (2 * b.length + 200) t s with
      | (_, some e, _) => Except.error e
      | (v, none, s) => if s.rest.isEmpty then .ok v else .error .moreThanOne) ≠ .error .panic := by
    intro s hg
    have hd := decV_np env (2 * b.length + 200) t s hg
    generalize decV env (2 * b.length + 200) t s = r at hd ⊢
    obtain ⟨v, _ | e, s'⟩ := r
    · dsimp only
      split <;> nofun
    · exact fun hc => hd.inE e rfl (Except.error.inj hc)
  cases pre with
  | false => exact value _ nofun
  | true =>
    have g7 := readN_kept readInv_good 7 { rest := b } nofun
    generalize readN 7 { rest := b } = r at g7 ⊢
    obtain ⟨e | bs, s1⟩ := r
    · exact fun hc => g7.inE e rfl (Except.error.inj hc)
    · exact value s1 g7.inv

/-! non-vacuity: the former panic witness (a registered prefix whose type is not assignable to the interface) is now an
    error; a truncated input is an error; the theorem is about a decoder that does accept inputs (examples below) -/
set_option maxRecDepth 100000 in
example : decodeBytes { regs := [{ idx := 0, disfix := [1, 2, 3, 4, 5, 6, 7], ptr := true, ty := none }] } (.iface []) false
    [1, 2, 3, 4, 5, 6, 7] = .error .unknownPrefix := by rfl
set_option maxRecDepth 100000 in
example : decodeBytes {} (.struct [.uint 64, .uint 64]) false [0xC1, 0x05] = .error .tooFew := by rfl

/-- decoding is total: a value or an error (as `dec_total`: true of any function into `Except`) -/
theorem decodeBytes_total (env : Env) (t : Ty) (pre : Bool) (b : Bytes) :
    (∃ v, decodeBytes env t pre b = .ok v) ∨ (∃ e, decodeBytes env t pre b = .error e) := by
  cases h : decodeBytes env t pre b with
  | error e => exact Or.inr ⟨e, rfl⟩
  | ok v => exact Or.inl ⟨v, rfl⟩

/-- unsigned integers are written as the RLP string of their minimal big-endian bytes (layer 2 reuses layer 1) -/
theorem encV_uint (env : Env) (bits n : Nat) : encodeBytes env (.uint bits) [] (.u n) = .ok (enc (.str (beBytes n))) := by
  simp [encodeBytes, encV, enc]

theorem encV_bytes (env : Env) (bs : Bytes) : encodeBytes env .bytes [] (.bytes bs) = .ok (enc (.str bs)) := by
  simp [encodeBytes, encV, enc]

set_option maxRecDepth 100000 in
example : decodeBytes {} (.uint 64) false (encStr (beBytes 1024)) = .ok (.u 1024) := by rfl
set_option maxRecDepth 100000 in
example : decodeBytes {} (.struct [.uint 64, .int 64, .bytes, .ptr (.bytearr 2)]) false
    [0xC8, 0x05, 0x82, 45, 49, 0x82, 0xAA, 0xBB, 0x80] = .ok (.list [.u 5, .i (-1), .bytes [0xAA, 0xBB], .nil]) := by rfl
set_option maxRecDepth 100000 in
example : encodeBytes {} (.struct [.uint 64, .int 64, .bytes, .ptr (.bytearr 2)]) [] (.list [.u 5, .i (-1), .bytes [0xAA, 0xBB], .nil])
    = .ok [0xC8, 0x05, 0x82, 45, 49, 0x82, 0xAA, 0xBB, 0x80] := by rfl
/-! the leniency of decodeCDCInterface: the inner decoder fails (truncated struct) and the half-built object is returned
    with no error -/
set_option maxRecDepth 100000 in
example : decodeBytes { regs := [{ idx := 0, disfix := [1, 2, 3, 4, 5, 6, 7], ptr := true, ty := some 0 }],
                        defs := [(0, .struct [.uint 64, .uint 64])] } (.iface [0]) false
    [1, 2, 3, 4, 5, 6, 7, 0xC1, 0x05] = .ok (.iface 0 (.list [.u 5, .u 0])) := by rfl

end Props.C11
