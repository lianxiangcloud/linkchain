/-
C16, gossip side — the per-peer gossip goroutines (no recover) work on a peer state whose bit arrays the PEER supplies.

What is proved about libs/common/bit_array.go and consensus/reactor.go PeerState AS THE CODE IS (Model.PeerBits,
Model.PeerState; tied to the real code by the `ba`/`ps` differential ops of the C16 harness):

* for CONSISTENT operands of ANY two sizes (`BA.WF`: what NewBitArray builds) `Sub`, `and`, `Not`, `getIndex`/`setIndex`
  at non-negative indices and `PickRandom` perform no out-of-range index, no oversized allocation, no `rand.Intn(n ≤ 0)`;
  `Sub` keeps the NODE's size and `PickRandom` answers an index below it, which is what the callers'
  `votes.GetByIndex(index)` / `parts.GetPart(index)` need (the callers, PickVoteToSend and gossipDataRoutine, appear in
  the examples and counterexamples only: no theorem is about `pickVoteToSend`);
* what `Sub` leaves (peer array at least node-sized: the regular case) is a bit the node has and the peer lacks;
* all of this is FALSE for arbitrary `Bits` and `Elems`, which the decoder fills independently.  Since fix d4aa8fb the
  reactor refuses a message whose array is not consistent before anything is stored (`validBitArraysOf`; tie:
  `peer_bitarray_stores_fact`), so consistent arrays are what reaches the operations now; the kernel-checked
  counterexamples are the messages the harness found on the tree BEFORE that fix
  (proposed/C16-peer-bitarray-unvalidated.md) and say what the validation buys.  `Or` is false even for consistent
  operands of different word counts, on either tree;
* the peer state stores CommitStep.BlockParts and ProposalPOL.ProposalPOL exactly as received (`peer_controls_*`),
  while the vote arrays are allocated by the node with the size the NODE passes (`node_sizes_its_vote_arrays`).
-/
import LinkVerif.Model.PeerState
import LinkVerif.Props.C16

namespace Props.C16Gossip
open Model.PeerInput Model.PeerBits Model.PeerState

/-- Go's wrapping, truncating `(bits + 63) / 64` is the plain quotient as long as `bits + 63` stays inside int64; 2^40 is
far enough for every size here (the largest is the `Bits` of `or_alloc_counterexample`) -/
theorem nwords_eq {b : Int} (h0 : 0 ≤ b) (h1 : b ≤ 2 ^ 40) : nwords b = (b + 63) / 64 := by
  unfold nwords
  have hin : Go.InI64 (b + 63) := by unfold Go.InI64 Go.minI64 Go.maxI64; omega
  rw [Go.wrapI64_id hin]
  exact Int.tdiv_eq_ediv_of_nonneg (by omega)

theorem words_nonneg {x : Int} (h : 0 ≤ x) : 0 ≤ (x + 63) / 64 :=
  Int.ediv_nonneg (Int.add_nonneg h (by decide)) (by decide)

theorem words_mono {x y : Int} (h : x ≤ y) : (x + 63) / 64 ≤ (y + 63) / 64 :=
  Int.ediv_le_ediv (by decide) (Int.add_le_add_right h 63)

end Props.C16Gossip

namespace Model.PeerBits.BA.WF
open Props.C16Gossip

theorem bits_le {b : BA} (h : b.WF) : b.bits ≤ 2 ^ 23 := h.2.1

theorem len {b : BA} (h : b.WF) : (b.elems.length : Int) = (b.bits + 63) / 64 :=
  nwords_eq (Int.le_of_lt h.1) (Int.le_trans h.2.1 (by decide)) ▸ h.2.2

theorem of_len {b : BA} (h0 : 0 < b.bits) (h1 : b.bits ≤ 2 ^ 23) (hl : (b.elems.length : Int) = (b.bits + 63) / 64) :
    b.WF :=
  ⟨h0, h1, (nwords_eq (Int.le_of_lt h0) (Int.le_trans h1 (by decide))).symm ▸ hl⟩

theorem len_pos {b : BA} (h : b.WF) : 0 < b.elems.length := by
  have := h.1
  have := h.len
  omega

end Model.PeerBits.BA.WF

namespace Props.C16Gossip
open Model.PeerInput Model.PeerBits Model.PeerState

theorem goCopy_length (dst src : List Word) : (goCopy dst src).length = dst.length := by
  simp only [goCopy, List.length_append, List.length_take, List.length_drop]; omega

theorem goCopy_eq_src {dst src : List Word} (h : dst.length = src.length) : goCopy dst src = src := by
  unfold goCopy
  rw [h, List.take_length, List.drop_eq_nil_of_le (Nat.le_of_eq h), List.append_nil]

/-- 2^23 words of eight bytes are `allocBound` -/
theorem makeWords_ok {n : Int} (site : String) (h0 : 0 ≤ n) (h1 : n ≤ 2 ^ 23) :
    makeWords n site = .ok (List.replicate n.toNat 0) := by
  unfold makeWords allocBound
  rw [if_neg (by omega), if_neg (by omega)]

theorem copyBits_eq (b : BA) {bits : Int} (h0 : 0 ≤ bits) (h1 : bits ≤ 2 ^ 23) :
    copyBits b bits = .ok ⟨bits, goCopy (List.replicate ((bits + 63) / 64).toNat 0) b.elems⟩ := by
  unfold copyBits
  rw [nwords_eq h0 (Int.le_trans h1 (by decide)), makeWords_ok _ (words_nonneg h0) (Int.le_trans (words_mono h1) (by decide))]
  rfl

theorem zipLoop_ok (f : Word → Word → Word) (c o : List Word) (site : String) (h : c.length ≤ o.length) :
    zipLoop f c o site = .ok (List.zipWith f c o) := by
  unfold zipLoop
  rw [if_neg (by omega)]

/-- the index obligation of `and` is `hlen`: the loop runs over the words of min(Bits) bits and reads the SAME positions
of `o` -/
theorem andRaw_eq (a o : BA) {m : Int} (hm : min a.bits o.bits = m) (h0 : 0 ≤ m) (h1 : m ≤ 2 ^ 23)
    (hlen : ((m + 63) / 64).toNat ≤ o.elems.length) :
    andRaw a o = .ok ⟨m, List.zipWith (· &&& ·) (goCopy (List.replicate ((m + 63) / 64).toNat 0) a.elems) o.elems⟩ := by
  unfold andRaw
  rw [hm, copyBits_eq a h0 h1]
  simp only [bind, Except.bind]
  rw [zipLoop_ok _ _ _ _ (by rw [goCopy_length, List.length_replicate]; exact hlen)]

theorem andRaw_total (a o : BA) (ha : a.WF) (ho : o.WF) :
    ∃ r, andRaw a o = .ok r ∧ r.bits = min a.bits o.bits ∧ (r.elems.length : Int) = (min a.bits o.bits + 63) / 64 := by
  generalize hm : min a.bits o.bits = m
  have h0 : 0 ≤ m := hm ▸ Int.le_min.2 ⟨Int.le_of_lt ha.1, Int.le_of_lt ho.1⟩
  have h1 : m ≤ 2 ^ 23 := hm ▸ Int.le_trans (Int.min_le_left _ _) ha.bits_le
  have hlen : ((m + 63) / 64).toNat ≤ o.elems.length :=
    Int.toNat_le.2 (ho.len ▸ words_mono (hm ▸ Int.min_le_right _ _))
  refine ⟨_, andRaw_eq a o hm h0 h1 hlen, rfl, ?_⟩
  simp only [List.length_zipWith, goCopy_length, List.length_replicate]
  rw [Nat.min_eq_left hlen, Int.toNat_of_nonneg (words_nonneg h0)]

theorem notRaw_WF {o : BA} (ho : o.WF) : (notRaw o).WF := by
  unfold BA.WF notRaw at *; simpa using ho

theorem word_ok (b : BA) (hl : (b.elems.length : Int) = (b.bits + 63) / 64) {i : Int} (h0 : 0 ≤ i) (hlt : i < b.bits) :
    ∃ w, ∀ site, index b.elems (Int.tdiv i 64) site = .ok w := by
  rw [Int.tdiv_eq_ediv_of_nonneg h0]
  exact Props.C16.index_ok _ _ (Int.ediv_nonneg h0 (by decide)) (by omega)

theorem getIndexRaw_ok (b : BA) (hl : (b.elems.length : Int) = (b.bits + 63) / 64) (i : Int) (h0 : 0 ≤ i) :
    ∃ v, getIndexRaw b i = .ok v := by
  unfold getIndexRaw
  by_cases h : i ≥ b.bits
  · rw [if_pos h]; exact ⟨_, rfl⟩
  · obtain ⟨w, hw⟩ := word_ok b hl h0 (Int.lt_of_not_ge h)
    rw [if_neg h, hw]; exact ⟨_, rfl⟩

theorem setIndexRaw_ok (b : BA) (hl : (b.elems.length : Int) = (b.bits + 63) / 64) (i : Int) (h0 : 0 ≤ i) (v : Bool) :
    ∃ r b', setIndexRaw b i v = .ok (r, b') ∧ b'.bits = b.bits ∧ b'.elems.length = b.elems.length := by
  unfold setIndexRaw
  by_cases h : i ≥ b.bits
  · rw [if_pos h]; exact ⟨_, _, rfl, rfl, rfl⟩
  · obtain ⟨w, hw⟩ := word_ok b hl h0 (Int.lt_of_not_ge h)
    rw [if_neg h]
    simp only [hw, bind, Except.bind]
    exact ⟨_, _, rfl, rfl, List.length_set⟩

/-! ## Sub: the operation of every gossip iteration (node array minus what the peer claims).
Peer array at least node-sized: `bA.and(o.Not())`.  Otherwise: `subClear` over the peer's full words, then `subBits` bit by
bit over the peer's last word. -/

theorem subClear_ok (c : List Word) {n : Nat} (h : n ≤ c.length) :
    ∃ es, subClear c n = .ok es ∧ es.length = c.length := by
  unfold subClear
  rw [if_neg (Nat.not_lt.2 h)]
  refine ⟨_, rfl, ?_⟩
  rw [List.length_append, List.length_replicate, List.length_drop]
  omega

theorem subBits_ok (o : BA) (hol : (o.elems.length : Int) = (o.bits + 63) / 64) (fuel : Nat) (c : BA) (idx : Int)
    (h0 : 0 ≤ idx) (hcl : (c.elems.length : Int) = (c.bits + 63) / 64) :
    ∃ r, subBits c o idx fuel = .ok r ∧ r.bits = c.bits ∧ r.elems.length = c.elems.length := by
  induction fuel generalizing c idx with
  | zero => exact ⟨c, rfl, rfl, rfl⟩
  | succ n ih =>
    unfold subBits
    by_cases h : idx < o.bits
    · have step : ∀ v, ∃ r, (do let (_, c') ← setIndexRaw c idx v; subBits c' o (idx + 1) n) = .ok r ∧
          r.bits = c.bits ∧ r.elems.length = c.elems.length := by
        intro v
        obtain ⟨_, c', hs, hb, hl⟩ := setIndexRaw_ok c hcl idx h0 v
        obtain ⟨r, hr, hb', hl'⟩ := ih c' (idx + 1) (by omega) (by rw [hb, hl]; exact hcl)
        exact ⟨r, by simp only [hs, bind, Except.bind, hr], hb'.trans hb, hl'.trans hl⟩
      obtain ⟨cv, hcv⟩ := getIndexRaw_ok c hcl idx h0
      rw [if_pos h, hcv]
      cases cv
      · exact step _
      · obtain ⟨ov, hov⟩ := getIndexRaw_ok o hol idx h0
        simp only [hov, bind, Except.bind]
        exact step _
    · rw [if_neg h]; exact ⟨c, rfl, rfl, rfl⟩

/-- **index obligations of `Sub`, all sizes**: for consistent operands of ANY two sizes `Sub` answers (no index out of
range in either array, no allocation beyond the node's own word count), and the result has the NODE's size and word count -/
theorem sub_total (a o : BA) (ha : a.WF) (ho : o.WF) :
    ∃ r, sub (some a) (some o) = .ok (some r) ∧ r.bits = a.bits ∧ (r.elems.length : Int) = (a.bits + 63) / 64 := by
  by_cases hle : a.bits ≤ o.bits
  · obtain ⟨r, hr, hb, hl⟩ := andRaw_total a (notRaw o) ha (notRaw_WF ho)
    rw [show min a.bits (notRaw o).bits = a.bits from Int.min_eq_left hle] at hb hl
    exact ⟨r, by simp only [sub, if_neg (Int.not_lt.2 hle), hr, bind, Except.bind], hb, hl⟩
  · have hgt : a.bits > o.bits := Int.lt_of_not_ge hle
    have hal := ha.len; have hol := ho.len
    have hpos := ho.len_pos
    have hlo : o.elems.length ≤ a.elems.length :=
      Int.ofNat_le.1 (by rw [hal, hol]; exact words_mono (Int.le_of_lt hgt))
    obtain ⟨es, hes, hesl⟩ := subClear_ok a.elems (Nat.le_trans (Nat.sub_le _ 1) hlo)
    obtain ⟨r, hr, hb, hl⟩ := subBits_ok o hol (o.bits - ((o.elems.length : Int) - 1) * 64).toNat ⟨a.bits, es⟩
      (((o.elems.length : Int) - 1) * 64) (by omega) (by rw [hesl]; exact hal)
    refine ⟨r, ?_, hb, by rw [hl, hesl]; exact hal⟩
    show (if a.bits > o.bits then _ else _) = _
    rw [if_pos hgt]
    simp only [hes, bind, Except.bind]
    rw [if_neg (Nat.ne_of_gt hpos)]
    simp only [hr]

theorem mem_setBitsBelow {w : Word} {n j : Nat} (h : j ∈ setBitsBelow w n) : j < n ∧ w.getLsbD j = true := by
  unfold setBitsBelow at h
  simp only [List.mem_filter, List.mem_range] at h
  exact h

/-- candidates from the words before the last: at or after bit `64·k`, before the last word -/
theorem mem_pickInner (ws : List Word) (k : Nat) (i : Int) (h : i ∈ pickInner ws k) :
    (64 * k : Int) ≤ i ∧ i + 64 < 64 * (k + ws.length : Nat) := by
  induction ws generalizing k with
  | nil => cases h
  | cons w rest ih =>
    cases rest with
    | nil => cases h
    | cons w2 rest2 =>
      simp only [pickInner, List.mem_append, List.mem_map] at h
      rcases h with ⟨j, hj, rfl⟩ | h
      · have := (mem_setBitsBelow hj).1
        simp only [List.length_cons]; omega
      · have := ih (k + 1) h
        simp only [List.length_cons] at this ⊢; omega

/-- the positions `PickRandom` scans in the last word: `Bits % 64`, or 64 if that is 0 -/
theorem lastWord_span {bits : Int} {len : Nat} (h0 : 0 < bits) (hl : (len : Int) = (bits + 63) / 64) :
    ∃ eb, (if Int.tmod bits 64 = 0 then 64 else Int.tmod bits 64) = eb ∧ 0 < eb ∧ 64 * ((len : Int) - 1) + eb = bits := by
  rw [Int.tmod_eq_emod_of_nonneg (Int.le_of_lt h0)]
  refine ⟨_, rfl, ?_⟩
  split <;> omega

/-- **index obligation of `PickRandom`**: on a consistent array it never reaches `rand.Intn(n ≤ 0)` and every index it
can answer is below `Bits` — with `sub_total`: below the NODE's size -/
theorem pick_in_range (b : BA) (hb : b.WF) :
    ∃ cs, pickCands b = .ok cs ∧ ∀ i ∈ cs, 0 ≤ i ∧ i < b.bits := by
  unfold pickCands
  cases b.elems.getLast? with
  | none => exact ⟨[], rfl, fun _ h => nomatch h⟩
  | some last =>
    obtain ⟨eb, heb, hpos, hsum⟩ := lastWord_span hb.1 hb.len
    simp only [heb]
    rw [if_neg (Int.not_lt.2 (Int.le_of_lt hpos))]
    refine ⟨_, rfl, ?_⟩
    intro i hi
    simp only [List.mem_append, List.mem_map] at hi
    rcases hi with hi | ⟨j, hj, rfl⟩
    · have := mem_pickInner b.elems 0 i hi; omega
    · have := (mem_setBitsBelow hj).1; have := hb.len_pos; omega

/-- one gossip iteration, bit arrays only (the calls around them are not in the statement): node array `a`, peer-claimed
array `o`, both consistent, ANY sizes: the difference is computed without fault and every index that can be picked from
it is `0 ≤ i < a.bits` (the node's size) -/
theorem gossip_pick_index_in_node_range (a o : BA) (ha : a.WF) (ho : o.WF) :
    ∃ d cs, sub (some a) (some o) = .ok (some d) ∧ pickCands d = .ok cs ∧ ∀ i ∈ cs, 0 ≤ i ∧ i < a.bits := by
  obtain ⟨d, hd, hb, hl⟩ := sub_total a o ha ho
  obtain ⟨cs, hcs, hr⟩ := pick_in_range d (.of_len (hb ▸ ha.1) (hb ▸ ha.2.1) (hb ▸ hl))
  exact ⟨d, cs, hd, hcs, fun i hi => hb ▸ hr i hi⟩

/-! ## arbitrary `Bits` and `Elems` (what a peer could send before fix d4aa8fb made the reactor refuse them): every
statement above fails -/

/-- the full statement one would want, for EVERY array a message can carry: refuted by `sub_total_counterexample` -/
def sub_total_statement : Prop :=
  ∀ (a o : BA), a.WF → ∃ r, sub (some a) (some o) = .ok r

/-- CommitStep.BlockParts / ProposalPOL.ProposalPOL = {Bits: 4, Elems: []} against a 4-validator (or 4-part) node array:
`and` reads o.Elems[0] — before the fix in gossipDataRoutine / gossipVotesRoutine, which have no recover -/
theorem sub_total_counterexample : ¬ sub_total_statement := by
  intro h
  obtain ⟨r, hr⟩ := h ⟨4, [15#64]⟩ ⟨4, []⟩ (by decide)
  cases hr

/-- more words than bits, peer array "smaller": the first loop of the other branch runs off the node's array -/
theorem sub_gt_counterexample :
    sub (some ⟨70, [0#64, 0#64]⟩) (some ⟨1, [0#64, 0#64, 0#64, 0#64]⟩) = .error (.panic "common.(*BitArray).Sub") := rfl

/-- negative `Bits` with a word: `PickRandom` calls `rand.Intn(-1)` (before the fix reachable in gossipDataForCatchup:
`prs.ProposalBlockParts.Not().PickRandom()`).
math/rand panics; cmn.Rand.Intn holds the process-wide mutex without a deferred unlock, so besides the panic every later
RandIntn of the process blocks for ever (seen by the harness as calls that do not return) -/
theorem pick_negative_bits_counterexample :
    pick (Model.PeerBits.not (some ⟨-1, [0#64]⟩)) = .error (.panic "common.RandIntn") := rfl

/-- `Or` sizes its result by max(Bits): VoteSetBits.Votes = {Bits: 2^40, Elems: []} asks for 128 GiB inside Receive
(a Go out-of-memory is fatal, no recover helps) -/
theorem or_alloc_counterexample :
    Model.PeerBits.or (some ⟨4, [0#64]⟩) (some ⟨2 ^ 40, []⟩) = .error (.oom (2 ^ 37)) := rfl

/-- totality of `Or` on CONSISTENT operands: refuted by `or_total_counterexample` -/
def or_total_statement : Prop := ∀ (a o : BA), a.WF → o.WF → ∃ r, Model.PeerBits.or (some a) (some o) = .ok r

/-- the loop of `Or` runs over max(Bits) words and reads o.Elems[i]: a 65-bit array or-ed with a 4-bit one indexes past
the smaller one (ApplyVoteSetBitsMessage, inside Receive: recovered per connection, the peer is dropped — allowed by the
property, recorded here because the model follows the code) -/
theorem or_total_counterexample : ¬ or_total_statement := by
  intro h
  obtain ⟨r, hr⟩ := h ⟨65, [0#64, 0#64]⟩ ⟨4, [0#64]⟩ (by decide) (by decide)
  cases hr

theorem or_total_partial (a o : BA) (ha : a.WF) (ho : o.WF) (hle : a.bits ≤ o.bits) :
    ∃ r, Model.PeerBits.or (some a) (some o) = .ok (some r) ∧ r.bits = o.bits := by
  unfold Model.PeerBits.or
  simp only [Int.max_eq_right hle]
  rw [copyBits_eq a (Int.le_of_lt ho.1) ho.bits_le]
  simp only [bind, Except.bind]
  rw [zipLoop_ok _ _ _ _ (by
    rw [goCopy_length, List.length_replicate]; exact Int.toNat_le.2 (Int.le_of_eq ho.len.symm))]
  exact ⟨_, rfl, rfl⟩

/-- `Sub` as written clears the node's OWN leading words when the peer's array is smaller and longer than one word
(`c.Elems[i] &= ^c.Elems[i]`): votes 0..63 of a 130-validator set are never offered to a peer claiming a 70-bit array.
No fault, and no wrong send (bits are only cleared; `sub_sound_le` below is about the other branch and does not cover this
case) — a liveness quirk, kept in the model because the code has it -/
theorem sub_clears_own_words_example :
    sub (some ⟨130, [BitVec.allOnes 64, BitVec.allOnes 64, 3#64]⟩) (some ⟨70, [0#64, 0#64]⟩)
      = .ok (some ⟨130, [0#64, BitVec.allOnes 64, 3#64]⟩) := by decide

/-- **what may be sent is what the node has and the peer (claims it) lacks**, word by word: every word of the difference
is `node &&& ~~~peer` of the same position (so a set bit is set in the node's word and clear in the peer's) -/
theorem sub_sound_le (a o : BA) (ha : a.WF) (ho : o.WF) (hle : a.bits ≤ o.bits) :
    ∃ r, sub (some a) (some o) = .ok (some r) ∧
      ∀ (k : Nat) (w : Word), r.elems[k]? = some w → ∃ x y : Word, a.elems[k]? = some x ∧ o.elems[k]? = some y ∧ w = x &&& ~~~ y := by
  have hand := andRaw_eq a (notRaw o) (Int.min_eq_left hle) (Int.le_of_lt ha.1) ha.bits_le
    (by unfold notRaw; rw [List.length_map]; exact Int.toNat_le.2 (ho.len ▸ words_mono hle))
  -- the copy `and` works on has exactly `a`'s word count, so `goCopy` returns `a.elems` and `and` is a plain `zipWith`
  rw [goCopy_eq_src (by rw [List.length_replicate, ← ha.len, Int.toNat_natCast])] at hand
  refine ⟨_, by simp only [sub, if_neg (Int.not_lt.2 hle), hand, bind, Except.bind]; rfl, ?_⟩
  intro k w hk
  obtain ⟨x, _, hx, hy, rfl⟩ := List.getElem?_zipWith_eq_some.1 hk
  unfold notRaw at hy
  rw [List.getElem?_map] at hy
  obtain ⟨y, hy', rfl⟩ := Option.map_eq_some_iff.1 hy
  exact ⟨x, y, hx, hy', rfl⟩

theorem store_get (ps : PS) (b : BA) : (ps.store (some b)).1.get (ps.store (some b)).2 = some b := by
  unfold PS.store PS.get; simp

/-- CommitStep: the block-part bit array of the peer state is EXACTLY what the message carried, whatever it is (the
model's `apply…` functions start where `Receive` has let the message through: since fix d4aa8fb only consistent arrays) -/
theorem peer_controls_parts (ps : PS) (h : Nat) (total : Int) (hash : Nat) (b : BA) (hh : ps.prs.height = h) :
    let ps' := applyCommitStep ps h total hash (some b)
    ps'.get ps'.prs.parts = some b ∧ ps'.prs.partsTotal = total := by
  subst hh
  unfold applyCommitStep
  rw [if_neg fun hne => hne rfl]
  exact ⟨store_get ps b, rfl⟩

/-- ProposalPOL: likewise (the POL round the peer itself announced with an unsigned Proposal) -/
theorem peer_controls_pol (ps : PS) (h : Nat) (r : Int) (b : BA) (hh : ps.prs.height = h) (hr : ps.prs.polRound = r) :
    let ps' := applyProposalPOL ps h r (some b)
    ps'.get ps'.prs.pol = some b := by
  subst hh hr
  unfold applyProposalPOL
  rw [if_neg fun hne => hne rfl, if_neg fun hne => hne rfl]
  exact store_get ps b

/-- the vote arrays are the NODE's: on a peer state that has none yet `ensureVoteBitArrays` allocates all four with the
size the node passes (the reactor passes cs.Validators.Size() / cs.LastCommit.Size(), never a peer value).  `n ≤ 2^18`
bits is generous for a validator count; `allocBound` would allow 2^29. -/
theorem node_sizes_its_vote_arrays (h : Nat) (r : Int) (n : Int) (h0 : 0 < n) (h1 : n ≤ 2 ^ 18) :
    ∃ ps', ensureVoteBitArrays { prs := { height := h, round := r } } h n = .ok ps' ∧
      (ps'.get ps'.prs.prevotes).map (·.bits) = some n ∧ (ps'.get ps'.prs.precommits).map (·.bits) = some n ∧
      (ps'.get ps'.prs.catchup).map (·.bits) = some n ∧ (ps'.get ps'.prs.pol).map (·.bits) = some n := by
  have halloc : ∀ ps : PS, ps.alloc n =
      .ok ({ ps with heap := ps.heap ++ [⟨n, List.replicate (nwords n).toNat 0⟩] }, some ps.heap.length) := by
    intro ps
    have hn := nwords_eq (Int.le_of_lt h0) (Int.le_trans h1 (by decide))
    unfold PS.alloc newBitArray
    rw [if_neg (Int.not_le.2 h0), makeWords_ok _ (hn ▸ words_nonneg (Int.le_of_lt h0))
      (hn ▸ Int.le_trans (words_mono h1) (by decide))]
    rfl
  unfold ensureVoteBitArrays
  simp only [if_true, Option.isNone_none, halloc, bind, Except.bind, pure, Except.pure]
  exact ⟨_, rfl, rfl, rfl, rfl, rfl⟩

/-! ## the failing inputs as message sequences on the peer state (kernel-checked replays of the harness witnesses on the
tree before fix d4aa8fb; `Receive` now refuses both messages before they reach the peer state) -/

/-- gossipVotesRoutine: step announcement for round 1, unsigned proposal with POL round 0, ProposalPOL {Bits:4, Elems:[]};
then one PickVoteToSend with the node's round-0 prevotes (4 validators) faults -/
theorem gossip_votes_counterexample :
    (do let ps := applyNewRoundStep {} 5 1 1 0
        let ps ← setHasProposal ps 5 1 1 7 0
        let ps := applyProposalPOL ps 5 0 (some ⟨4, []⟩)
        pickVoteToSend ps { height := 5, round := 0, type := 1, size := 4, isCommit := false, bits := some ⟨4, [15#64]⟩ } none)
      = .error (.panic "common.(*BitArray).and") := rfl

/-- gossipDataRoutine: step announcement, CommitStep with the right header and BlockParts {Bits:1, Elems:[]};
`rs.ProposalBlockParts.BitArray().Sub(prs.ProposalBlockParts.Copy())` faults -/
theorem gossip_data_counterexample :
    (let ps := applyNewRoundStep {} 5 0 1 0
     let ps := applyCommitStep ps 5 1 7 (some ⟨1, []⟩)
     sub (some ⟨1, [1#64]⟩) (ps.get ps.prs.parts)) = .error (.panic "common.(*BitArray).and") := rfl

/-! ## T2: the per-peer goroutines and the guards in front of peer-sized arrays -/

open Gen.C16Facts in
/-- AddPeer starts exactly these goroutines, and none of them has a recover (so a panic in any of them ends the process:
the theorems above are what stands between a peer and that).  A change of this table (a routine added, a recover added)
breaks the `rfl` and has to be reviewed. -/
theorem per_peer_goroutines_fact :
    peerGoroutines = [("gossipDataRoutine", false), ("gossipVotesRoutine", false), ("queryMaj23Routine", false)] := rfl

open Gen.C16Facts in
/-- where the reactor stores a bit array taken from a message, and whether a validation of that array precedes the store -/
theorem peer_bitarray_stores_fact :
    peerBitArrayStores = [("ApplyCommitStepMessage", "ps.PRS.ProposalBlockParts = msg.BlockParts", true),
                          ("ApplyProposalPOLMessage", "ps.PRS.ProposalPOL = msg.ProposalPOL", true),
                          ("ApplyVoteSetBitsMessage", "otherVotes.Or(msg.Votes)", true)] := rfl

/-! ## Non-vacuity -/
example : (⟨4, [15#64]⟩ : BA).WF := by decide
example : (⟨130, [0#64, 0#64, 3#64]⟩ : BA).WF := by decide
example : ¬ (⟨4, []⟩ : BA).WF := by decide
example : sub (some ⟨4, [15#64]⟩) (some ⟨4, [5#64]⟩) = .ok (some ⟨4, [10#64]⟩) := rfl
example : pick (some ⟨4, [10#64]⟩) = .ok [1, 3] := rfl
example : sub (some ⟨4, [15#64]⟩) (some ⟨200, [5#64, 0#64, 0#64, 0#64]⟩) = .ok (some ⟨4, [10#64]⟩) := rfl
example : sub (some ⟨70, [15#64, 1#64]⟩) (some ⟨4, [5#64]⟩) = .ok (some ⟨70, [10#64, 1#64]⟩) := rfl
example : (do let ps := applyNewRoundStep {} 5 1 1 0
              let ps ← ensureVoteBitArrays ps 5 4
              let r ← pickVoteToSend ps { height := 5, round := 1, type := 1, size := 4, isCommit := false, bits := some ⟨4, [6#64]⟩ } (some 2)
              pure (r.2.1, r.2.2)) = .ok (Picked.vote 2, true) := rfl

end Props.C16Gossip
