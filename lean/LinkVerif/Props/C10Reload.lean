/-
C10: commit + reopen recovers the tree.  `expand` is the full resolution of a database-resident (collapsed) node:
hash references are looked up in the node database and decoded with the executable decoder (trie.resolveHash +
decodeNode, applied everywhere instead of on demand).  If the database holds every node of `n` under its hash
(`Stored`, what Commit establishes when no two stored encodings collide), expanding the committed root gives back `n`:
a reopened trie is the same tree, so every later operation and every later root is the same as without the reload.
-/
import LinkVerif.Props.C10Decode

namespace Props.C10
open Model.Trie

def expand (H : Bytes → Bytes) (db : Bytes → Option Bytes) : Nat → CNode → Option Node
  | 0, _ => none
  | _ + 1, .nil => some .nil
  | _ + 1, .value v => some (.value v)
  | f + 1, .hash h =>
    match db h with
    | some buf =>
      match decodeExec buf with
      | .ok n => expand H db f n
      | _ => none
    | none => none
  | f + 1, .short k c => (expand H db f c).map (.short k)
  | f + 1, .full c =>
    if (List.finRange 17).all (fun i => (expand H db f (c i)).isSome) then
      some (.full fun i => (expand H db f (c i)).getD .nil)
    else none

/-- the database resolves the hash of every short/full node of the tree to its encoding -/
def Stored (H : Bytes → Bytes) (db : Bytes → Option Bytes) : Node → Prop
  | .nil => True
  | .value _ => True
  | .short k c => db (H (enc H (.short k c))) = some (enc H (.short k c)) ∧ Stored H db c
  | .full c => db (H (enc H (.full c))) = some (enc H (.full c)) ∧ ∀ i, Stored H db (c i)

/-- fuel that suffices: two steps per level (reference + node) -/
def height : Node → Nat
  | .nil => 1
  | .value _ => 1
  | .short _ c => height c + 2
  | .full c => 2 + ((List.finRange 17).map fun i => height (c i)).sum

theorem mem_le_sum : ∀ (l : List Nat) (x : Nat), x ∈ l → x ≤ l.sum
  | [], _, h => by cases h
  | a :: l, x, h => by
    simp only [List.sum_cons]
    rcases List.mem_cons.mp h with rfl | h'
    · omega
    · have := mem_le_sum l x h'; omega

theorem height_child_le (c : Nib → Node) (i : Nib) : height (c i) ≤ ((List.finRange 17).map fun i => height (c i)).sum :=
  mem_le_sum _ _ (List.mem_map.mpr ⟨i, List.mem_finRange i, rfl⟩)

section
variable (H : Bytes → Bytes) (db : Bytes → Option Bytes)

theorem stored_lookup : ∀ (c : Node), WF c → c.isValue = false →
    Stored H db c → db (H (enc H c)) = some (enc H c)
  | .nil, h, _, _ => absurd h (by simp [WF])
  | .value _, _, h, _ => by simp [Node.isValue] at h
  | .short _ _, _, _, hs => hs.1
  | .full _, _, _, hs => hs.1

/-- resolving a child slot: an embedded child directly, a hash through the database and the decoder -/
theorem expand_slot (h32 : H32 H) {b : Bool} {c : Node}
    (hp : Pos b c) (hs : Sane H c) (hst : Stored H db c)
    (ih : ∀ fuel, height c ≤ fuel → expand H db fuel (collapse H c) = some c) (f : Nat) (hf : height c + 1 ≤ f) :
    expand H db f (slot H b c) = some c := by
  unfold slot
  by_cases hc : (b || decide ((enc H c).length < 32)) = true
  · rw [if_pos hc]; exact ih f (by omega)
  · rw [if_neg hc]
    simp only [Bool.or_eq_true, decide_eq_true_eq, not_or, Bool.not_eq_true] at hc
    rcases hp with h0 | ⟨hw, hv⟩
    · rw [isNil_eq h0] at hc; exact absurd (enc_nil_short H) hc.2
    · cases f with
      | zero => omega
      | succ f' =>
        have e1 := stored_lookup H db c hw (hv.trans hc.1) hst
        have e2 := decodeExec_enc H h32 c hw (hv.trans hc.1) hs
        generalize enc H c = e at e1 e2 ⊢
        simp only [expand, e1, e2]
        exact ih f' (by omega)

/-- COMMIT + REOPEN: full resolution of the committed form gives back the tree -/
theorem expand_collapse (h32 : H32 H) :
    ∀ (n : Node) (v : Bool), Pos v n → Sane H n → Stored H db n →
      ∀ fuel, height n ≤ fuel → expand H db fuel (collapse H n) = some n := by
  intro n v hp
  induction v, n, hp using pos_induction with
  | nil v =>
    intro _ _ fuel hf
    cases fuel with
    | zero => exact absurd hf (Nat.not_succ_le_zero 0)
    | succ f => rfl
  | value w =>
    intro _ _ fuel hf
    cases fuel with
    | zero => exact absurd hf (Nat.not_succ_le_zero 0)
    | succ f => rfl
  | short k c _ _ hwc ih =>
    intro hs hst fuel hf
    cases fuel with
    | zero => exact absurd hf (Nat.not_succ_le_zero _)
    | succ f =>
      simp only [height] at hf
      simp only [collapse_short, expand, expand_slot H db h32 (pos_of_wf hwc) hs.2 hst.2 (ih hs.2 hst.2) f (by omega)]
      rfl
  | full c hw ih =>
    intro hs hst fuel hf
    simp only [height] at hf
    cases fuel with
    | zero => omega
    | succ f =>
      have hchild : ∀ i, expand H db f (slot H (decide (i = term)) (c i)) = some (c i) := fun i =>
        expand_slot H db h32 (pos_child hw i) (hs.2 i) (hst.2 i) (ih i (hs.2 i) (hst.2 i)) f
          (by have := height_child_le c i; omega)
      simp only [collapse_full, expand, hchild]
      simp

end

/-- reopening: resolve the root hash, then everything below it -/
def reload (H : Bytes → Bytes) (db : Bytes → Option Bytes) (fuel : Nat) (rootHash : Bytes) : Option Node :=
  expand H db fuel (.hash rootHash)

/-- FULL STATEMENT: a non-empty normal-form trie whose nodes are all in the database is recovered from its root hash
alone — commit followed by reopen is the identity on trees, hence on every later lookup, update and root -/
def C10_reload_statement : Prop :=
  ∀ (H : Bytes → Bytes), H32 H → ∀ (db : Bytes → Option Bytes) (n : Node), Pos false n → n.isNil = false → Sane H n →
    Stored H db n → reload H db (height n + 1) (root H n) = some n

theorem C10_reload : C10_reload_statement := by
  intro H h32 db n hn hne hs hst
  obtain ⟨hw, hv⟩ := pos_not_nil hn hne
  unfold reload root
  have e1 := stored_lookup H db n hw hv hst
  have e2 := decodeExec_enc H h32 n hw hv hs
  generalize enc H n = e at e1 e2 ⊢
  simp only [expand, e1, e2]
  exact expand_collapse H db h32 n false hn hs hst (height n) (Nat.le_refl _)

end Props.C10
