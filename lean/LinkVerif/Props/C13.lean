/-
C13 — committed history survives crashes and pruning.  Theorems over Model.Stores; facts from Gen.C13Facts.
-/
import LinkVerif.Model.Stores
import LinkVerif.Gen.C13Facts

namespace Props.C13
open Model.Stores

/-! ## T2 facts: the source still has the shape the model mirrors -/

/-- app.CommitBlock: state commit(s), balance records, block store, confidential-output store, mempool — in this order -/
theorem commit_order_fact :
    Gen.C13Facts.commitBlockCalls = ["Commit", "Commit", "Save", "SaveBlock", "SaveUtxo", "Update"] := rfl

/-- BlockStore.SaveBlock: receipts / results / transaction index (goroutines, joined), then the batch, then the descriptor -/
theorem saveblock_order_fact :
    Gen.C13Facts.saveBlockCalls = ["saveReceipts", "saveTxsResult", "SaveTxEntry", "Wait", "Commit", "Save", "SetSync"] := rfl

/-- UtxoStore: key images, then outputs (two batches), then the per-token maximum sequence -/
theorem saveutxo_order_fact :
    Gen.C13Facts.saveUtxoCalls = ["SaveKImages", "SaveUtxoOutputs"] ∧
    Gen.C13Facts.saveOutputsCalls = ["Commit", "Commit", "saveTokenUtxoOutputSeq"] := ⟨rfl, rfl⟩

/-- the guards and bounds of the two pruning loops are the ones `pruneB` / `pruneS` model -/
theorem prune_loops_fact :
    Gen.C13Facts.pruneBlocksGuards = ["maxHeight < keepLatestBlocks || maxHeight-keepLatestBlocks < minHeight"] ∧
    Gen.C13Facts.pruneBlocksLoops = ["minHeight <= maxHeight-keepLatestBlocks"] ∧
    Gen.C13Facts.pruneStatusGuards = ["maxHeight < minHeight+keepLatestBlocks"] ∧
    Gen.C13Facts.pruneStatusLoops = ["minHeight < maxHeight"] ∧
    Gen.C13Facts.pruneStatusDeletes =
      ["minHeight != keepVals => cs.blockExec.db.Delete(calcValidatorsKey(minHeight))",
       "minHeight != keepParams => cs.blockExec.db.Delete(calcConsensusParamsKey(minHeight))"] ∧
    Gen.C13Facts.pruneStatusAssigns =
      ["minHeight := cs.startDeleteHeight", "maxHeight := cs.Height", "maxHeight -= keepLatestBlocks",
       "info := loadValidatorsInfo(cs.blockExec.db, maxHeight); info != nil && info.ValidatorSet == nil => keepVals = info.LastHeightChanged",
       "info := loadConsensusParamsInfo(cs.blockExec.db, maxHeight); info != nil && info.ConsensusParams == (types.ConsensusParams{}) => keepParams = info.LastHeightChanged",
       "cs.startDeleteHeight = minHeight"] :=
  ⟨rfl, rfl, rfl, rfl, rfl, rfl⟩

/-- saveStatus: the records of the next height are written before the status that names it -/
theorem savestatus_order_fact :
    Gen.C13Facts.saveStatusCalls = ["saveValidatorsInfo", "saveConsensusParamsInfo", "SetSync(statusKey)", "saveLastTenStatus"] := rfl

/-- whatever write of the status save a crash cuts, a status that survived finds the records of its next height -/
theorem status_never_ahead_of_records (k : Nat) : statusAdvanced k = true → nextRecords k = true := by
  simp only [statusAdvanced, nextRecords, applied, Bool.and_eq_true, decide_eq_true_eq]
  omega

example : statusAdvanced 4 = true ∧ statusAdvanced 3 = false ∧ nextRecords 3 = true := by decide

/-! ## Part 1: pruning keeps the retention window readable -/

/-- invariant of the record structure: pointers are monotone, point at or below their height, and point at full records;
deleted status records lie below the status loop's start height; the full parameter record (height 1) is never deleted -/
structure Inv (s : St) : Prop where
  ptr_pos : ∀ h, 1 ≤ h → h ≤ s.H + 1 → 1 ≤ s.ptr h
  ptr_le : ∀ h, 1 ≤ h → h ≤ s.H + 1 → s.ptr h ≤ h
  ptr_mono : ∀ a b, 1 ≤ a → a ≤ b → b ≤ s.H + 1 → s.ptr a ≤ s.ptr b
  ptr_idem : ∀ h, 1 ≤ h → h ≤ s.H + 1 → s.ptr (s.ptr h) = s.ptr h
  startS_le : s.startS ≤ s.H + 1
  delV_lt : ∀ h, s.delV h = true → h < s.startS
  delP_lt : ∀ h, s.delP h = true → h < s.startS
  delP_one : s.delP 1 = false

/-- the retention window of K blocks: nothing inside it has been deleted, and no record inside it points at a deleted one -/
structure Win (K : Nat) (s : St) : Prop where
  wB : ∀ h, s.delB h = true → h + K ≤ s.H
  wV : ∀ h, s.delV h = true → h + K ≤ s.H
  wP : ∀ h, s.delP h = true → h + K ≤ s.H
  wT : ∀ h, 1 ≤ h → h ≤ s.H + 1 → s.H + 1 ≤ h + K → s.delV (s.ptr h) = false

theorem init_inv : Inv ({} : St) :=
  { ptr_pos := fun _ _ _ => Nat.le_refl 1, ptr_le := fun _ h _ => h, ptr_mono := fun _ _ _ _ _ => Nat.le_refl 1,
    ptr_idem := fun _ _ _ => rfl, startS_le := Nat.zero_le _, delV_lt := nofun, delP_lt := nofun, delP_one := rfl }

theorem init_win (K : Nat) : Win K ({} : St) :=
  { wB := nofun, wV := nofun, wP := nofun, wT := fun _ _ _ _ => rfl }

variable {s : St}

/-! a commit adds the record of height `H + 2` and touches nothing else -/

theorem commit_ptr_below (s : St) (c : Bool) {h : Nat} (hh : h ≤ s.H + 1) : (commit s c).ptr h = s.ptr h :=
  if_neg (Nat.ne_of_lt (Nat.lt_succ_of_le hh))

theorem commit_ptr_full (s : St) : (commit s true).ptr (s.H + 2) = s.H + 2 := by simp [commit]

theorem commit_ptr_same (s : St) : (commit s false).ptr (s.H + 2) = s.ptr (s.H + 1) := by simp [commit]

theorem commit_top (c : Bool) (hi : Inv s) :
    1 ≤ (commit s c).ptr (s.H + 2) ∧ (commit s c).ptr (s.H + 2) ≤ s.H + 2 ∧ s.ptr (s.H + 1) ≤ (commit s c).ptr (s.H + 2) ∧
    (commit s c).ptr ((commit s c).ptr (s.H + 2)) = (commit s c).ptr (s.H + 2) := by
  have h0 : 1 ≤ s.H + 1 := Nat.le_add_left 1 s.H
  have hl := hi.ptr_le _ h0 (Nat.le_refl _)
  cases c
  · rw [commit_ptr_same, commit_ptr_below s false hl]
    exact ⟨hi.ptr_pos _ h0 (Nat.le_refl _), Nat.le_succ_of_le hl, Nat.le_refl _, hi.ptr_idem _ h0 (Nat.le_refl _)⟩
  · rw [commit_ptr_full, commit_ptr_full]
    exact ⟨Nat.le_add_left 1 _, Nat.le_refl _, Nat.le_succ_of_le hl, rfl⟩

theorem commit_height {c : Bool} {h : Nat} (hh : h ≤ (commit s c).H + 1) : h ≤ s.H + 1 ∨ h = s.H + 2 := by
  have : h ≤ s.H + 2 := hh
  omega

theorem commit_inv (c : Bool) (hi : Inv s) : Inv (commit s c) := by
  obtain ⟨t1, t2, t3, t4⟩ := commit_top c hi
  refine ⟨?_, ?_, ?_, ?_, Nat.le_succ_of_le hi.startS_le, hi.delV_lt, hi.delP_lt, hi.delP_one⟩
  · intro h h1 h2
    rcases commit_height h2 with hb | rfl
    · rw [commit_ptr_below s c hb]; exact hi.ptr_pos h h1 hb
    · exact t1
  · intro h h1 h2
    rcases commit_height h2 with hb | rfl
    · rw [commit_ptr_below s c hb]; exact hi.ptr_le h h1 hb
    · exact t2
  · intro a b h1 h2 h3
    rcases commit_height h3 with hb | rfl
    · rw [commit_ptr_below s c hb, commit_ptr_below s c (Nat.le_trans h2 hb)]; exact hi.ptr_mono a b h1 h2 hb
    · rcases commit_height (Nat.le_trans h2 h3) with ha | rfl
      · rw [commit_ptr_below s c ha]; exact Nat.le_trans (hi.ptr_mono a _ h1 ha (Nat.le_refl _)) t3
      · exact Nat.le_refl _
  · intro h h1 h2
    rcases commit_height h2 with hb | rfl
    · rw [commit_ptr_below s c hb, commit_ptr_below s c (Nat.le_trans (hi.ptr_le h h1 hb) hb)]; exact hi.ptr_idem h h1 hb
    · exact t4

theorem commit_win {K : Nat} (c : Bool) (hi : Inv s) (hw : Win K s) : Win K (commit s c) := by
  refine ⟨fun h hd => Nat.le_succ_of_le (hw.wB h hd), fun h hd => Nat.le_succ_of_le (hw.wV h hd),
    fun h hd => Nat.le_succ_of_le (hw.wP h hd), ?_⟩
  intro h h1 h2 h3
  have h3 : s.H + 2 ≤ h + K := h3
  show s.delV ((commit s c).ptr h) = false
  rcases commit_height h2 with hb | rfl
  · rw [commit_ptr_below s c hb]; exact hw.wT h h1 hb (Nat.le_of_succ_le h3)
  · cases c
    · rw [commit_ptr_same]; exact hw.wT (s.H + 1) (Nat.le_add_left 1 _) (Nat.le_refl _) (by omega)
    · -- the new full record lies above every deletion
      rw [commit_ptr_full]
      cases hd : s.delV (s.H + 2) with
      | false => rfl
      | true => have := hi.delV_lt _ hd; have := hi.startS_le; omega

theorem pruneB_inv (K : Nat) (hi : Inv s) : Inv (pruneB s K) := by
  unfold pruneB; split
  · exact hi
  · exact ⟨hi.ptr_pos, hi.ptr_le, hi.ptr_mono, hi.ptr_idem, hi.startS_le, hi.delV_lt, hi.delP_lt, hi.delP_one⟩

theorem pruneB_win {K K' : Nat} (hk : K ≤ K') (hw : Win K s) : Win K (pruneB s K') := by
  unfold pruneB; split
  · exact hw
  · rename_i hc
    refine ⟨?_, hw.wV, hw.wP, hw.wT⟩
    intro h hd
    simp only [Bool.or_eq_true, Bool.and_eq_true, decide_eq_true_eq] at hd
    rcases hd with hd | ⟨_, hd⟩
    · exact hw.wB h hd
    · have hK : K' ≤ s.H := Nat.le_of_not_lt (fun h => hc (Or.inl h))
      exact Nat.le_trans (Nat.add_le_add_left hk h) (Nat.add_le_of_le_sub hK hd)

/-! the status loop: below `startS` everything deletable is gone already, so a record at or above it is present -/

/-- a height that fails the bound every deleted height meets has not been deleted -/
theorem kept_of {d : Nat → Bool} {P : Nat → Prop} (hd : ∀ h, d h = true → P h) {h : Nat} (hn : ¬ P h) : d h = false :=
  Bool.eq_false_iff.mpr (fun hh => hn (hd h hh))

theorem presentV_of_kept {h : Nat} (h1 : 1 ≤ h) (h2 : h ≤ s.H + 1) (hd : s.delV h = false) : presentV s h = true := by
  simp [presentV, h1, h2, hd]

theorem presentP_of_kept {h : Nat} (h1 : 1 ≤ h) (h2 : h ≤ s.H + 1) (hd : s.delP h = false) : presentP s h = true := by
  simp [presentP, h1, h2, hd]

/-- one deletion mask of `pruneS`: a height it marks was deleted before, or lies below `f` and is not the spared height `t`
(`b`: there is one) -/
theorem del_cases {d b : Bool} {a f h t : Nat} (hd : (d || (decide (a ≤ h) && decide (h < f) && h != if b then t else 0)) = true) :
    d = true ∨ (h < f ∧ (b = true → h ≠ t)) := by
  simp only [Bool.or_eq_true, Bool.and_eq_true, decide_eq_true_eq, bne_iff_ne, ne_eq] at hd
  exact hd.imp id (fun hd => ⟨hd.1.2, fun hb => by have := hd.2; rwa [if_pos hb] at this⟩)

/-- an effective run of the status loop keeps everything from `f = H + 1 - K` on: what it deletes lies below `f` and is
neither the pointer target of `f` nor the full parameter record; the loop start moves to `f` -/
theorem pruneS_cases (s : St) (K : Nat) : pruneS s K = s ∨ ∃ f dV dP, f = s.H + 1 - K ∧ s.startS ≤ f ∧
    pruneS s K = { s with delV := dV, delP := dP, startS := f } ∧
    (∀ h, dV h = true → s.delV h = true ∨ (h < f ∧ ((presentV s f && s.ptr f != f) = true → h ≠ s.ptr f))) ∧
    (∀ h, dP h = true → s.delP h = true ∨ (h < f ∧ ((presentP s f && f != 1) = true → h ≠ 1))) := by
  unfold pruneS
  by_cases hc : s.H + 1 < s.startS + K
  · rw [if_pos hc]; exact Or.inl rfl
  · rw [if_neg hc]
    exact Or.inr ⟨_, _, _, rfl, Nat.le_sub_of_add_le (Nat.le_of_not_lt hc), rfl, fun h hd => del_cases hd, fun h hd => del_cases hd⟩

theorem pruneS_inv (K : Nat) (hi : Inv s) : Inv (pruneS s K) := by
  rcases pruneS_cases s K with he | ⟨f, dV, dP, hf, hst, he, hV, hP⟩ <;> rw [he]
  · exact hi
  · have hfH : f ≤ s.H + 1 := hf ▸ Nat.sub_le _ _
    refine ⟨hi.ptr_pos, hi.ptr_le, hi.ptr_mono, hi.ptr_idem, hfH, ?_, ?_, ?_⟩
    · exact fun h hd => (hV h hd).elim (fun h0 => Nat.lt_of_lt_of_le (hi.delV_lt h h0) hst) (·.1)
    · exact fun h hd => (hP h hd).elim (fun h0 => Nat.lt_of_lt_of_le (hi.delP_lt h h0) hst) (·.1)
    · -- height 1 is deleted only if it lies below `f`; then `f` is present and is not 1
      cases hd : dP 1 with
      | false => exact hd
      | true =>
        rcases hP 1 hd with h0 | ⟨h1, h2⟩
        · rw [hi.delP_one] at h0; cases h0
        · have hp := presentP_of_kept (Nat.le_of_lt h1) hfH (kept_of hi.delP_lt (Nat.not_lt.mpr hst))
          exact absurd rfl (h2 (by simpa [hp] using Nat.ne_of_gt h1))

theorem pruneS_win {K K' : Nat} (hk : K ≤ K') (hi : Inv s) (hw : Win K s) : Win K (pruneS s K') := by
  rcases pruneS_cases s K' with he | ⟨f, dV, dP, hf, hst, he, hV, hP⟩ <;> rw [he]
  · exact hw
  · have below : ∀ h, h < f → h + K ≤ s.H := fun h hlt => by omega
    refine ⟨hw.wB, fun h hd => (hV h hd).elim (hw.wV h) (fun h1 => below h h1.1),
      fun h hd => (hP h hd).elim (hw.wP h) (fun h1 => below h h1.1), fun h h1 (h2 : h ≤ s.H + 1) (h3 : s.H + 1 ≤ h + K) => ?_⟩
    show dV (s.ptr h) = false
    cases hd : dV (s.ptr h) with
    | false => rfl
    | true =>
      exfalso
      rcases hV _ hd with h0 | ⟨hlt, hne⟩
      · rw [hw.wT h h1 h2 h3] at h0; cases h0
      · -- the target lies below `f ≤ h`, so `f` has the same target, and that one is spared
        have hf1 : 1 ≤ f := Nat.le_trans (hi.ptr_pos h h1 h2) (Nat.le_of_lt hlt)
        have hfh : f ≤ h := hf ▸ Nat.sub_le_of_le_add (Nat.le_trans h3 (Nat.add_le_add_left hk h))
        have hfH : f ≤ s.H + 1 := Nat.le_trans hfh h2
        have hm2 := hi.ptr_mono (s.ptr h) f (hi.ptr_pos h h1 h2) (Nat.le_of_lt hlt) hfH
        rw [hi.ptr_idem h h1 h2] at hm2
        have heq : s.ptr f = s.ptr h := Nat.le_antisymm (hi.ptr_mono f h hf1 hfh h2) hm2
        have hp := presentV_of_kept hf1 hfH (kept_of hi.delV_lt (Nat.not_lt.mpr hst))
        exact hne (by simpa [hp, heq] using Nat.ne_of_lt hlt) heq.symm

theorem step_inv (op : Op) (hi : Inv s) : Inv (step s op) := by
  cases op with
  | commit c => exact commit_inv c hi
  | prune K => exact pruneS_inv K (pruneB_inv K hi)

theorem step_win {K : Nat} (op : Op) (hop : ∀ K', op = .prune K' → K ≤ K') (hi : Inv s) (hw : Win K s) :
    Win K (step s op) := by
  cases op with
  | commit c => exact commit_win c hi hw
  | prune K' => exact pruneS_win (hop K' rfl) (pruneB_inv K' hi) (pruneB_win (hop K' rfl) hw)

theorem run_inv_win {K : Nat} (ops : List Op) (hops : ∀ K', Op.prune K' ∈ ops → K ≤ K') (s : St) (hi : Inv s) (hw : Win K s) :
    Inv (run s ops) ∧ Win K (run s ops) := by
  induction ops generalizing s with
  | nil => exact ⟨hi, hw⟩
  | cons op rest ih =>
    simp only [run, List.foldl_cons]
    exact ih (fun K' h => hops K' (List.mem_cons_of_mem _ h)) (step s op) (step_inv op hi)
      (step_win op (fun K' h => hops K' (by rw [h]; exact List.mem_cons_self)) hi hw)

/-- inside the window everything is readable: the block (and its commits, receipts, index entries), the validator set in
force (the one recorded at the height of its last change) and the parameters -/
theorem window_readable {K : Nat} (hi : Inv s) (hw : Win K s) (h : Nat) (h1 : 1 ≤ h) (h3 : s.H < h + K) :
    (h ≤ s.H → loadBlock s h = true) ∧
    (h ≤ s.H + 1 → loadVals s h = .found (s.ptr h) ∧ loadParams s h = .found 1) := by
  refine ⟨fun h2 => by simp [loadBlock, h1, h2, kept_of hw.wB (Nat.not_le_of_lt h3)], fun h2 => ⟨?_, ?_⟩⟩
  · have hpv : presentV s (s.ptr h) = true :=
      presentV_of_kept (hi.ptr_pos h h1 h2) (Nat.le_trans (hi.ptr_le h h1 h2) h2) (hw.wT h h1 h2 (Nat.succ_le_of_lt h3))
    unfold loadVals
    rw [presentV_of_kept h1 h2 (kept_of hw.wV (Nat.not_le_of_lt h3)), hpv]
    by_cases he : s.ptr h = h <;> simp [he]
  · unfold loadParams
    rw [presentP_of_kept h1 h2 (kept_of hw.wP (Nat.not_le_of_lt h3)), presentP_of_kept (Nat.le_refl 1) (Nat.le_trans h1 h2) hi.delP_one]
    by_cases he : h = 1 <;> simp [he]

/-- **C13, pruning clause.**  For every history of block commits (with validator changes at arbitrary heights) and pruning
runs whose retention windows are all at least K, every one of the last K heights — and the height being decided — is
readable: block records, the validator set in force there, the parameters.  Holds for all K, all chain lengths, all
change heights (the statement for the code after fixes 73260cb and c4498a3). -/
def C13_prune_statement : Prop :=
  ∀ (K : Nat) (ops : List Op), (∀ K', Op.prune K' ∈ ops → K ≤ K') →
    let s := run {} ops
    ∀ h, 1 ≤ h → s.H < h + K →
      (h ≤ s.H → loadBlock s h = true) ∧ (h ≤ s.H + 1 → loadVals s h = .found (s.ptr h) ∧ loadParams s h = .found 1)

theorem C13_prune : C13_prune_statement := by
  intro K ops hops s h h1 h3
  obtain ⟨hi, hw⟩ := run_inv_win ops hops {} init_inv (init_win K)
  exact window_readable hi hw h h1 h3

/-- the pointer of a record points at or below its height, at a record that points at itself (a full one).  That the record
it names is still there for a height inside the window (no PanicSanity branch) is `Win.wT`, used by `window_readable` -/
theorem window_pointer_sound {s : St} (hi : Inv s) (h : Nat) (h1 : 1 ≤ h) (h2 : h ≤ s.H + 1) :
    s.ptr h ≤ h ∧ s.ptr (s.ptr h) = s.ptr h := ⟨hi.ptr_le h h1 h2, hi.ptr_idem h h1 h2⟩

/-- a pruning run deletes nothing above the last committed height (`Win 0`).  That it keeps the window it was given is
`pruneS_win` after `pruneB_win` with `K = K'`, which is how `C13_prune` uses them -/
theorem prune_deletes_below {s : St} (K' : Nat) (hi : Inv s) (hw : Win 0 s) : Win 0 (prune s K') :=
  pruneS_win (Nat.zero_le _) (pruneB_inv K' hi) (pruneB_win (Nat.zero_le _) hw)

/-! non-vacuity: a chain of 10 blocks with validator changes at blocks 3 and 8, pruned with K = 3 at heights 7 and 10 -/
def nv_ops : List Op :=
  [.commit false, .commit false, .commit true, .commit false, .commit false, .commit false, .commit false, .prune 3,
   .commit true, .commit false, .commit false, .prune 3, .prune 20]

example : (run {} nv_ops).H = 10 := by decide
example : ((List.range 10).map (fun i => loadBlock (run {} nv_ops) (i + 1))) =
    [false, false, false, false, false, false, false, true, true, true] := by decide
example : ((List.range 11).map (fun i => loadVals (run {} nv_ops) (i + 1))) =
    [.missing, .missing, .missing, .found 4, .missing, .missing, .missing, .found 4, .found 9, .found 9, .found 9] := by decide
example : ((List.range 11).map (fun i => loadParams (run {} nv_ops) (i + 1))) =
    [.found 1, .missing, .missing, .missing, .missing, .missing, .missing, .found 1, .found 1, .found 1, .found 1] := by decide
/-- the record a retained height points to (height 4, below the window) was kept -/
example : loadVals (run {} nv_ops) 8 = .found 4 ∧ (run {} nv_ops).delV 4 = false ∧ (run {} nv_ops).delV 5 = true := by decide

/-! ## Part 2: crash points of one block commit -/

/-- the order the code writes in (facts above): transaction index < block records < descriptor < key images < outputs <
maximum sequence -/
def CodeOrder (q : Seq) : Prop :=
  0 < q.txIndex ∧ q.txIndex < q.blockRec ∧ q.blockRec < q.desc ∧ q.desc < q.keyImages ∧ q.keyImages < q.outputs ∧
  q.outputs < q.maxSeq ∧ q.maxSeq ≤ q.len

instance (q : Seq) : Decidable (CodeOrder q) := inferInstanceAs (Decidable (_ ∧ _))

/-- what C13 demands: whatever the block carries and wherever the crash falls, the stores agree after the restart -/
def C13_crash_statement : Prop := ∀ (q : Seq) (c : Content) (k : Nat), CodeOrder q → verdict q c k = []

/-- trie-mode sequence of a block with confidential transactions as the harness logs it (14 writes) -/
def cex_q : Seq := { len := 14, txIndex := 2, blockRec := 7, desc := 8, keyImages := 10, outputs := 11, maxSeq := 13 }
def cex_c : Content := { txs := 2, spends := 1, outs := 3 }

/-- false of the code: a crash right after the height descriptor (k = 9) leaves the confidential-output store one block
behind the block store, and the inputs the committed block spent can be spent again -/
theorem C13_crash_counterexample : ¬ C13_crash_statement := by
  intro h
  have := h cex_q cex_c 9 (by decide)
  exact absurd this (by decide)

theorem cex_verdict : verdict cex_q cex_c 9 =
    ["committed-spend-committed-again-after-restart", "utxo-store-behind-block-store"] := rfl
theorem cex_index : verdict cex_q cex_c 8 = ["tx-index-ahead"] := rfl

theorem applied_pos {p k : Nat} (hp : 0 < p) : applied p k = decide (p < k) := by simp [applied, hp]

/-- in the code's order every write occurs: it is durable exactly when it lies before the crash point -/
theorem CodeOrder.applied {q : Seq} (ho : CodeOrder q) (k : Nat) :
    applied q.txIndex k = decide (q.txIndex < k) ∧ applied q.blockRec k = decide (q.blockRec < k) ∧
    applied q.desc k = decide (q.desc < k) ∧ applied q.keyImages k = decide (q.keyImages < k) ∧
    applied q.outputs k = decide (q.outputs < k) ∧ applied q.maxSeq k = decide (q.maxSeq < k) := by
  obtain ⟨o1, o2, o3, o4, o5, o6, _⟩ := ho
  have p2 := Nat.lt_trans o1 o2
  have p3 := Nat.lt_trans p2 o3
  have p4 := Nat.lt_trans p3 o4
  have p5 := Nat.lt_trans p4 o5
  exact ⟨applied_pos o1, applied_pos p2, applied_pos p3, applied_pos p4, applied_pos p5, applied_pos (Nat.lt_trans p5 o6)⟩

theorem utxoBehind_iff (q : Seq) (c : Content) (k : Nat) (ho : CodeOrder q) :
    utxoBehind q c k = true ↔ (q.desc < k ∧ ((0 < c.spends ∧ k ≤ q.keyImages) ∨ (0 < c.outs ∧ k ≤ q.maxSeq))) := by
  obtain ⟨_, _, a3, a4, a5, a6⟩ := ho.applied k
  obtain ⟨_, _, _, _, _, o6, _⟩ := ho
  have hm : (k ≤ q.outputs ∨ k ≤ q.maxSeq) ↔ k ≤ q.maxSeq := ⟨fun h => h.elim (fun h => Nat.le_trans h (Nat.le_of_lt o6)) id, Or.inr⟩
  simp only [utxoBehind, a3, a4, a5, a6, Bool.and_eq_true, Bool.or_eq_true, Bool.not_eq_true', decide_eq_true_eq,
    decide_eq_false_iff_not, Nat.not_lt, hm]

/-- a committed spend can be committed again exactly when the crash falls after the descriptor and not after the key-image batch -/
theorem respend_iff (q : Seq) (c : Content) (k : Nat) (ho : CodeOrder q) :
    respend q c k = true ↔ (0 < c.spends ∧ q.desc < k ∧ k ≤ q.keyImages) := by
  obtain ⟨_, _, a3, a4, _, _⟩ := ho.applied k
  simp only [respend, a3, a4, Bool.and_eq_true, Bool.not_eq_true', decide_eq_true_eq, decide_eq_false_iff_not, Nat.not_lt]
  exact ⟨fun h => ⟨h.1.2, h.1.1, h.2⟩, fun h => ⟨⟨h.2.1, h.1⟩, h.2.2⟩⟩

theorem txIndexAhead_iff (q : Seq) (c : Content) (k : Nat) (ho : CodeOrder q) :
    txIndexAhead q c k = true ↔ (0 < c.txs ∧ q.blockRec < k ∧ k ≤ q.desc) := by
  obtain ⟨a1, a2, a3, _⟩ := ho.applied k
  obtain ⟨_, o2, _⟩ := ho
  simp only [txIndexAhead, a1, a2, a3, Bool.and_eq_true, Bool.not_eq_true', decide_eq_true_eq, decide_eq_false_iff_not, Nat.not_lt]
  exact ⟨fun h => ⟨h.1.1.2, h.2, h.1.1.1⟩, fun h => ⟨⟨⟨h.2.2, h.1⟩, Nat.lt_trans o2 h.2.1⟩, h.2.1⟩⟩

theorem verdict_nil (q : Seq) (c : Content) (k : Nat) :
    verdict q c k = [] ↔ respend q c k = false ∧ txIndexAhead q c k = false ∧ utxoBehind q c k = false := by
  unfold verdict
  cases respend q c k <;> cases txIndexAhead q c k <;> cases utxoBehind q c k <;> simp

/-- exactly which crash points are inconsistent, for every sequence in the code's order and every block content -/
theorem crash_verdict_iff (q : Seq) (c : Content) (k : Nat) (ho : CodeOrder q) :
    verdict q c k = [] ↔
      ¬ ((0 < c.txs ∧ q.blockRec < k ∧ k ≤ q.desc) ∨
         (q.desc < k ∧ ((0 < c.spends ∧ k ≤ q.keyImages) ∨ (0 < c.outs ∧ k ≤ q.maxSeq)))) := by
  rw [verdict_nil, Bool.eq_false_iff, Bool.eq_false_iff, Bool.eq_false_iff, Ne, Ne, Ne,
    respend_iff q c k ho, txIndexAhead_iff q c k ho, utxoBehind_iff q c k ho]
  -- a respend is one of the two ways the confidential store lags
  exact ⟨fun h => fun hx => hx.elim h.2.1 h.2.2,
    fun h => ⟨fun a => h (Or.inr ⟨a.2.1, Or.inl ⟨a.1, a.2.2⟩⟩), fun b => h (Or.inl b), fun c => h (Or.inr c)⟩⟩

/-- **C13, crash clause, partial.**  Consistent after a crash before the block records are durable or after the last
confidential-store write, and — for blocks without transactions — at every crash point.  An acknowledged commit
(no crash inside the sequence) is never lost: the descriptor is written, the restart height is the new height. -/
theorem crash_consistent_partial (q : Seq) (c : Content) (k : Nat) (ho : CodeOrder q)
    (hk : k ≤ q.blockRec ∨ q.maxSeq < k ∨ (c.txs = 0 ∧ c.spends = 0 ∧ c.outs = 0)) : verdict q c k = [] := by
  rw [crash_verdict_iff q c k ho]
  obtain ⟨_, _, o3, o4, o5, o6, _⟩ := ho
  rintro (⟨_, _, _⟩ | ⟨_, ⟨_, _⟩ | ⟨_, _⟩⟩) <;> omega

theorem acknowledged_not_lost (q : Seq) (c : Content) (k : Nat) (ho : CodeOrder q) (hk : q.len < k) :
    heightAfter q k = 1 ∧ verdict q c k = [] := by
  have hv := crash_consistent_partial q c k ho
  obtain ⟨_, _, a3, _⟩ := ho.applied k
  obtain ⟨_, _, _, o4, o5, o6, o7⟩ := ho
  have hm : q.maxSeq < k := Nat.lt_of_le_of_lt o7 hk
  have hd : q.desc < k := by omega
  exact ⟨by rw [heightAfter, a3, decide_eq_true hd]; rfl, hv (Or.inr (Or.inl hm))⟩

/-- the restart height is the old or the new height, never anything else -/
theorem height_old_or_new (q : Seq) (k : Nat) : heightAfter q k = 0 ∨ heightAfter q k = 1 := by
  unfold heightAfter; split <;> simp

example : CodeOrder cex_q := by decide
example : verdict cex_q cex_c 7 = [] ∧ verdict cex_q cex_c 14 = [] ∧ verdict cex_q cex_c 15 = [] := by decide
example : verdict cex_q { txs := 1, spends := 0, outs := 0 } 10 = [] := by decide

/-! ## Part 4: the consensus status reflects the same prefix as the application after every restart -/

/-- consensus/state.go finalizeCommit, consensus/execution.go ApplyBlock, node/node.go NewNode's rebuild of the status -/
theorem finalize_order_fact :
    Gen.C13Facts.finalizeCommitCalls = ["CommitBlock", "WriteSync", "ApplyBlock"] ∧
    Gen.C13Facts.applyBlockSteps = ["updateStatus", "SaveStatus"] ∧
    Gen.C13Facts.startupRebuild =
      ["if status.LastBlockHeight+1 == appHeight", "LoadBlockMeta", "LoadBlock", "GetValidators", "ApplyBlock"] := ⟨rfl, rfl, rfl⟩

/-- at rest the three heights agree -/
def Synced (s : Heights) : Prop := s.status = s.app ∧ s.walEnd ≤ s.app ∧ s.app ≤ s.walEnd + 1

theorem restartNode_app (s : Heights) : (restartNode s).app = s.app := by
  unfold restartNode; split <;> rfl

theorem restartNode_status_le (s : Heights) : s.status ≤ (restartNode s).status := by
  unfold restartNode; split
  · rename_i h; exact Nat.le_of_succ_le (Nat.le_of_eq h)
  · exact Nat.le_refl _

theorem restartNode_synced {s : Heights} (h : s.status = s.app ∨ s.status + 1 = s.app) :
    (restartNode s).status = (restartNode s).app := by
  unfold restartNode; split
  · rfl
  · rename_i hne; exact h.resolve_right hne

theorem commitCut_le (s : Heights) (k : Nat) :
    s.app ≤ (commitCut s k).app ∧ s.status ≤ (commitCut s k).status ∧ (commitCut s k).app ≤ s.app + 1 := by
  unfold commitCut; dsimp only
  refine ⟨?_, ?_, ?_⟩ <;> split <;> omega

/-- whatever step of finalizeCommit a crash cuts, the restarted node's status is at the application's height.  Nothing is
stated about `walEnd`: after a crash between the application commit and the marker it is one behind (catchupReplay then
finds no marker for the previous height and the node proceeds from the rebuilt status) -/
theorem status_catches_up (s : Heights) (k : Nat) (h : s.status = s.app) :
    (restartNode (commitCut s k)).status = (restartNode (commitCut s k)).app := by
  apply restartNode_synced
  -- the status step is the last of the three: it is taken only if the application step was
  by_cases h3 : 3 ≤ k
  · exact Or.inl (by simp [commitCut, h, h3, Nat.le_trans (by decide : 1 ≤ 3) h3])
  · by_cases h1 : 1 ≤ k
    · exact Or.inr (by simp [commitCut, h, h3, h1])
    · exact Or.inl (by simp [commitCut, h, h3, h1])

/-- along every history of commits and crash-restarts from genesis the status is at the application's height after every
operation (step by step nothing goes backwards and the application advances by at most one block: `node_history_monotone`) -/
theorem node_history_synced (ops : List NodeOp) :
    let s := ops.foldl nodeStep ⟨0, 0, 0⟩
    s.status = s.app := by
  have key : ∀ (ops : List NodeOp) (s : Heights), s.status = s.app → (ops.foldl nodeStep s).status = (ops.foldl nodeStep s).app := by
    intro ops
    induction ops with
    | nil => intro s h; exact h
    | cons op rest ih =>
      intro s h
      apply ih
      cases op with
      | commit => simp [nodeStep, commitCut, h]
      | crash k => exact status_catches_up s k h
  exact key ops ⟨0, 0, 0⟩ rfl

theorem node_history_monotone (s : Heights) (op : NodeOp) (h : s.status = s.app) :
    s.app ≤ (nodeStep s op).app ∧ s.status ≤ (nodeStep s op).status ∧ (nodeStep s op).app ≤ s.app + 1 := by
  cases op with
  | commit => exact commitCut_le s 3
  | crash k =>
    show s.app ≤ (restartNode (commitCut s k)).app ∧ s.status ≤ (restartNode (commitCut s k)).status ∧
      (restartNode (commitCut s k)).app ≤ s.app + 1
    rw [restartNode_app]
    exact ⟨(commitCut_le s k).1, Nat.le_trans (commitCut_le s k).2.1 (restartNode_status_le _), (commitCut_le s k).2.2⟩

example : restartNode (commitCut ⟨7, 7, 7⟩ 1) = ⟨8, 7, 8⟩ := by decide
example : restartNode (commitCut ⟨7, 7, 7⟩ 2) = ⟨8, 8, 8⟩ := by decide
example : restartNode (commitCut ⟨7, 7, 7⟩ 0) = ⟨7, 7, 7⟩ := by decide

end Props.C13
