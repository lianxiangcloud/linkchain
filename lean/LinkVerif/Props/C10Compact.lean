/-
C10: `compactToHex (hexToCompact k) = k` on the keys of normal-form short nodes.
The first byte of a compact key is `16 f + x`: flag nibble `f` = 2·(terminator) + (odd length), `x` the odd nibble or 0;
`compactToHex` undoes it for each of the four flags (`compactToHex_flag`).
-/
import LinkVerif.Props.C10Rlp
import LinkVerif.Props.C10Basic

namespace Props.C10
open Model.Trie

/-- plain nibbles: no terminator -/
def Nibs (h : List Nib) : Prop := ∀ x ∈ h, x ≠ term

theorem nib_lt {x : Nib} (h : x ≠ term) : x.val < 16 :=
  Nat.lt_of_le_of_ne (Nat.le_of_lt_succ x.isLt) fun e => h (Fin.ext e)

theorem fin17_val {n : Nat} (h : n < 17) : (Fin.ofNat 17 n).val = n := Nat.mod_eq_of_lt h

theorem fin_ofNat_val (x : Nib) : Fin.ofNat 17 x.val = x := Fin.ext (fin17_val x.isLt)

theorem fin17_ne_term (n : Nat) (h : n < 16) : Fin.ofNat 17 n ≠ term :=
  fun e => Nat.ne_of_lt h ((fin17_val (Nat.lt_succ_of_lt h)).symm.trans (congrArg Fin.val e))

theorem keybytesToHex_cons (x : UInt8) (a : Bytes) :
    keybytesToHex (x :: a) = Fin.ofNat 17 (x.toNat / 16) :: Fin.ofNat 17 (x.toNat % 16) :: keybytesToHex a := rfl

theorem keybytesToHex_length (bs : Bytes) : (keybytesToHex bs).length = 2 * bs.length + 1 := by
  induction bs with
  | nil => rfl
  | cons b bs ih => rw [keybytesToHex_cons]; simp only [List.length_cons, ih]; omega

/-- a byte is `16 q + r` with nibbles `q`, `r`; stated with variables so that what follows is linear arithmetic -/
theorem byte_nibbles (x : UInt8) :
    ∃ q r, q < 16 ∧ r < 16 ∧ x.toNat = 16 * q + r ∧ x.toNat / 16 = q ∧ x.toNat % 16 = r :=
  ⟨x.toNat / 16, x.toNat % 16, Nat.div_lt_of_lt_mul x.toNat_lt, Nat.mod_lt _ (by decide),
    (Nat.div_add_mod _ _).symm, rfl, rfl⟩

theorem byte_lt_iff (x y : UInt8) :
    x < y ↔ Fin.ofNat 17 (x.toNat / 16) < Fin.ofNat 17 (y.toNat / 16) ∨
      (Fin.ofNat 17 (x.toNat / 16) = Fin.ofNat 17 (y.toNat / 16) ∧
        Fin.ofNat 17 (x.toNat % 16) < Fin.ofNat 17 (y.toNat % 16)) := by
  obtain ⟨q1, r1, hq1, hr1, e1, d1, m1⟩ := byte_nibbles x
  obtain ⟨q2, r2, hq2, hr2, e2, d2, m2⟩ := byte_nibbles y
  rw [d1, m1, d2, m2, UInt8.lt_iff_toNat_lt, Fin.lt_def, Fin.lt_def, Fin.ext_iff, fin17_val (Nat.lt_succ_of_lt hq1),
    fin17_val (Nat.lt_succ_of_lt hq2), fin17_val (Nat.lt_succ_of_lt hr1), fin17_val (Nat.lt_succ_of_lt hr2), e1, e2]
  omega

theorem byte_eq_iff (x y : UInt8) :
    x = y ↔ Fin.ofNat 17 (x.toNat / 16) = Fin.ofNat 17 (y.toNat / 16) ∧
      Fin.ofNat 17 (x.toNat % 16) = Fin.ofNat 17 (y.toNat % 16) := by
  refine ⟨fun h => h ▸ ⟨rfl, rfl⟩, fun ⟨h1, h2⟩ => UInt8.toNat_inj.mp ?_⟩
  obtain ⟨q1, r1, hq1, hr1, e1, d1, m1⟩ := byte_nibbles x
  obtain ⟨q2, r2, hq2, hr2, e2, d2, m2⟩ := byte_nibbles y
  have d := congrArg Fin.val h1
  have m := congrArg Fin.val h2
  rw [d1, d2, fin17_val (Nat.lt_succ_of_lt hq1), fin17_val (Nat.lt_succ_of_lt hq2)] at d
  rw [m1, m2, fin17_val (Nat.lt_succ_of_lt hr1), fin17_val (Nat.lt_succ_of_lt hr2)] at m
  rw [e1, e2, d, m]

theorem keybytesToHex_cons_ofNat {n a b : Nat} (hn : n = a * 16 + b) (ha : a < 16) (hb : b < 16) (bs : Bytes) :
    keybytesToHex (UInt8.ofNat n :: bs) = Fin.ofNat 17 a :: Fin.ofNat 17 b :: keybytesToHex bs := by
  have e1 : n / 16 = a := by
    rw [hn, Nat.add_comm, Nat.add_mul_div_right _ _ (by decide), Nat.div_eq_of_lt hb, Nat.zero_add]
  have e2 : n % 16 = b := by rw [hn, Nat.add_comm, Nat.add_mul_mod_self_right, Nat.mod_eq_of_lt hb]
  rw [keybytesToHex_cons, u8_toNat_ofNat (by omega), e1, e2]

theorem keybytesToHex_packNibbles :
    ∀ (h : List Nib), Nibs h → h.length % 2 = 0 → keybytesToHex (packNibbles h) = h ++ [term]
  | [], _, _ => rfl
  | [_], _, h => by simp at h
  | a :: b :: r, hn, hl => by
    have ih := keybytesToHex_packNibbles r (fun x hx => hn x (List.mem_cons_of_mem _ (List.mem_cons_of_mem _ hx)))
      (by rw [List.length_cons, List.length_cons] at hl; omega)
    rw [packNibbles, keybytesToHex_cons_ofNat rfl (nib_lt (hn a List.mem_cons_self))
      (nib_lt (hn b (List.mem_cons_of_mem _ List.mem_cons_self))), ih, fin_ofNat_val, fin_ofNat_val]
    rfl

theorem hasTerm_concat (h : List Nib) : hasTerm (h ++ [term]) = true := by
  simp [hasTerm]

theorem hasTerm_nibs {h : List Nib} (hn : Nibs h) : hasTerm h = false := by
  unfold hasTerm
  cases hl : h.getLast? with
  | none => rfl
  | some x => exact beq_eq_false_iff_ne.mpr fun e => hn x (List.mem_of_getLast? hl) (Option.some.inj e)

/-- `compactToHex` on a first byte with flag nibble `f` and low nibble `x`, followed by an even number of packed plain
nibbles `r`: flags 0, 1 drop the terminator that `keybytesToHex` appends, odd flags keep `x` -/
theorem compactToHex_flag {n f x : Nat} (hn : n = f * 16 + x) (hf : f < 4) (hx : x < 16) (r : List Nib) (hr : Nibs r)
    (hl : r.length % 2 = 0) :
    compactToHex (UInt8.ofNat n :: packNibbles r) =
      .ok ((Fin.ofNat 17 f :: Fin.ofNat 17 x :: (if f < 2 then r else r ++ [term])).drop (2 - f % 2)) := by
  have hv : (Fin.ofNat 17 f).val = f := fin17_val (Nat.lt_trans hf (by decide))
  have hlen : ∀ (a b : Nib) (l : List Nib), ¬ 2 - f % 2 > (a :: b :: l).length := fun _ _ l =>
    Nat.not_lt.mpr (Nat.le_trans (Nat.sub_le _ _) (Nat.le_add_left 2 l.length))
  have hbase : keybytesToHex (UInt8.ofNat n :: packNibbles r) = Fin.ofNat 17 f :: Fin.ofNat 17 x :: (r ++ [term]) := by
    rw [keybytesToHex_cons_ofNat hn (Nat.lt_trans hf (by decide)) hx, keybytesToHex_packNibbles r hr hl]
  have hdl : (Fin.ofNat 17 f :: Fin.ofNat 17 x :: (r ++ [term])).dropLast = Fin.ofNat 17 f :: Fin.ofNat 17 x :: r :=
    List.dropLast_concat (l₁ := Fin.ofNat 17 f :: Fin.ofNat 17 x :: r)
  unfold compactToHex
  rw [if_neg (by exact Bool.false_ne_true), hbase]
  simp only [hv, hdl]
  by_cases h2 : f < 2
  · rw [if_pos h2, if_pos h2, if_neg (hlen _ _ _)]
  · rw [if_neg h2, if_neg h2, if_neg (hlen _ _ _)]

theorem keyOK_shape : ∀ (k : List Nib) (v : Bool), KeyOK v k → ∃ h, Nibs h ∧ k = if v then h ++ [term] else h
  | [], _, h => h.elim
  | x :: r, v, h => by
    rcases keyOK_cons.mp h with ⟨rfl, h1⟩ | ⟨h0, h1, h2⟩
    · cases v
      · exact ⟨[x], fun y hy => List.mem_singleton.mp hy ▸ fun e => Bool.noConfusion (h1.mp e), rfl⟩
      · exact ⟨[], nofun, by rw [h1.mpr rfl]; rfl⟩
    · obtain ⟨h', hn, e⟩ := keyOK_shape r v h2
      refine ⟨x :: h', fun y hy => ?_, by rw [e]; cases v <;> rfl⟩
      rcases List.mem_cons.mp hy with rfl | hy
      · exact h1
      · exact hn y hy

theorem compact_roundtrip {k : List Nib} {t : Bool} (hk : KeyOK t k) :
    compactToHex (hexToCompact k) = .ok k ∧ hasTerm k = t := by
  obtain ⟨h, hn, rfl⟩ := keyOK_shape k t hk
  have ht : hasTerm (if t then h ++ [term] else h) = t := by
    cases t
    · exact hasTerm_nibs hn
    · exact hasTerm_concat h
  have hbody : (if t = true then (if t then h ++ [term] else h).dropLast else (if t then h ++ [term] else h)) = h := by
    cases t
    · rfl
    · exact List.dropLast_concat
  refine ⟨?_, ht⟩
  unfold hexToCompact
  simp only [ht, hbody]
  by_cases hodd : h.length % 2 = 1
  · rw [if_pos hodd]
    cases h with
    | nil => exact absurd hodd (by decide)
    | cons x r =>
      have hx := nib_lt (hn x List.mem_cons_self)
      have hr : Nibs r := fun y hy => hn y (List.mem_cons_of_mem _ hy)
      have hl : r.length % 2 = 0 := by rw [List.length_cons] at hodd; omega
      cases t
      · rw [compactToHex_flag (f := 1) (x := x.val) (by simp only [Bool.false_eq_true, if_false]) (by decide) hx r hr hl,
          fin_ofNat_val]
        rfl
      · rw [compactToHex_flag (f := 3) (x := x.val) (by simp only [if_true]) (by decide) hx r hr hl, fin_ofNat_val]
        rfl
  · rw [if_neg hodd]
    have hl : h.length % 2 = 0 := by omega
    cases t
    · rw [compactToHex_flag (f := 0) (x := 0) (by simp only [Bool.false_eq_true, if_false]) (by decide) (by decide) h hn hl]
      rfl
    · rw [compactToHex_flag (f := 2) (x := 0) (by simp only [if_true]) (by decide) (by decide) h hn hl]
      rfl

end Props.C10
