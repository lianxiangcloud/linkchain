/-
C04, domain separation: the methods of the signing interface that keep NO height/round/step record
(`SignHeartbeat`, and `SignData` as used by the one in-tree caller) can never produce a signature over the
sign-bytes of a vote or a proposal, whatever the field values and the chain ids are — so they cannot be used to
obtain a conflicting vote/proposal signature, and a vote signature is never a proposal signature.
-/
import LinkVerif.Model.SignDomains

namespace Props.C04
open Model.SignDomains

/-- the three type tags differ in the first byte (`v`, `p`, `h`) -/
theorem canonical_ne_of_tag (E : StrEnc) {a b : UInt8} {s t : Bytes} (h : a ≠ b) (c1 c2 : String) (r1 r2 : Bytes) :
    canonical E (a :: s) c1 r1 ≠ canonical E (b :: t) c2 r2 := by
  intro heq
  unfold canonical at heq
  have h1 := List.append_cancel_left heq
  have h2 := (E.selfDelim c1 c2 _ _ h1).2
  exact h (List.cons.inj (List.append_cancel_left h2)).1

theorem heartbeat_ne_vote (E : StrEnc) (ch cv : String) (th tv : Bytes) : heartbeatBytes E ch th ≠ voteBytes E cv tv :=
  canonical_ne_of_tag E (by decide) ch cv th tv

theorem heartbeat_ne_proposal (E : StrEnc) (ch cp : String) (th tp : Bytes) : heartbeatBytes E ch th ≠ proposalBytes E cp tp :=
  canonical_ne_of_tag E (by decide) ch cp th tp

/-- **vote ≠ proposal**: a signature released for a vote is never a signature over a proposal (the HRS record keeps
them apart by step; this is the payload-level reason) -/
theorem vote_ne_proposal (E : StrEnc) (cv cp : String) (tv tp : Bytes) : voteBytes E cv tv ≠ proposalBytes E cp tp :=
  canonical_ne_of_tag E (by decide) cv cp tv tp

def C04_domain_statement : Prop :=
  ∀ (E : StrEnc) (c1 c2 : String) (t1 t2 : Bytes),
    heartbeatBytes E c1 t1 ≠ voteBytes E c2 t2 ∧ heartbeatBytes E c1 t1 ≠ proposalBytes E c2 t2 ∧ voteBytes E c1 t1 ≠ proposalBytes E c2 t2

theorem C04_domains_disjoint : C04_domain_statement :=
  fun E c1 c2 t1 t2 => ⟨heartbeat_ne_vote E c1 c2 t1 t2, heartbeat_ne_proposal E c1 c2 t1 t2, vote_ne_proposal E c1 c2 t1 t2⟩

theorem canonical_head (E : StrEnc) (tag : Bytes) (c : String) (t : Bytes) : (canonical E tag c t).head? = some 0x7b := by
  simp [canonical, headChain]

/-- payloads below 2^64 bytes: Go slices -/
theorem rlpListHead_range (n : Nat) (hn : n < 2 ^ 64) : 0xc0 ≤ rlpListHead n ∧ rlpListHead n ≤ 0xff := by
  unfold rlpListHead
  split
  · omega
  · have h0 : n ≠ 0 := by omega
    have : Nat.log2 n < 64 := (Nat.log2_lt h0).2 hn
    omega

/-- **multi-sign bytes ≠ vote / proposal / heartbeat**: `GenMultiSignBytes` is an RLP list (first byte ≥ 0xc0), every
canonical JSON starts with `{` (0x7b): what `MultiSignAccountTx.Sign` passes to `SignData` is never the sign-bytes of
a vote, a proposal or a heartbeat. -/
theorem multisign_ne_canonical (E : StrEnc) (tag : Bytes) (c : String) (t : Bytes) (payload : Bytes) (hn : payload.length < 2 ^ 64)
    (h : UInt8.ofNat (rlpListHead payload.length) :: payload = canonical E tag c t) : False := by
  have hh := canonical_head E tag c t
  rw [← h] at hh
  simp only [List.head?_cons, Option.some.injEq] at hh
  have ⟨h1, h2⟩ := rlpListHead_range payload.length hn
  have : (UInt8.ofNat (rlpListHead payload.length)).toNat = 0x7b := by rw [hh]; rfl
  simp only [UInt8.toNat_ofNat'] at this
  omega

/-! non-vacuity: a string-literal encoder with the law exists (unary length prefix here: the law does not depend on
how the escaper achieves self-delimitation) -/
theorem unary_selfDelim (m n : Nat) (x y : Bytes) (h : List.replicate m (1 : UInt8) ++ 0 :: x = List.replicate n 1 ++ 0 :: y) :
    m = n ∧ x = y := by
  induction m generalizing n with
  | zero =>
    cases n with
    | zero => simpa using h
    | succ n => simp [List.replicate_succ] at h
  | succ m ih =>
    cases n with
    | zero => simp [List.replicate_succ] at h
    | succ n =>
      simp only [List.replicate_succ, List.cons_append, List.cons.injEq, true_and] at h
      have := ih n h
      exact ⟨by omega, this.2⟩

def unaryEnc : StrEnc where
  str s := List.replicate s.length 1 ++ [0]
  selfDelim := by
    intro a b x y h
    simp only [List.append_assoc, List.singleton_append] at h
    have := unary_selfDelim a.length b.length x y h
    exact ⟨by rw [this.1], this.2⟩

example : heartbeatBytes unaryEnc "c" [1] ≠ voteBytes unaryEnc "c" [1] := heartbeat_ne_vote _ _ _ _ _

end Props.C04
