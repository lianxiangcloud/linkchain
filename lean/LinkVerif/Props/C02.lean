/-
C02 — Honest validators vote only for fully valid blocks; committed blocks apply.

The decision logic (`Model.Validate`) is transcribed from `defaultDoPrevote` / `enterPrecommit` after the
repair "validate the proposal block before prevoting or locking on it"; the tie to the source is the regenerated
call-site table `Gen.C02Facts.voteSites` (T2) plus the corruption sweep of the harness whose oracle is the real
`validateBlock`.
-/
import LinkVerif.Model.Validate
import LinkVerif.Gen.C02Facts
import LinkVerif.Props.C01Agreement

namespace Props.C02
open Model.Validate

/-- the invariant that carries the lock across rounds: a locked block passed full validation -/
def Inv (n : Node) : Prop := ∀ l, n.locked = some l → validateBlock l = true ∧ l.evidenceOk = true ∧ l.appOk = true

def Held (n : Node) (b : Block) : Prop := n.locked = some b ∨ n.proposal = some b

def VotesValid (n : Node) (o : Out) : Prop :=
  ∀ id, o = .vote (some id) → ∃ b, Held n b ∧ b.id = id ∧ validateBlock b = true ∧ b.appOk = true

@[reducible] def StepOk (n : Node) (r : Node × Out) : Prop :=
  Inv r.1 ∧ VotesValid n r.2

/-- `defaultDoPrevote` and `enterPrecommit` put the same three checks in front of the proposal block -/
theorem checked_cases {α : Type} (b : Block) (x y : α) (P : α → Prop) (hx : P x)
    (hy : validateBlock b = true → b.evidenceOk = true → b.appOk = true → P y) :
    P (if !validateBlock b then x else if !b.evidenceOk then x else if !b.appOk then x else y) := by
  cases h1 : validateBlock b
  · exact hx
  · cases h2 : b.evidenceOk
    · exact hx
    · cases h3 : b.appOk
      · exact hx
      · exact hy h1 h2 h3

/-- C02, prevote clause: a correct validator prevotes its locked block (valid by the invariant) or the proposal block after
full validation -/
theorem prevote_valid (n : Node) (h : Inv n) : VotesValid n (doPrevote n) := by
  unfold doPrevote
  cases hl : n.locked with
  | some l =>
    intro id hv
    cases hv
    exact ⟨l, Or.inl hl, rfl, (h l hl).1, (h l hl).2.2⟩
  | none =>
    cases hp : n.proposal with
    | none => exact fun _ hv => nomatch hv
    | some b =>
      exact checked_cases b _ _ (VotesValid n) (fun _ hv => nomatch hv)
        fun h1 _ h3 id hv => ⟨b, Or.inr hp, by cases hv; rfl, h1, h3⟩

theorem lockProposal_spec (n : Node) (id : Nat) (h : Inv n) : StepOk n (enterPrecommit.lockProposal n id) := by
  unfold enterPrecommit.lockProposal
  cases hp : n.proposal with
  | none => exact ⟨fun _ e => (nomatch e), fun _ e => nomatch e⟩
  | some b =>
    show StepOk n (if b.id = id then _ else _)
    by_cases hid : b.id = id
    · rw [if_pos hid]
      refine checked_cases b _ _ (StepOk n) ⟨h, fun _ e => nomatch e⟩ fun h1 h2 h3 => ⟨?_, ?_⟩
      · intro l hl
        cases hl
        exact ⟨h1, h2, h3⟩
      · intro id' hv
        cases hv
        exact ⟨b, Or.inr hp, hid, h1, h3⟩
    · rw [if_neg hid]
      exact ⟨fun _ e => (nomatch e), fun _ e => nomatch e⟩

/-- C02, precommit clause + the invariant step: a precommit for a block is for the locked block (valid by the
invariant) or for the proposal block after full validation; the new lock is valid again -/
theorem precommit_valid (n : Node) (polka : Option (Option Nat)) (h : Inv n) : StepOk n (enterPrecommit n polka) := by
  unfold enterPrecommit
  cases polka with
  | none => exact ⟨h, fun _ e => nomatch e⟩
  | some p =>
    cases p with
    | none => exact ⟨fun _ e => (nomatch e), fun _ e => nomatch e⟩
    | some id =>
      cases hl : n.locked with
      | none => exact lockProposal_spec n id h
      | some l =>
        show StepOk n (if l.id = id then _ else _)
        by_cases hid : l.id = id
        · rw [if_pos hid]
          exact ⟨h, fun id' hv => ⟨l, Or.inl hl, by cases hv; exact hid, (h l hl).1, (h l hl).2.2⟩⟩
        · rw [if_neg hid]
          exact lockProposal_spec n id h

theorem step_spec (n : Node) (i : In) (h : Inv n) :
    Inv (step n i).1 ∧ ∀ o, (step n i).2 = some o → VotesValid n o := by
  cases i with
  | setProposal b => exact ⟨h, fun _ e => nomatch e⟩
  | newRound => exact ⟨h, fun _ e => nomatch e⟩
  | prevote => exact ⟨h, fun o ho => by cases ho; exact prevote_valid n h⟩
  | precommit p => exact ⟨(precommit_valid n p h).1, fun o ho => by cases ho; exact (precommit_valid n p h).2⟩
  | unlockOnPolka => exact ⟨fun _ e => (nomatch e), fun _ e => nomatch e⟩

theorem mem_run_cons {n : Node} {i : In} {is : List In} {o : Out} :
    o ∈ (run n (i :: is)).2 ↔ (step n i).2 = some o ∨ o ∈ (run (step n i).1 is).2 := by
  show o ∈ (match (step n i).2 with
    | some x => x :: (run (step n i).1 is).2
    | none => (run (step n i).1 is).2) ↔ _
  cases (step n i).2 with
  | none => simp
  | some x => simp [eq_comm]

theorem run_inv (n : Node) (ins : List In) (h : Inv n) : Inv (run n ins).1 := by
  induction ins generalizing n with
  | nil => exact h
  | cons i is ih => exact ih _ (step_spec n i h).1

theorem mem_run {n : Node} {ins : List In} {o : Out} (hm : o ∈ (run n ins).2) :
    ∃ pre i post, ins = pre ++ i :: post ∧ (step (run n pre).1 i).2 = some o := by
  induction ins generalizing n with
  | nil => exact nomatch hm
  | cons i is ih =>
    rcases mem_run_cons.1 hm with ho | hm
    · exact ⟨[], i, is, rfl, ho⟩
    · obtain ⟨pre, j, post, rfl, hj⟩ := ih hm
      exact ⟨i :: pre, j, post, rfl, hj⟩

/-- C02 over every input sequence of a height: whatever proposals a Byzantine proposer supplies and however the rounds
go, when a correct validator signs a vote for a block it holds a block with that id (its lock or the proposal), and that
block passed `validateBlock` and the application's check -/
theorem C02_run (n : Node) (ins : List In) (h : Inv n) (id : Nat) (hm : Out.vote (some id) ∈ (run n ins).2) :
    ∃ pre i post b, ins = pre ++ i :: post ∧ (step (run n pre).1 i).2 = some (.vote (some id)) ∧
      Held (run n pre).1 b ∧ b.id = id ∧ validateBlock b = true ∧ b.appOk = true := by
  obtain ⟨pre, i, post, hins, hi⟩ := mem_run hm
  obtain ⟨b, hb⟩ := (step_spec _ i (run_inv n pre h)).2 _ hi id rfl
  exact ⟨pre, i, post, b, hins, hi, hb⟩

/-- C02 in its weak form: SOME block with the voted id passes `validateBlock`; the block is not tied to the node or the
run here (that is `C02_run`) -/
theorem C02_statement (n : Node) (ins : List In) (h : Inv n) :
    ∀ id, Out.vote (some id) ∈ (run n ins).2 → ∃ b : Block, b.id = id ∧ validateBlock b = true :=
  fun id hm => let ⟨_, _, _, b, _, _, _, hid, hval, _⟩ := C02_run n ins h id hm; ⟨b, hid, hval⟩

theorem inv_init : Inv { locked := none, proposal := none } := fun _ hl => nomatch hl

/-- The commit form.  A commit for `id` is +2/3 of the power; with < 1/3 Byzantine it contains a correct validator,
whose precommit came out of the decision machine (`hrun`), so some block with that id passes `validateBlock` (not tied to
the run, as in `C02_statement`).  That `ApplyBlock` fails only if `validateBlock` fails, which would make this "a
committed block applies", is not modelled. -/
theorem commit_applies (c : Model.Protocol.Cfg) (hb : Model.Protocol.byzBound c) (q : Model.Protocol.Val → Bool)
    (hq : 3 * Model.Protocol.pow c q > 2 * Model.Protocol.total c) (id : Nat)
    (hrun : ∀ v, v ∈ c.vals → q v = true → c.byz v = false →
      ∃ (n : Node) (ins : List In), Inv n ∧ Out.vote (some id) ∈ (run n ins).2) :
    ∃ b : Block, b.id = id ∧ validateBlock b = true := by
  obtain ⟨v, hv, hqv, hcorrect⟩ := Props.C01.quorum_has_correct c q hb hq
  obtain ⟨n, ins, hinv, hmem⟩ := hrun v hv hqv hcorrect
  exact C02_statement n ins hinv id hmem

/-! ## The tie: regenerated call sites and conditions (T2).  Removing or moving a validation call changes
`Gen.C02Facts.voteSites`, editing a condition of `validateBlock` changes `Gen.C02Facts.validateBlockChecks`; either breaks
one of the three theorems of this section. -/

open Gen.C02Facts in
/-- every place that signs a vote for the PROPOSAL block is dominated by ValidateBlock, checkBlockEvidence and CheckBlock -/
theorem proposal_sites_validated :
    ∀ s ∈ voteSites, (s.arg = "cs.ProposalBlock.Hash().Bytes()" ∨ s.cond = "cs.ProposalBlock.HashesTo(blockID.Hash.Bytes())") →
      "ValidateBlock" ∈ s.guards ∧ "checkBlockEvidence" ∈ s.guards ∧ "CheckBlock" ∈ s.guards := by decide +kernel

open Gen.C02Facts in
/-- the only other places vote for the LOCKED block (carried by the invariant), and there are exactly four sites -/
theorem sites_vetted :
    voteSites.map (fun s => (s.fn, s.cond)) =
      [("defaultDoPrevote", "cs.LockedBlock != nil"), ("defaultDoPrevote", ""),
       ("enterPrecommit", "cs.LockedBlock.HashesTo(blockID.Hash.Bytes())"),
       ("enterPrecommit", "cs.ProposalBlock.HashesTo(blockID.Hash.Bytes())")] := rfl

/-- T2: the checks `validateBlock` makes, in source order — in particular the last commit is verified against the LAST
validator set (the one in force at the committed height), with the status's chain id and last block id, and its size is
compared with that set's size.  Any edit of these conditions (a different receiver, a dropped comparison) breaks this
`rfl` and is reported; a harmless rewrite has to be reviewed and the table amended. -/
theorem validateBlock_checks_fact : Gen.C02Facts.validateBlockChecks =
    ["if err != nil", "call block.ValidateBasic()", "if block.ChainID != status.ChainID",
     "if block.Height != status.LastBlockHeight+1", "if !block.LastBlockID.Equals(status.LastBlockID)",
     "if block.TotalTxs != status.LastBlockTotalTx+newTxs",
     "if !bytes.Equal(block.ConsensusHash.Bytes(), status.ConsensusParams.Hash())",
     "if !bytes.Equal(block.ValidatorsHash.Bytes(), status.Validators.Hash()) && block.Recover < 1",
     "if block.Height == types.BlockHeightOne", "if len(block.LastCommit.Precommits) != 0",
     "if len(block.LastCommit.Precommits) != status.LastValidators.Size()",
     "call status.LastValidators.VerifyCommit( status.ChainID, status.LastBlockID, block.Height-1, block.LastCommit)",
     "if err != nil", "if err != nil", "call VerifyEvidence(statusDB, status, ev)", "if err != nil || onlyOneFvi",
     "call VerifyFaultValEvidence(status, block.LastCommit, evi)",
     "if !onlyOneFvi && block.Height > types.BlockHeightOne && !status.LastRecover"] := rfl

def okChecks : Checks := ⟨true, true, true, true, true, true, true, true, true⟩
def goodBlock : Block := { id := 7, checks := okChecks, evidenceOk := true, appOk := true }
/-- wrong last-block id: passes the application's CheckBlock and the evidence check, fails validateBlock -/
def badBlock : Block := { id := 8, checks := { okChecks with lastBlockId := false }, evidenceOk := true, appOk := true }

example : (run { locked := none, proposal := none } [.setProposal goodBlock, .prevote, .precommit (some (some 7)), .newRound, .prevote]).2
    = [.vote (some 7), .vote (some 7), .vote (some 7)] := rfl
example : (run { locked := none, proposal := none } [.setProposal badBlock, .prevote]).2 = [.vote none] := rfl

/-- what the code did before the repair (no ValidateBlock in the prevote path): the same block was prevoted -/
def doPrevoteUnrepaired (n : Node) : Out :=
  match n.locked with
  | some l => .vote (some l.id)
  | none =>
    match n.proposal with
    | none => .vote none
    | some b => if !b.evidenceOk then .vote none else if !b.appOk then .vote none else .vote (some b.id)

theorem unrepaired_counterexample :
    doPrevoteUnrepaired { locked := none, proposal := some badBlock } = .vote (some 8) ∧ validateBlock badBlock = false :=
  ⟨rfl, rfl⟩

end Props.C02
