/-
C11: the io.Reader entry points (Decode, DecodeWithType, DecodeReader[WithType]) — streams whose limit is not the input.
What the code guarantees about buffer sizes, and what it does not: nothing on an unlimited stream; on a LIMITED stream every
buffer size handed to make([]byte, ·) is at most the limit the caller passed, hence (limit ≤ maxAlloc) no reader entry point
panics.  `Inv` is an invariant of the Stream operations, hence (Props/C11Stream.lean) of every decoder of the model.
-/
import LinkVerif.Props.C11NoPanic
import LinkVerif.Gen.C11ReaderSites

namespace Props.C11
open Model.Rlp Model.Ser

def C11_reader_no_panic_statement : Prop :=
  ∀ (env : Env) (t : Ty) (pre : Bool) (lim : Limit) (b : Bytes), (decodeReader env t pre lim b).1 ≠ .error .panic

/-- the buffers a reader entry point requests are bounded by what the caller allowed: the limit, or - without one - the
    input itself -/
def C11_reader_alloc_statement : Prop :=
  ∀ (env : Env) (t : Ty) (pre : Bool) (lim : Limit) (b : Bytes),
    (decodeReader env t pre lim b).2 ≤ (match lim with | .some n => n | .none => b.length)

/-! ### both are false on an UNLIMITED stream: the size announced by the outermost header is not checked against anything.
    Witness: the 9 bytes BF 40 00 00 00 00 00 00 00 decoded into a []byte through Decode(r, …) with r not a
    bytes/strings.Reader: `make([]byte, 2^62)` → "makeslice: len out of range" (replayed on the real code by the
    harness: known finding class unlimited-reader-outermost-size).  No call site of the node passes limit 0 on peer input
    (T2 facts in Gen/C11ReaderSites.lean): the callers' limits are what bounds the allocation. -/

set_option maxRecDepth 100000 in
theorem reader_unlimited_witness :
    decodeReader {} .bytes false .none [0xBF, 0x40, 0, 0, 0, 0, 0, 0, 0] = (.error .panic, 2 ^ 62) := by rfl

theorem C11_reader_no_panic_counterexample : ¬ C11_reader_no_panic_statement := by
  intro h
  have := h {} .bytes false .none [0xBF, 0x40, 0, 0, 0, 0, 0, 0, 0]
  rw [reader_unlimited_witness] at this
  exact this rfl

theorem C11_reader_alloc_counterexample : ¬ C11_reader_alloc_statement := by
  intro h
  have h1 := h {} .bytes false .none [0xBF, 0x40, 0, 0, 0, 0, 0, 0, 0]
  rw [reader_unlimited_witness] at h1
  simp at h1

/-! a limit above what the reader holds is honoured as a bound, not exceeded: 1 MiB allowed, 16 MiB announced → rejected
    before any buffer is made; 1 MiB allowed, 1 MiB - 8 announced with nothing behind it → that buffer is made (the caller
    allowed it), then the read fails -/
set_option maxRecDepth 100000 in
example : decodeReader {} .bytes false (.some 1048576) [0xBA, 0xFF, 0xFF, 0xFF] = (.error .valueTooLarge, 0) := by rfl
set_option maxRecDepth 100000 in
example : decodeReader {} .bytes false (.some 1048576) [0xBA, 0x0F, 0xFF, 0xF8] = (.error .eof, 1048568) := by rfl
/-! the seeded defect's witness on the unchanged model: a nested element announcing 2^62 bytes inside a 9-byte list is
    rejected on the unlimited stream too (the element check does not depend on the limit) -/
set_option maxRecDepth 100000 in
example : decodeReader {} (.slice .bytes) false .none [0xC9, 0xBF, 0x40, 0, 0, 0, 0, 0, 0, 0] = (.error .elemTooLarge, 0) := by rfl

/-- the stream is limited, and everything that can size a buffer is within `L`: the remaining limit, the sizes of the open
    lists, a cached header size, and what has been requested so far -/
def Inv (L : Nat) (s : Stream) : Prop :=
  s.unlimited = false ∧ s.rest.length + s.phantom ≤ L ∧ s.alloc ≤ L ∧ (∀ e ∈ s.stack, e.2 ≤ L) ∧
    (s.kind ≠ none → s.kinderr = none → s.size ≤ L)

theorem inv_rearm {L : Nat} {s : Stream} (h : Inv L s) : Inv L { s with kind := none } := by
  obtain ⟨h1, h2, h3, h4, _⟩ := h
  exact ⟨h1, h2, h3, h4, fun hc => absurd rfl hc⟩

theorem inv_kept {L : Nat} {e : Option Err} {s : Stream} (h : Inv L s) : Kept (Inv L) (fun _ => True) e s :=
  ⟨h, fun _ _ => trivial⟩

theorem willRead_inv (L n : Nat) (s : Stream) (h : Inv L s) : Inv L (willRead n s).2 := by
  obtain ⟨st, ph, he, hst, hph, _⟩ := willRead_frame n s
  obtain ⟨h1, h2, h3, h4, _⟩ := h
  rw [he]
  refine ⟨h1, Nat.le_trans (Nat.add_le_add_left hph _) h2, h3, fun e he' => ?_, nofun⟩
  -- the sizes of the open lists are those of `s`
  obtain ⟨e0, h0, h0e⟩ := List.mem_map.mp (hst ▸ List.mem_map_of_mem (f := Prod.snd) he')
  exact h0e ▸ h4 e0 h0

theorem readInv_inv (L : Nat) : ReadInv (Inv L) (fun _ => True) where
  own _ _ := trivial
  rearm _ := inv_rearm
  byteval _ _ h := h
  willRead n s h := inv_kept (willRead_inv L n s h)
  rest _ _ h hr := by
    obtain ⟨h1, h2, h345⟩ := h
    exact ⟨h1, Nat.le_trans (Nat.add_le_add_right hr _) h2, h345⟩

/-- the size checks of Stream.Kind: an accepted size is within `L` -/
theorem limitErr_le (L sz : Nat) (s : Stream) (h : Inv L s) (hn : limitErr s sz = none) : sz ≤ L := by
  obtain ⟨h1, h2, _, h4, _⟩ := h
  unfold limitErr at hn
  split at hn
  · unfold over at hn
    rw [h1] at hn
    simp at hn
    omega
  · next pos size up hs =>
    have := h4 (pos, size) (by simp [hs])
    simp at hn this
    omega

theorem kindOf_inv (L : Nat) (s : Stream) (h : Inv L s) :
    Inv L (kindOf s).2 ∧ ((kindOf s).1.2.2 = none → (kindOf s).1.2.1 ≤ L) := by
  unfold kindOf
  split
  · next k hk =>
    have ⟨_, _, _, _, hsize⟩ := h
    exact ⟨h, hsize (by simp [hk])⟩
  · next hk =>
    have h0 : Inv L { s with kinderr := none } := by
      obtain ⟨h1, h2, h3, h4, _⟩ := h
      exact ⟨h1, h2, h3, h4, fun hc => absurd hk hc⟩
    dsimp only
    split
    · exact ⟨h0, nofun⟩
    · have hr := (readKind_kept (readInv_inv L) _ h0).inv
      generalize readKind { s with kinderr := none } = r at hr ⊢
      obtain ⟨⟨k, sz, e⟩, s'⟩ := r
      dsimp only at hr
      have hle : (match e with | some e => some e | none => limitErr s' sz) = none → sz ≤ L := by
        cases e with
        | some e => nofun
        | none => exact limitErr_le L sz s' hr
      obtain ⟨h1, h2, h3, h4, _⟩ := hr
      exact ⟨⟨h1, h2, h3, h4, fun _ => hle⟩, hle⟩

theorem sList_inv (L : Nat) (s : Stream) (h : Inv L s) : Inv L (sList s).2 := by
  have hk := kindOf_inv L s h
  unfold sList
  generalize kindOf s = r at hk ⊢
  obtain ⟨⟨k, sz, _ | e⟩, s'⟩ := r
  · cases k with
    | byte | string => exact hk.1
    | list =>
      obtain ⟨⟨h1, h2, h3, h4, _⟩, hsz⟩ := hk
      refine ⟨h1, h2, h3, fun e he => ?_, nofun⟩
      rcases List.mem_cons.mp he with rfl | he
      · exact hsz rfl
      · exact h4 e he
  · exact hk.1

theorem streamInv_inv (L : Nat) : StreamInv (Inv L) (fun _ => True) where
  toReadInv := readInv_inv L
  kindOf s h := inv_kept (kindOf_inv L s h).1
  alloc s h hn := by
    obtain ⟨⟨h1, h2, h3, h4, h5⟩, hsz⟩ := kindOf_inv L s h
    exact ⟨h1, h2, Nat.max_le.mpr ⟨h3, hsz hn⟩, h4, h5⟩
  sList s h := inv_kept (sList_inv L s h)
  sListEnd s h := by
    unfold sListEnd
    split
    · exact inv_kept h
    · next pos size up hs =>
      split
      · exact inv_kept h
      · obtain ⟨h1, h2, h3, h4, _⟩ := h
        rw [hs] at h4
        refine inv_kept ⟨h1, h2, h3, fun e he => ?_, nofun⟩
        cases up with
        | nil => cases he
        | cons x r =>
          rcases List.mem_cons.mp he with rfl | he
          · exact h4 x (List.mem_cons_of_mem _ (List.mem_cons_self ..))
          · exact h4 e (List.mem_cons_of_mem _ (List.mem_cons_of_mem _ he))

def InvR (L : Nat) (r : DecR) : Prop := Inv L r.2.2

/-- every decoder keeps the invariant: on a limited stream nothing ever sizes a buffer beyond the limit -/
theorem decV_inv (L : Nat) (env : Env) : ∀ (f : Nat) (t : Ty) (s : Stream), Inv L s → InvR L (decV env f t s) :=
  fun f t s h => (decV_kept (streamInv_inv L) env f t s h).inv

theorem decodeReader_limited (env : Env) (t : Ty) (pre : Bool) (n : Nat) (b : Bytes) :
    ∃ s : Stream, Inv n s ∧ (decodeReader env t pre (.some n) b).2 = s.alloc ∧
      ((decodeReader env t pre (.some n) b).1 = .error .panic → s.alloc > maxAlloc) := by
  unfold decodeReader
  dsimp only
  generalize h0 : (if n ≤ b.length then ({ rest := b.take n } : Stream) else { rest := b, phantom := n - b.length }) = s0
  have hs : Inv n s0 := by
    rw [← h0]
    split
    · exact ⟨rfl, by simp; omega, by simp, by simp, by simp⟩
    · exact ⟨rfl, by simp; omega, by simp, by simp, by simp⟩
  have hg : Good s0 := by
    rw [← h0]
    split <;> nofun
  -- the part after the prefix, for whatever stream the prefix leaves
  have value : ∀ s1, Inv n s1 → Good s1 → ∀ r,
      r = (match decV env (2 * b.length + 200) t s1 with
        | (_, some e, s) => (if s.alloc > maxAlloc then Except.error Err.panic else .error e, s.alloc)
        | (v, none, s) => (if s.alloc > maxAlloc then .error .panic else .ok v, s.alloc)) →
      ∃ s : Stream, Inv n s ∧ r.2 = s.alloc ∧ (r.1 = .error .panic → s.alloc > maxAlloc) := by
    intro s1 hi hg r hr
    have hd := decV_inv n env (2 * b.length + 200) t s1 hi
    have hp := decV_np env (2 * b.length + 200) t s1 hg
    generalize decV env (2 * b.length + 200) t s1 = d at hd hp hr
    obtain ⟨v, _ | e, s2⟩ := d
    · refine ⟨s2, hd, by rw [hr], fun hc => ?_⟩
      rw [hr] at hc
      dsimp only at hc
      split at hc
      · assumption
      · cases hc
    · refine ⟨s2, hd, by rw [hr], fun hc => ?_⟩
      rw [hr] at hc
      dsimp only at hc
      split at hc
      · assumption
      · exact absurd (Except.error.inj hc) (hp.inE e rfl)
  cases pre with
  | false => exact value s0 hs hg _ rfl
  | true =>
    have h7 := readN_kept (readInv_inv n) 7 s0 hs
    have g7 := readN_kept readInv_good 7 s0 hg
    generalize readN 7 s0 = r at h7 g7 ⊢
    obtain ⟨e | bs, s1⟩ := r
    · exact ⟨s1, h7.inv, rfl, fun hc => absurd (Except.error.inj hc) (g7.inE e rfl)⟩
    · exact value s1 h7.inv g7.inv _ rfl

/-- DecodeReader[WithType](r, …, n), n > 0: every buffer requested is at most `n` -/
theorem reader_alloc_le_limit (env : Env) (t : Ty) (pre : Bool) (n : Nat) (b : Bytes) :
    (decodeReader env t pre (.some n) b).2 ≤ n := by
  obtain ⟨s, ⟨_, _, halloc, _⟩, ha, _⟩ := decodeReader_limited env t pre n b
  rw [ha]
  exact halloc

/-- hence, with a limit the runtime can allocate at all, no reader entry point panics -/
theorem reader_no_panic_limited (env : Env) (t : Ty) (pre : Bool) (n : Nat) (b : Bytes) (hn : n ≤ maxAlloc) :
    (decodeReader env t pre (.some n) b).1 ≠ .error .panic := by
  obtain ⟨s, ⟨_, _, halloc, _⟩, _, hp⟩ := decodeReader_limited env t pre n b
  intro hc
  have := hp hc
  omega

/-! non-vacuity: the limits the node passes (libs/p2p/conn: 1 MiB; handshake: 10 KiB) are below maxAlloc -/
example : (1048576 : Nat) ≤ maxAlloc := by decide

/-! ### T2: who calls the reader entry points, and with which limit (regenerated from the source on every check) -/

/-- a call site bounds its stream: Decode/DecodeWithType only on a bytes.Reader (NewStream then takes the limit from its
    length), DecodeReader*/NewStream only with a limit argument that is not the literal 0 -/
def siteLimited (s : String × String × String × String × String × String × String) : Bool :=
  let (_, _, call, _, _, readerKind, limitKind) := s
  if call == "Decode" || call == "DecodeWithType" then readerKind == "bytes"
  else limitKind == "expr"

/-- every call of a reader entry point in libs/p2p, consensus, blockchain, mempool, evidence, state, types, app, autofile, db
    passes a limit (packet size, node-info size, 1 MiB, the validated BlockSize.MaxBytes) or reads from a bytes.Reader:
    the unlimited stream of `reader_unlimited_witness` is not reachable from the node today.  A new call site with limit 0
    (or Decode on a connection) breaks this theorem. -/
theorem reader_sites_limited : Gen.C11ReaderSites.readerSites.all siteLimited = true := by decide

end Props.C11
