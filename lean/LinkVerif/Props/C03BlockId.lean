/-
C03: the canonical-JSON sign-bytes bind the BLOCK HASH.  A further well-delimited PARTIAL of
`C03_signBytes_binds_statement`: lower-case hex rendering is injective and self-delimiting before the closing quote
(`hexLower_cancel`), so for ASCII chain ids and votes for a block (non-zero hash), equal sign-bytes force equal chain id AND
equal block hash — whatever the parts header, height, round, time and type of the two messages are.  A signature on a vote
for block X can therefore not be presented as a vote for another block hash.  `signBytes_nil_vs_block`: a vote for nil and a
vote for a block never share sign-bytes.  (The parts hash follows in `C03Parts`; `signBytes_binds_step_fields` covers
chain/height/round/type for a fixed block id and time; the time rendering stays open.)
-/
import LinkVerif.Props.C03SignBytes

namespace Props.C03
open Model.Vote

theorem hex_flatMap (d : Nat → Char) (bs : List UInt8) :
    bs.foldr (fun x acc => d (x.toNat / 16) :: d (x.toNat % 16) :: acc) [] =
      bs.flatMap (fun x => [d (x.toNat / 16), d (x.toNat % 16)]) := by
  induction bs with
  | nil => rfl
  | cons x xs ih => rw [List.foldr_cons, List.flatMap_cons, ih]; rfl

/-- two hex digits per byte over a digit alphabet `d` that can be read back (`unhex`) and never yields `"`: the rendering is
injective and cannot run past a closing quote -/
theorem hex_cancel (d : Nat → Char) (hd : ∀ k, k < 16 → unhex (d k) = k ∧ d k ≠ '"')
    {a b : List UInt8} {r r' : List Char}
    (h : a.foldr (fun x acc => d (x.toNat / 16) :: d (x.toNat % 16) :: acc) [] ++ '"' :: r =
         b.foldr (fun x acc => d (x.toNat / 16) :: d (x.toNat % 16) :: acc) [] ++ '"' :: r') : a = b ∧ r = r' := by
  rw [hex_flatMap, hex_flatMap] at h
  refine code_cancel _ (fun _ => True) '"' ?_ ?_ (fun _ _ => trivial) (fun _ _ => trivial) h
  · intro x y _ _ s s' e
    obtain ⟨e1, e'⟩ := List.cons.inj e
    obtain ⟨e2, es⟩ := List.cons.inj e'
    have hx := x.toNat_lt
    have hy := y.toNat_lt
    have h1 := (hd (x.toNat / 16) (by omega)).1
    have h2 := (hd (x.toNat % 16) (by omega)).1
    have h3 := (hd (y.toNat / 16) (by omega)).1
    have h4 := (hd (y.toNat % 16) (by omega)).1
    rw [e1] at h1
    rw [e2] at h2
    exact ⟨UInt8.toNat_inj.mp (by omega), es⟩
  · intro x _ s s' e
    exact (hd (x.toNat / 16) (by have := x.toNat_lt; omega)).2 (List.cons.inj e).1.symm

theorem hexLower_cancel (a b : List UInt8) (r r' : List Char)
    (h : hexLower a ++ '"' :: r = hexLower b ++ '"' :: r') : a = b ∧ r = r' :=
  hex_cancel hexLo hexLo_spec h

theorem blockIDJSON_flat (b : BlockID) (hb : b.hash ≠ zeroHash) :
    ∃ tail, blockIDJSON b = "{\"hash\":\"0x".toList ++ (hexLower b.hash ++ '"' :: tail) := by
  cases hp : partsJSON b with
  | none => exact ⟨['}'], by simp [blockIDJSON, obj, field, q, str, List.intercalate, hb, hp]⟩
  | some p => exact ⟨',' :: (p ++ ['}']), by simp [blockIDJSON, obj, field, q, str, List.intercalate, hb, hp]⟩

theorem blockIDJSON_binds_hash (b b' : BlockID) (hb : b.hash ≠ zeroHash) (hb' : b'.hash ≠ zeroHash) (r r' : List Char)
    (h : blockIDJSON b ++ r = blockIDJSON b' ++ r') : b.hash = b'.hash := by
  obtain ⟨t, e⟩ := blockIDJSON_flat b hb
  obtain ⟨t', e'⟩ := blockIDJSON_flat b' hb'
  rw [e, e'] at h
  simp only [List.append_assoc, List.cons_append] at h
  exact (hexLower_cancel _ _ _ _ (List.append_cancel_left h)).1

/-- PARTIAL of `C03_signBytes_binds_statement` (proved): for ASCII chain ids and votes FOR A BLOCK, equal sign-bytes force
the same chain and the same block hash, with no assumption on any other field of the two messages. -/
theorem signBytes_binds_block_hash (m m' : Msg) (hc : ∀ b ∈ m.chain, b.toNat < 128) (hc' : ∀ b ∈ m'.chain, b.toNat < 128)
    (hb : m.bid.hash ≠ zeroHash) (hb' : m'.bid.hash ≠ zeroHash) (h : signBytes m = signBytes m') :
    m.chain = m'.chain ∧ m.bid.hash = m'.bid.hash := by
  obtain ⟨echain, h1⟩ := signBytes_split hc hc' h
  exact ⟨echain, blockIDJSON_binds_hash _ _ hb hb' _ _ h1⟩

/-- non-vacuity: two precommits that differ only in the last byte of the block hash have different sign-bytes -/
def bhA : Msg := { chain := [116], height := 7, round := 1, type := 2, bid := ⟨List.replicate 31 0 ++ [1], 1, [9]⟩, tsMs := 5 }
def bhB : Msg := { bhA with bid := ⟨List.replicate 31 0 ++ [2], 1, [9]⟩ }

example : signBytes bhA ≠ signBytes bhB := by
  intro h
  have := (signBytes_binds_block_hash bhA bhB (by decide) (by decide) (by decide) (by decide) h).2
  revert this; decide

theorem blockIDJSON_zero_ne (b b' : BlockID) (hz : b.hash = zeroHash) (hb' : b'.hash ≠ zeroHash) (r r' : List Char) :
    blockIDJSON b ++ r ≠ blockIDJSON b' ++ r' := by
  obtain ⟨t', e'⟩ := blockIDJSON_flat b' hb'
  rw [e']
  intro h
  by_cases hp : b.phash.isEmpty ∧ b.total = 0
  · simp [blockIDJSON, partsJSON, obj, List.intercalate, hz, hp] at h
  · have hp' : ¬ (b.phash = [] ∧ b.total = 0) := by simpa [List.isEmpty_iff] using hp
    simp [blockIDJSON, partsJSON, obj, field, q, str, List.intercalate, hz, hp'] at h

/-- PARTIAL of `C03_signBytes_binds_statement` (proved): a signature on a vote for nil is not a signature on a vote for a block,
and vice versa, whatever the other fields are (ASCII chain ids) -/
theorem signBytes_nil_vs_block (m m' : Msg) (hc : ∀ b ∈ m.chain, b.toNat < 128) (hc' : ∀ b ∈ m'.chain, b.toNat < 128)
    (hz : m.bid.hash = zeroHash) (hb' : m'.bid.hash ≠ zeroHash) : signBytes m ≠ signBytes m' := by
  intro h
  exact blockIDJSON_zero_ne _ _ hz hb' _ _ (signBytes_split hc hc' h).2

example : signBytes { bhA with bid := BlockID.zero } ≠ signBytes bhA :=
  signBytes_nil_vs_block _ _ (by decide) (by decide) rfl (by decide)

end Props.C03
