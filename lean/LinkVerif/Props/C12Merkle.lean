/-
C12: the simple Merkle tree of `libs/crypto/merkle`.
`verify_sound`, `verify_complete`, `root_inj_same_length` and the counterexample that shows the root is
NOT injective across lists of different length (no leaf/inner domain separation).
The cryptographic law is the explicit hypothesis `Inj2 H2`; `Tree`/`Tree.node` is a model of it.
-/
import LinkVerif.Model.Merkle

namespace Props.C12
open Model.Merkle

/-- collision resistance of `SimpleHashFromTwoHashes`, idealised: the two-hash function is injective
in the pair of its operands (hypothesis of the theorems, never an axiom) -/
def Inj2 {D : Type} (H2 : D → D → D) : Prop := ∀ a b c d, H2 a b = H2 c d → a = c ∧ b = d

/-- a model of `Inj2`: free binary trees -/
inductive Tree where
  | leaf (n : Nat)
  | node (l r : Tree)
deriving DecidableEq, Repr, Inhabited

theorem tree_inj2 : Inj2 Tree.node := fun _ _ _ _ => Tree.node.inj

theorem root_nil {D : Type} [Inhabited D] (H2 : D → D → D) : root H2 ([] : List D) = default := by
  rw [root]

section
variable {D : Type} [Inhabited D] (H2 : D → D → D)

theorem root_single (h : D) : root H2 [h] = h := by
  rw [root]

theorem root_split (ls : List D) (h2 : 2 ≤ ls.length) :
    root H2 ls = H2 (root H2 (ls.take ((ls.length + 1) / 2))) (root H2 (ls.drop ((ls.length + 1) / 2))) := by
  match ls, h2 with
  | a :: b :: t, _ => rw [root]

theorem proofs_nil : proofs H2 ([] : List D) = [] := by
  rw [proofs]

theorem proofs_single (h : D) : proofs H2 [h] = [[]] := by
  rw [proofs]

theorem proofs_split (ls : List D) (h2 : 2 ≤ ls.length) :
    proofs H2 ls =
      (proofs H2 (ls.take ((ls.length + 1) / 2))).map (· ++ [root H2 (ls.drop ((ls.length + 1) / 2))])
      ++ (proofs H2 (ls.drop ((ls.length + 1) / 2))).map (· ++ [root H2 (ls.take ((ls.length + 1) / 2))]) := by
  match ls, h2 with
  | a :: b :: t, _ => rw [proofs]

/-! The same split read from the parts: `l ++ r` is cut back into `l` and `r` when `r` is not empty and `l` has as
many items as `r` or one more.  `splitInduction` is the induction principle of `root` in this form, so
`proofs_length` and `computeRev_complete` see neither `take`/`drop` nor `(n+1)/2`. -/

theorem half_eq {k m : Nat} (h₁ : m ≤ k) (h₂ : k ≤ m + 1) : (k + m + 1) / 2 = k := by omega

theorem half_cast {k m : Nat} (h₁ : m ≤ k) (h₂ : k ≤ m + 1) : (((k + m : Nat) : Int) + 1) / 2 = k :=
  congrArg Nat.cast (half_eq h₁ h₂)

theorem half_split {n : Nat} (h : 2 ≤ n) :
    n - (n + 1) / 2 ≤ (n + 1) / 2 ∧ (n + 1) / 2 ≤ n - (n + 1) / 2 + 1 ∧ (n + 1) / 2 < n := by omega

theorem root_append {l r : List D}
    (hlr : r.length ≤ l.length) (hrl : l.length ≤ r.length + 1) (hr : 0 < r.length) :
    root H2 (l ++ r) = H2 (root H2 l) (root H2 r) := by
  rw [root_split H2 (l ++ r) (by rw [List.length_append]; omega), List.length_append, half_eq hlr hrl,
    List.take_left, List.drop_left]

theorem proofs_append {l r : List D}
    (hlr : r.length ≤ l.length) (hrl : l.length ≤ r.length + 1) (hr : 0 < r.length) :
    proofs H2 (l ++ r) = (proofs H2 l).map (· ++ [root H2 r]) ++ (proofs H2 r).map (· ++ [root H2 l]) := by
  rw [proofs_split H2 (l ++ r) (by rw [List.length_append]; omega), List.length_append, half_eq hlr hrl,
    List.take_left, List.drop_left]

omit [Inhabited D] in
theorem splitInduction {motive : List D → Prop} (nil : motive []) (single : ∀ x, motive [x])
    (append : ∀ l r : List D, r.length ≤ l.length → l.length ≤ r.length + 1 → 0 < r.length →
      motive l → motive r → motive (l ++ r)) :
    ∀ ls, motive ls := by
  intro ls
  induction ls using root.induct with
  | case1 => exact nil
  | case2 x => exact single x
  | case3 a b t ihl ihr =>
    have h2 : 2 ≤ (a :: b :: t).length := Nat.le_add_left 2 t.length
    generalize a :: b :: t = ls at ihl ihr h2 ⊢
    obtain ⟨h₁, h₂, h₃⟩ := half_split h2
    generalize (ls.length + 1) / 2 = k at ihl ihr h₁ h₂ h₃
    have hk : (ls.take k).length = k := by rw [List.length_take]; omega
    have hm : (ls.drop k).length = ls.length - k := List.length_drop
    rw [← List.take_append_drop k ls]
    exact append _ _ (by rw [hk, hm]; exact h₁) (by rw [hk, hm]; exact h₂) (by rw [hm]; omega) ihl ihr

theorem proofs_length (ls : List D) :
    (proofs H2 ls).length = ls.length := by
  induction ls using splitInduction with
  | nil => rw [proofs_nil]; rfl
  | single x => rw [proofs_single]; rfl
  | append l r hlr hrl hr ihl ihr =>
    rw [proofs_append H2 hlr hrl hr, List.length_append, List.length_map, List.length_map, ihl, ihr, List.length_append]

end

section
variable {D : Type} {H2 : D → D → D} {leaf r a : D} {i n : Int} {rest ar : List D}

theorem computeRev_range (h : computeRev H2 leaf i n ar = some r) : 0 ≤ i ∧ i < n := by
  have hb : ¬ (i ≥ n ∨ i < 0 ∨ n ≤ 0) := by
    intro hb
    cases ar <;> simp [computeRev, hb] at h
  omega

theorem computeRev_nil_eq_some : computeRev H2 leaf i n [] = some r ↔ i = 0 ∧ n = 1 ∧ leaf = r := by
  simp only [computeRev]
  constructor
  · intro h
    split at h
    · cases h
    · split at h
      · exact ⟨by omega, by assumption, Option.some.inj h⟩
      · cases h
  · rintro ⟨rfl, rfl, rfl⟩
    rfl

theorem computeRev_cons_one : computeRev H2 leaf i 1 (a :: rest) = none := by
  simp [computeRev]

theorem computeRev_cons (h0 : 0 ≤ i) (hin : i < n) (hn : n ≠ 1) :
    computeRev H2 leaf i n (a :: rest) =
      if i < (n + 1) / 2 then (computeRev H2 leaf i ((n + 1) / 2) rest).map (H2 · a)
      else (computeRev H2 leaf (i - (n + 1) / 2) (n - (n + 1) / 2) rest).map (H2 a ·) := by
  simp only [computeRev]
  rw [if_neg (by omega), if_neg hn]
  split
  · cases computeRev H2 leaf i ((n + 1) / 2) rest <;> rfl
  · cases computeRev H2 leaf (i - (n + 1) / 2) (n - (n + 1) / 2) rest <;> rfl

theorem computeRev_split_left {k m j : Nat} (h₁ : m ≤ k) (h₂ : k ≤ m + 1) (hm : 0 < m) (hj : j < k) :
    computeRev H2 leaf j (k + m : Nat) (a :: rest) = (computeRev H2 leaf j k rest).map (H2 · a) := by
  rw [computeRev_cons (Int.natCast_nonneg j) (Int.ofNat_lt.mpr (Nat.lt_add_right m hj)) (by omega),
    half_cast h₁ h₂, if_pos (Int.ofNat_lt.mpr hj)]

theorem computeRev_split_right {k m j : Nat} (h₁ : m ≤ k) (h₂ : k ≤ m + 1) (hk : k ≤ j) (hj : j < k + m) :
    computeRev H2 leaf j (k + m : Nat) (a :: rest) = (computeRev H2 leaf (j - k : Nat) m rest).map (H2 a ·) := by
  rw [computeRev_cons (Int.natCast_nonneg j) (Int.ofNat_lt.mpr hj) (by omega), half_cast h₁ h₂,
    if_neg (Int.not_lt.mpr (Int.ofNat_le.mpr hk)), ← Int.ofNat_sub hk, Int.natCast_add, Int.add_comm (k : Int) m,
    Int.add_sub_cancel]

theorem verify_eq_true [DecidableEq D] {aunts : List D} :
    verify H2 i n leaf aunts r = true ↔ computeRev H2 leaf i n aunts.reverse = some r := by
  unfold verify computeHashFromAunts
  cases computeRev H2 leaf i n aunts.reverse <;> simp

end

/-- two runs of `computeHashFromAunts` for the same `(index, total)` that end in the same digest
started from the same leaf hash and used the same aunts.  No assumption on where the digest comes from. -/
theorem computeRev_unique {D : Type} {H2 : D → D → D} (hinj : Inj2 H2) {leaf₁ leaf₂ r : D} {i n : Int} {ar₁ ar₂ : List D}
    (h₁ : computeRev H2 leaf₁ i n ar₁ = some r) (h₂ : computeRev H2 leaf₂ i n ar₂ = some r) :
    leaf₁ = leaf₂ ∧ ar₁ = ar₂ := by
  induction ar₁ generalizing ar₂ i n r with
  | nil =>
    obtain ⟨_, hn, e₁⟩ := computeRev_nil_eq_some.mp h₁
    subst hn
    cases ar₂ with
    | nil =>
      obtain ⟨_, _, e₂⟩ := computeRev_nil_eq_some.mp h₂
      exact ⟨e₁.trans e₂.symm, rfl⟩
    | cons b rest₂ => rw [computeRev_cons_one] at h₂; cases h₂
  | cons a rest ih =>
    obtain ⟨h0, hin⟩ := computeRev_range h₁
    have hn : n ≠ 1 := by
      intro hn
      rw [hn, computeRev_cons_one] at h₁
      cases h₁
    cases ar₂ with
    | nil => exact absurd (computeRev_nil_eq_some.mp h₂).2.1 hn
    | cons b rest₂ =>
      rw [computeRev_cons h0 hin hn] at h₁ h₂
      by_cases hlt : i < (n + 1) / 2
      · rw [if_pos hlt, Option.map_eq_some_iff] at h₁ h₂
        obtain ⟨l₁, hl₁, e₁⟩ := h₁
        obtain ⟨l₂, hl₂, e₂⟩ := h₂
        obtain ⟨hl, ha⟩ := hinj _ _ _ _ (e₁.trans e₂.symm)
        subst hl ha
        obtain ⟨e, er⟩ := ih hl₁ hl₂
        exact ⟨e, by rw [er]⟩
      · rw [if_neg hlt, Option.map_eq_some_iff] at h₁ h₂
        obtain ⟨r₁, hr₁, e₁⟩ := h₁
        obtain ⟨r₂, hr₂, e₂⟩ := h₂
        obtain ⟨ha, hr⟩ := hinj _ _ _ _ (e₁.trans e₂.symm)
        subst ha hr
        obtain ⟨e, er⟩ := ih hr₁ hr₂
        exact ⟨e, by rw [er]⟩

/-- **verify_fixes_leaf**: for every total `n`, every index `i` and EVERY digest `r` (not only roots the
library produced): if two (leaf hash, proof) pairs verify against `r` at index `i` of `n`, they are the
same leaf hash and the same proof.  This is `root_inj_same_length` seen from the verifier. -/
theorem verify_fixes_leaf {D : Type} [DecidableEq D] (H2 : D → D → D) (hinj : Inj2 H2)
    (i n : Int) (r leaf₁ leaf₂ : D) (aunts₁ aunts₂ : List D)
    (h₁ : verify H2 i n leaf₁ aunts₁ r = true) (h₂ : verify H2 i n leaf₂ aunts₂ r = true) :
    leaf₁ = leaf₂ ∧ aunts₁ = aunts₂ := by
  obtain ⟨e₁, e₂⟩ := computeRev_unique hinj (verify_eq_true.mp h₁) (verify_eq_true.mp h₂)
  exact ⟨e₁, List.reverse_inj.mp e₂⟩

theorem verify_index_in_range {D : Type} [DecidableEq D] (H2 : D → D → D)
    (i n : Int) (r leaf : D) (aunts : List D) (h : verify H2 i n leaf aunts r = true) : 0 ≤ i ∧ i < n :=
  computeRev_range (verify_eq_true.mp h)

theorem computeRev_complete {D : Type} [Inhabited D] {H2 : D → D → D} {ls pr : List D} {i : Nat} {x : D}
    (hpr : (proofs H2 ls)[i]? = some pr) (hx : ls[i]? = some x) :
    computeRev H2 x (i : Int) ls.length pr.reverse = some (root H2 ls) := by
  induction ls using splitInduction generalizing i pr x with
  | nil => cases hx
  | single y =>
    cases i with
    | zero =>
      rw [proofs_single] at hpr
      cases hpr
      cases hx
      rw [root_single]
      exact computeRev_nil_eq_some.mpr ⟨rfl, rfl, rfl⟩
    | succ j => cases hx
  | append l r hlr hrl hr ihl ihr =>
    rw [proofs_append H2 hlr hrl hr] at hpr
    rw [root_append H2 hlr hrl hr, List.length_append]
    by_cases hlt : i < l.length
    · rw [List.getElem?_append_left (by rw [List.length_map, proofs_length]; exact hlt), List.getElem?_map,
        Option.map_eq_some_iff] at hpr
      obtain ⟨q, hq, rfl⟩ := hpr
      rw [List.getElem?_append_left hlt] at hx
      rw [List.reverse_concat, computeRev_split_left hlr hrl hr hlt, ihl hq hx]
      rfl
    · have hle : l.length ≤ i := Nat.le_of_not_lt hlt
      rw [List.getElem?_append_right (by rw [List.length_map, proofs_length]; exact hle), List.length_map, proofs_length,
        List.getElem?_map, Option.map_eq_some_iff] at hpr
      obtain ⟨q, hq, rfl⟩ := hpr
      rw [List.getElem?_append_right hle] at hx
      have hir : i < l.length + r.length := by have := (List.getElem?_eq_some_iff.mp hx).1; omega
      rw [List.reverse_concat, computeRev_split_right hlr hrl hle hir, ihr hq hx]
      rfl

/-- **verify_complete**: the proof `SimpleProofsFromHashers` produces for leaf `i` verifies -/
theorem verify_complete {D : Type} [Inhabited D] [DecidableEq D] (H2 : D → D → D)
    (ls : List D) (i : Nat) (hi : i < ls.length) (pr : List D) (hpr : (proofs H2 ls)[i]? = some pr) :
    verify H2 (i : Int) ls.length ls[i] pr (root H2 ls) = true :=
  verify_eq_true.mpr (computeRev_complete hpr (List.getElem?_eq_getElem hi))

/-- Soundness needs no induction of its own: the index is in range, so leaf `i` of `ls` has a proof that reaches the
same root (completeness), and two runs that reach one digest start from one leaf (uniqueness). -/
theorem computeRev_sound {D : Type} [Inhabited D] {H2 : D → D → D} (hinj : Inj2 H2) {leaf : D} {arev ls : List D} {i : Int}
    (h : computeRev H2 leaf i ls.length arev = some (root H2 ls)) : 0 ≤ i ∧ ls[i.toNat]? = some leaf := by
  obtain ⟨h0, hin⟩ := computeRev_range h
  have hi : i.toNat < ls.length := by omega
  have hpr : i.toNat < (proofs H2 ls).length := by rw [proofs_length]; exact hi
  have hc := computeRev_complete (List.getElem?_eq_getElem hpr) (List.getElem?_eq_getElem hi)
  rw [Int.toNat_of_nonneg h0] at hc
  exact ⟨h0, by rw [List.getElem?_eq_getElem hi, (computeRev_unique hinj h hc).1]⟩

/-- **verify_sound**: a proof that verifies against the root of `ls` for index `i` and total `|ls|`
pins the leaf: `ls[i] = leaf` (and `0 ≤ i < |ls|`).  Only `Inj2 H2` is assumed. -/
theorem verify_sound {D : Type} [Inhabited D] [DecidableEq D] (H2 : D → D → D) (hinj : Inj2 H2)
    (ls : List D) (i : Int) (leaf : D) (aunts : List D)
    (h : verify H2 i ls.length leaf aunts (root H2 ls) = true) :
    0 ≤ i ∧ ls[i.toNat]? = some leaf :=
  computeRev_sound hinj (verify_eq_true.mp h)

/-- every leaf of `xs` has a proof that reaches the common root, and soundness for `ys` pins it -/
theorem root_inj_same_length {D : Type} [Inhabited D] {H2 : D → D → D} (hinj : Inj2 H2) {xs ys : List D}
    (hlen : xs.length = ys.length) (h : root H2 xs = root H2 ys) : xs = ys := by
  apply List.ext_getElem hlen
  intro i hx hy
  have hpr : i < (proofs H2 xs).length := by rw [proofs_length]; exact hx
  have hc := computeRev_complete (List.getElem?_eq_getElem hpr) (List.getElem?_eq_getElem hx)
  rw [hlen, h] at hc
  have hs := (computeRev_sound hinj hc).2
  rw [Int.toNat_natCast, List.getElem?_eq_getElem hy] at hs
  exact (Option.some.inj hs).symm

/-- FULL STATEMENT (false): the root alone, without the number of leaves, commits to the list. -/
def C12_root_injective_statement : Prop :=
  ∀ (D : Type) [Inhabited D] (H2 : D → D → D), Inj2 H2 → ∀ xs ys : List D, xs ≠ [] → ys ≠ [] → root H2 xs = root H2 ys → xs = ys

/-- no leaf/inner domain separation: the one-leaf list `[node a b]` and the two-leaf list `[a, b]` have
the same root although `H2` is injective.  (In the code the number of leaves is committed separately:
`PartSetHeader.Total`, `Header.NumTxs`, the validator-set size for commits; the evidence list length is
covered only by the part-set hash.) -/
theorem C12_root_injective_counterexample : ¬ C12_root_injective_statement := by
  intro h
  have := h Tree Tree.node tree_inj2 [Tree.node (.leaf 0) (.leaf 1)] [.leaf 0, .leaf 1] (by simp) (by simp)
    (by rw [root_single, root_split _ _ (by simp)]; simp [root_single])
  cases this

example : verify Tree.node 1 3 (.leaf 1) [.leaf 0, .leaf 2] (root Tree.node [.leaf 0, .leaf 1, .leaf 2]) = true := by
  rw [root_split _ _ (by simp)]
  simp [root_single, root_split, verify, computeHashFromAunts, computeRev]

example : proofs Tree.node [.leaf 0, .leaf 1] = [[.leaf 1], [.leaf 0]] := by
  rw [proofs_split _ _ (by simp)]
  simp [proofs_single, root_single]

/-- non-vacuity of `verify_fixes_leaf`: a run that verifies against a digest written down, not computed by `root` -/
example : verify Tree.node 0 2 (.leaf 0) [.leaf 1] (Tree.node (.leaf 0) (.leaf 1)) = true := by decide

end Props.C12
