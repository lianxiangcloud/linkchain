import LinkVerif.Props.C07
import LinkVerif.Props.C06R

/-!
# C07R — every spendable unit is spent at most once, for histories whose forced blocks are executed as the real
`Process` executes them (`Model.LedgerR.forceBlockR`: a value-underfunded account transfer stays in the block with a failed
receipt and its nonce is CONSUMED)

No key image is ever committed twice along any sequence of submissions, mempool blocks, forced blocks (receipt-accurate) and
restarts; an account transaction that a committed block EXECUTED OR FAILED is never valid again and never fails again — in
every later state of every run it is neither `txValid` nor `vmFailsR`, so every block holding it is execution-invalid.
What a block does to nonces and key images is in `Props.C07`.
-/
namespace Props.C07R
open Model.Ledger
open Props.C06R (execBlockR_of_RS forceBlockR_cases)
open Props.C07 (Op restart Grows grows_submit grows_block vmFailsR_acct nonce_low_dead init_nonce_length)

/-- one operation with a forced block executed by `forceBlockR`, the function the drivers' `forceblock` calls (`Driver.C07.stepR`) -/
def stepR (s : St) : Op → St
  | .submit t => (admitTx { s with txs := s.txs ++ [t] } s.txs.length t).2
  | .block => block s
  | .force ids => (forceBlockR s ids).1
  | .restart => restart s

def runR (s : St) : List Op → St
  | [] => s
  | op :: ops => runR (stepR s op) ops

theorem grows_stepR (s : St) (op : Op) : Grows s (stepR s op) := by
  cases op with
  | submit t => exact grows_submit s t
  | restart => exact (Grows.refl s).of_eq rfl rfl
  | block => exact grows_block s
  | force ids =>
    show Grows s (forceBlockR s ids).1
    rcases forceBlockR_cases s ids with ⟨h, _⟩ | ⟨s', _, he, h⟩
    · rw [h]; exact .refl s
    · rw [h]; exact (execBlockR_grows (execBlockR_of_RS he)).of_eq rfl rfl

theorem runR_grows (s : St) (ops : List Op) : Grows s (runR s ops) := by
  induction ops generalizing s with
  | nil => exact .refl s
  | cons op ops ih => exact (grows_stepR s op).trans (ih _)

/-- **C07R (confidential outputs)**: no key image is ever committed twice, forced blocks with failed receipts included -/
theorem keyimage_once_R (a w : Nat) (b tb : Int) (ops : List Op) : (runR (init a w b tb) ops).spentImgs.Nodup :=
  (runR_grows _ ops).spent_nodup List.nodup_nil

theorem nonce_monotone_R (s : St) (ops : List Op) (j : Nat) : getn s.nonce j ≤ getn (runR s ops).nonce j :=
  (runR_grows s ops).nonce_mono j

theorem spent_refused_forever_R {s : St} {t : TxRec} (hk : t.kind = .uin) (h : t.spends ∈ s.spentImgs) (ops : List Op)
    (seen : List Nat) : txValid (runR s ops) seen t = false ∧ vmFailsR (runR s ops) t = false := by
  have hmem := (runR_grows s ops).spent_mono h
  exact ⟨Props.C07.spent_image_invalid hk hmem, Bool.eq_false_iff.mpr fun hf => (vmFailsR_acct hf).1 hk⟩

/-- **C07R (account transactions)**: once a committed block has EXECUTED OR FAILED an account transaction (receipt status 1
or 0), it is dead in every later state of every run: it neither executes nor fails again, and every block holding it is
execution-invalid -/
theorem account_tx_once_R {s s' : St} {recs : List TxRec} {t : TxRec} (he : execBlockR s [] recs = some s')
    (ht : t ∈ recs) (hk : t.kind ≠ .uin) (hlt : t.from_ < s.nonce.length) {s'' : St} (hs : s''.nonce = s'.nonce)
    (ops : List Op) (seen : List Nat) :
    txValid (runR s'' ops) seen t = false ∧ vmFailsR (runR s'' ops) t = false ∧
    ∀ blk, t ∈ blk → execBlockR (runR s'' ops) seen blk = none := by
  have hlow : t.nonce < getn (runR s'' ops).nonce t.from_ :=
    Nat.lt_of_lt_of_le (by rw [hs]; exact execBlockR_mem_nonce he ht hk hlt) (nonce_monotone_R s'' ops t.from_)
  have hd := nonce_low_dead (seen := seen) hk hlow
  exact ⟨hd.1, hd.2, fun blk hb => execBlockR_stale_none hb hk hlow⟩

/-- C07 for histories whose forced blocks are executed as the real `Process` executes them: (1) no key image is ever
committed twice; (2) an account transaction that a committed block executed OR failed is never valid again and never fails
again.  Along every sequence of operations from genesis, Byzantine forced blocks and restarts included. -/
def C07R_statement : Prop :=
  (∀ (a w : Nat) (b tb : Int) (ops : List Op), (runR (init a w b tb) ops).spentImgs.Nodup) ∧
  (∀ (a w : Nat) (b tb : Int) (ops₁ : List Op) (t : TxRec) (recs : List TxRec) (s' s'' : St), t.kind ≠ .uin → t.from_ < a →
    execBlockR (runR (init a w b tb) ops₁) [] recs = some s' → t ∈ recs → s''.nonce = s'.nonce →
    ∀ (ops : List Op) (seen : List Nat), txValid (runR s'' ops) seen t = false ∧ vmFailsR (runR s'' ops) t = false)

theorem C07R_holds : C07R_statement :=
  ⟨keyimage_once_R, fun _ _ _ _ _ _ _ _ _ hk hlt he ht hs ops seen =>
    let h := account_tx_once_R he ht hk (by rw [(runR_grows ..).nonce_length, init_nonce_length]; exact hlt) hs ops seen
    ⟨h.1, h.2.1⟩⟩

theorem stepR_eq_step_of_ok (s : St) (ids : List Nat) (h : (forceBlock s ids).2 = "ok") :
    stepR s (.force ids) = Props.C07.step s (.force ids) := (Props.C06R.forceBlock_ok_R h).1

/-! ## non-vacuity -/

def nv_under : TxRec := { kind := .xfer, from_ := 0, to := 1, amount := 2000000000, nonce := 0, gas := calGas 2000000000 }
def nv_next : TxRec := { kind := .xfer, from_ := 0, to := 1, amount := 5, nonce := 1, gas := calGas 5 }
def nv_s : St := init 2 1 100000000 1000

/-- the underfunded transfer is refused by the mempool, FAILS in a forced block (nonce 0 → 1, balances untouched), is dead
afterwards (forcing it again is execution-invalid, replaying it is refused as stale), and the sender's next nonce works -/
example :
    let s1 := runR nv_s [.submit nv_under, .force [0]]
    s1.nonce = [1, 0] ∧ s1.bal = [100000000, 100000000] ∧ s1.height = 1 ∧
    (forceBlockR s1 [0]).2.1 = "propose=panic" ∧ (admitTx s1 0 nv_under).1 = "nonce-low" ∧
    txValid s1 [] nv_under = false ∧ vmFailsR s1 nv_under = false ∧
    (runR s1 [.submit nv_next, .block]).nonce = [2, 0] := ⟨rfl, rfl, rfl, rfl, rfl, rfl, rfl, rfl⟩

/-- the hypothesis of `account_tx_once_R` is met by that forced block -/
example : ∃ s', execBlockR (runR nv_s [.submit nv_under]) [] [nv_under] = some s' ∧ s'.nonce = [1, 0] :=
  ⟨_, rfl, by decide⟩

end Props.C07R
