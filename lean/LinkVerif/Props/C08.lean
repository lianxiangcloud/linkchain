/-
C08 — Only the key holder can move funds; signatures bind every transaction field.

Structure of the argument
  * `fields_covered`, `hash_covers_all`, `utxo_message_binds`, `signers_vetted` : evaluation (`rfl`, `decide`) of the tables
    regenerated from the Go source (`Gen.SigFacts`) — which struct fields the signing hash, the transaction hash and the RingCT message
    cover, and the exact shape of the signer code the hand model mirrors.  Removing a field from a `signFields()` list,
    changing a `recover` argument or the cache guard makes these stop checking.
  * binding theorems about the executable model `Model.SigHash.signerSender` (the function the driver runs against the
    real code), parametrised by the digest `D` and the recovery function `rec`; the cryptographic laws are hypotheses:
      `Function.Injective D`  — Keccak-256 collision resistance + injectivity of the `libs/ser` list encoding (C11)
      `RecInj rec`            — a signature (r,s,recid) recovers a given address for one digest only (ECDSA algebra)
  * the full statement `C08_statement` (the chain parameter is bound for EVERY accepted signature) is FALSE of the current
    code: `C08_counterexample` (V = 27: the EIP155 signer falls back to the homestead rule, whose hash has no chain
    parameter); `C08_partial` is the statement for protected signatures.
-/
import LinkVerif.Props.C08Range

namespace Props.C08
open Model.SigHash Gen.SigFacts

/-- vetted classification of the serialised fields that are NOT payload: the signature itself, and (UTXO) the ring
    signature, which is bound the other way round — its message covers the payload and the account signature -/
def signatureFields : List String := ["V", "R", "S", "Signdata", "Sigs", "Signatures"]
def ringSigFields : List String := ["RCTSig"]

/-- a struct's serialised fields are its signed fields followed by its signature fields: `l = a ++ c` holds by unfolding,
    and only the few names in `c` are looked up (string comparison is slow to evaluate) -/
theorem forall_mem_of_eq_append {α : Type} {l a c : List α} {Q : α → Prop} (h : l = a ++ c) (hc : ∀ n ∈ c, Q n) :
    ∀ n ∈ l, n ∈ a ∨ Q n :=
  fun n hn => (List.mem_append.1 (h ▸ hn)).imp_right (hc n)

/-- `fields_covered`: every serialised payload field of every account-signed transaction type is in its `signFields()` -/
theorem fields_covered :
    (∀ n ∈ serNames txdataFields, n ∈ txSignFields ∨ n ∈ signatureFields) ∧
    (∀ n ∈ serNames tokenDataFields, n ∈ tokSignFields ∨ n ∈ signatureFields) ∧
    (∀ n ∈ serNames cutTxFields, n ∈ cutSignFields ∨ n ∈ signatureFields) ∧
    (∀ n ∈ serNames utxoTxFields, n ∈ utxoSignFields ∨ n ∈ signatureFields ∨ n ∈ ringSigFields) ∧
    -- nothing that is not serialised is signed, and the embedded main info has no unserialised field
    (∀ n ∈ txSignFields, n ∈ serNames txdataFields) ∧ (∀ n ∈ tokSignFields, n ∈ serNames tokenDataFields) ∧
    (∀ n ∈ utxoSignFields, n ∈ serNames utxoTxFields) ∧
    (serNames cutMainInfoFields = cutMainInfoFields.map (·.1)) ∧
    -- the unexported fields are the caches only
    ((txdataFields.filter (!·.2)).map (·.1) = ["fromValue", "Hash"]) ∧
    ((signdataFields.filter (!·.2)).map (·.1) = ["fromValue", "signFieldsFunc"]) ∧
    ((utxoTxFields.filter (!·.2)).map (·.1) = ["kind", "hash", "size", "utxoInNum", "utxoOutNum", "nonce"]) ∧
    ((cutTxFields.filter (!·.2)).map (·.1) = ["hash"]) :=
  ⟨forall_mem_of_eq_append (c := ["V", "R", "S"]) rfl (by decide),
    forall_mem_of_eq_append (c := ["Signdata"]) rfl (by decide),
    forall_mem_of_eq_append (c := ["Signatures"]) rfl (by decide),
    forall_mem_of_eq_append (c := ["Sigs", "RCTSig"]) rfl (by decide),
    fun _ => List.mem_append_left ["V", "R", "S"], fun _ => List.mem_append_left ["Signdata"],
    fun _ => List.mem_append_left ["Sigs", "RCTSig"], rfl, rfl, rfl, rfl, rfl⟩

/-- `hash_covers_all`: the transaction hash (mempool cache key, `StoreFrom` guard) covers every serialised field
    including V, R, S -/
theorem hash_covers_all :
    -- Transaction: rlpHash(tx) → EncodeSER → ser.Encode(w, &tx.data): all serialised fields of txdata
    txHashArg = ["tx"] ∧ txEncodeArgs = ["w", "&tx.data"] ∧
    (∀ n ∈ ["V", "R", "S"] ++ txSignFields, n ∈ serNames txdataFields) ∧
    -- TokenTransaction: rlpHash(append(tx.signFields(), tx.data.Signdata))
    tokHashAppend = ["tx.signFields()", "tx.data.Signdata"] ∧ tokHashArg = ["hashFields"] ∧
    (∀ n ∈ serNames tokenDataFields, n ∈ tokSignFields ++ ["Signdata"]) ∧
    -- ContractUpgradeTx / UTXOTransaction: transactionHash(&tx.hash, tx) → rlpHash(tx), plain struct encoding
    cutHashArgs = ["&tx.hash", "tx"] ∧ utxoHashArgs = ["&tx.hash", "tx"] ∧ transactionHashRlpArg = ["tx"] ∧
    serNames signdataFields = ["V", "R", "S"] :=
  ⟨rfl, rfl, fun _ h => List.mem_append.2 (List.mem_append.1 h).symm, rfl, rfl, fun _ h => h, rfl, rfl, rfl, rfl⟩

/-- `utxo_message_binds`: the RingCT message is the prefix hash, which covers inputs, outputs, token, transaction keys,
    fee, extra and the account signature -/
theorem utxo_message_binds :
    rctMessageAssigned = ["tx.PrefixHash()"] ∧
    (∀ n ∈ utxoSignFields, n ∈ utxoPrefixHashFields) ∧
    (∀ n ∈ ["Sigs.R", "Sigs.S", "Sigs.V"], n ∈ utxoPrefixHashFields) ∧
    (∀ n ∈ serNames utxoTxFields, n ∈ utxoPrefixHashFields ∨ n = "Sigs" ∨ n ∈ ringSigFields) :=
  have signed : ∀ n ∈ utxoSignFields, n ∈ utxoPrefixHashFields := fun _ => List.mem_append_left ["Sigs.R", "Sigs.S", "Sigs.V"]
  ⟨rfl, signed, fun _ => List.mem_append_right utxoSignFields,
    fun n hn => (forall_mem_of_eq_append (c := ["Sigs", "RCTSig"]) (Q := fun n => n = "Sigs" ∨ n ∈ ringSigFields) rfl
      (by decide) n hn).imp_left (signed n)⟩

/-- the signer code the hand model mirrors, statement by statement -/
theorem signers_vetted :
    signAppend = ["data", "signer.SignParam()", "uint(0)", "uint(0)"] ∧ signHashArg = ["fields"] ∧
    eip155HashBody = ["h := data.signFields()", "h = append(h, s.signParam, uint(0), uint(0))", "return rlpHash(h)"] ∧
    frontierHashBody = ["return rlpHash(data.signFields())"] ∧
    eip155SenderBody = ["if !data.Protected() { return STDHomesteadSigner{}.Sender(data) }",
      "if data.SignParam().Cmp(s.signParam) != 0 { return common.EmptyAddress, ErrInvalidSignParam }",
      "return data.recover(s.Hash(data), s.signParamMul, true)"] ∧
    eip155RecoverArgs = ["s.Hash(data)", "s.signParamMul", "true"] ∧ homesteadRecoverArgs = ["s.Hash(data)", "nil", "true"] ∧
    frontierRecoverArgs = ["s.Hash(data)", "nil", "false"] ∧
    recoverPlainValidateArgs = ["V", "R", "S", "homestead"] ∧
    senderCacheGuard = "sigCache.signer.Equal(signer)" ∧ senderCacheStore = "stdSigCache{signer: signer, from: addr}" :=
  ⟨rfl, rfl, rfl, rfl, rfl, rfl, rfl, rfl, rfl, rfl, rfl⟩

/-- information: the validators of a MultiSignAccountTx sign the main info alone — no chain parameter -/
theorem mst_signs_main_info_only : mstSignBytesArg = ["tx.MultiSignMainInfo"] ∧
    serNames mstTxFields = ["MultiSignMainInfo", "Signatures"] := ⟨rfl, rfl⟩

theorem sigHashItems_field {t t' : TxV} (s : Signer) (hk : t'.kind = t.kind) {n : String} (hn : n ∈ signFieldNames t.kind)
    (hne : item t' n ≠ item t n) : sigHashItems s t' ≠ sigHashItems s t := by
  intro h
  have h := List.append_cancel_right h
  rw [signItems, hk] at h
  exact hne (List.map_inj_left.1 h n hn)

section
variable {δ α : Type} (D : List Bytes → δ) (rec : δ → Int → Int → Int → Option α)

/-- ECDSA algebra: for fixed (r, s, recid) the recovered key is an injective function of the digest -/
def RecInj : Prop := ∀ d d' r s v a, rec d r s v = some a → rec d' r s v = some a → d = d'

theorem recoverWith_ok {d : δ} {sg : Sig} {Vb : Int} {hs : Bool} {w : Who α}
    (h : recoverWith rec d sg Vb hs = .ok w) :
    ∃ v, plainRecid sg.r sg.s Vb hs = .ok v ∧ ∀ a, w = .addr a → rec d sg.r sg.s v = some a := by
  unfold recoverWith at h
  split at h
  · cases h
  · rename_i v hv
    refine ⟨v, hv, fun a ha => ?_⟩
    subst ha
    split at h
    · rename_i a' ha'; cases h; exact ha'
    · cases h

theorem signerSender_eip_unprotected {p : Nat} {sg : Sig} (h : isProtectedV sg.v = false) (t : TxV) :
    signerSender D rec (.eip p) t sg = signerSender D rec .home t sg := by
  simp only [signerSender, h, Bool.not_false, if_true]

theorem signerSender_eip_protected {p : Nat} {sg : Sig} (h : isProtectedV sg.v = true) (t : TxV) :
    signerSender D rec (.eip p) t sg =
      if deriveSignParam sg.v ≠ (p : Int) then .error .param
      else recoverWith rec (D (sigHashItems (.eip p) t)) sg (sg.v - 2 * p - 8) eip155RecoverHomestead := by
  simp only [signerSender, h, Bool.not_true, Bool.false_eq_true, if_false]

theorem protected_accept {p : Nat} {t : TxV} {sg : Sig} {w : Who α}
    (hprot : isProtectedV sg.v = true) (h : signerSender D rec (.eip p) t sg = .ok w) :
    deriveSignParam sg.v = (p : Int) ∧ (sg.v = 35 + 2 * p ∨ sg.v = 36 + 2 * p) ∧
      recoverWith rec (D (sigHashItems (.eip p) t)) sg (sg.v - 2 * p - 8) eip155RecoverHomestead = .ok w := by
  rw [signerSender_eip_protected D rec hprot] at h
  split at h
  · cases h
  · rename_i hp
    have hp := Decidable.not_not.1 hp
    obtain ⟨v, hv, _⟩ := recoverWith_ok rec h
    have := eip_accept_canonical p sg.v sg.r sg.s v _ hp hv
    exact ⟨hp, by omega, h⟩

theorem signerSender_other_param {p p' : Nat} {sg : Sig} (hprot : isProtectedV sg.v = true)
    (hd : deriveSignParam sg.v = (p : Int)) (hpp : p ≠ p') (t : TxV) :
    signerSender D rec (.eip p') t sg = .error .param := by
  rw [signerSender_eip_protected D rec hprot, if_pos (by rw [hd]; exact fun e => hpp (Int.ofNat_inj.1 e))]

/-- `chain_param_binds` (no cryptographic hypothesis): a protected signature that chain p accepts is REJECTED by the
    signer of every other chain parameter, whatever the transaction -/
theorem chain_param_binds (p p' : Nat) (t t' : TxV) (sg : Sig) (w : Who α) (hprot : isProtectedV sg.v = true)
    (h : signerSender D rec (.eip p) t sg = .ok w) (hpp : p ≠ p') :
    signerSender D rec (.eip p') t' sg = .error .param :=
  signerSender_other_param D rec hprot (protected_accept D rec hprot h).1 hpp t'

theorem recoverWith_binds (hR : RecInj rec) {d d' : δ} {sg : Sig} {Vb : Int} {hs : Bool} {a : α}
    (h : recoverWith rec d sg Vb hs = .ok (.addr a)) (h' : recoverWith rec d' sg Vb hs = .ok (.addr a)) : d' = d := by
  obtain ⟨v, hv, hr⟩ := recoverWith_ok rec h
  obtain ⟨v', hv', hr'⟩ := recoverWith_ok rec h'
  cases hv.symm.trans hv'
  exact hR _ _ _ _ _ _ (hr' a rfl) (hr a rfl)

/-- `mutation_changes_sender_or_rejects`: for a protected signature, changing the signed content (any signed field:
    `sigHashItems_field`) yields a rejection or a different recovered address -/
theorem mutation_changes_sender_or_rejects (hD : Function.Injective D) (hR : RecInj rec)
    (p : Nat) (t t' : TxV) (sg : Sig) (a : α) (hprot : isProtectedV sg.v = true)
    (h : signerSender D rec (.eip p) t sg = .ok (.addr a))
    (hne : sigHashItems (.eip p) t' ≠ sigHashItems (.eip p) t) :
    signerSender D rec (.eip p) t' sg ≠ .ok (.addr a) :=
  fun h' => hne (hD (recoverWith_binds rec hR (protected_accept D rec hprot h).2.2 (protected_accept D rec hprot h').2.2))

/-- the same for the homestead signer (and hence for unprotected signatures under an EIP155 signer, which hands them to it) -/
theorem mutation_changes_sender_home (hD : Function.Injective D) (hR : RecInj rec)
    (t t' : TxV) (sg : Sig) (a : α) (h : signerSender D rec .home t sg = .ok (.addr a))
    (hne : sigHashItems .home t' ≠ sigHashItems .home t) :
    signerSender D rec .home t' sg ≠ .ok (.addr a) :=
  fun h' => hne (hD (recoverWith_binds rec hR h h'))

/-- an accepted signature has canonical shape: r, s in range, low s unless the frontier signer was asked, and
    V = 35 + 2p + recid (protected) or |V| ∈ {27,28} -/
theorem accepted_canonical (s : Signer) (t : TxV) (sg : Sig) (w : Who α)
    (h : signerSender D rec s t sg = .ok w) :
    1 ≤ sg.r ∧ sg.r < secp256k1N ∧ 1 ≤ sg.s ∧ sg.s < secp256k1N ∧ (s ≠ .front → sg.s ≤ secp256k1halfN) ∧
    (match s with
     | .eip p => (isProtectedV sg.v = true ∧ (sg.v = 35 + 2 * p ∨ sg.v = 36 + 2 * p)) ∨ (absI sg.v = 27 ∨ absI sg.v = 28)
     | _ => absI sg.v = 27 ∨ absI sg.v = 28) := by
  -- what `recoverPlain` has checked when `recoverWith` answers, with the last two clauses in the shape each path needs
  have key : ∀ {d : δ} {Vb : Int} {hs : Bool} {q R : Prop}, recoverWith rec d sg Vb hs = .ok w → (q → hs = true) →
      (absI Vb = 27 ∨ absI Vb = 28 → R) →
      1 ≤ sg.r ∧ sg.r < secp256k1N ∧ 1 ≤ sg.s ∧ sg.s < secp256k1N ∧ (q → sg.s ≤ secp256k1halfN) ∧ R := by
    intro d Vb hs q R h hq hR
    obtain ⟨v, hv, _⟩ := recoverWith_ok rec h
    obtain ⟨h1, h01, h2⟩ := plainRecid_ok hv
    obtain ⟨r1, rN, s1, sN, low, -⟩ := (validate_iff ..).1 h2
    exact ⟨r1, rN, s1, sN, fun e => low (hq e), hR (by omega)⟩
  cases s with
  | front => exact key h (fun e => absurd rfl e) id
  | home => exact key h (fun _ => rfl) id
  | eip p =>
    cases hprot : isProtectedV sg.v with
    | false =>
      rw [signerSender_eip_unprotected D rec hprot] at h
      exact key h (fun _ => rfl) Or.inr
    | true =>
      obtain ⟨_, hc, h⟩ := protected_accept D rec hprot h
      exact key h (fun _ => rfl) fun _ => Or.inl ⟨rfl, hc⟩

/-- `twin_rejected`: the malleable twin (r, N−s) of an accepted signature is rejected by the EIP155 and homestead
    signers whatever V it is given -/
theorem twin_rejected (s : Signer) (hs : s ≠ .front) (t t' : TxV) (sg : Sig) (w : Who α) (v' : Int)
    (h : signerSender D rec s t sg = .ok w) :
    ∃ e, signerSender D rec s t' ⟨v', sg.r, twinS sg.s⟩ = .error e := by
  obtain ⟨-, -, -, -, low, -⟩ := accepted_canonical D rec s t sg w h
  cases hr : signerSender D rec s t' ⟨v', sg.r, twinS sg.s⟩ with
  | error e => exact ⟨e, rfl⟩
  | ok w' =>
    obtain ⟨-, -, -, -, low', -⟩ := accepted_canonical D rec s t' _ w' hr
    exact absurd (low' hs) (twin_high (low hs))

/-- what a cache cell may hold for (t, sg): only results of a successful derivation for exactly this content -/
def CacheInv (c : Cache α) (t : TxV) (sg : Sig) : Prop :=
  ∀ s a, c = some (s, a) → signerSender D rec s t sg = .ok a

theorem cold_inv (t : TxV) (sg : Sig) : CacheInv D rec (none : Cache α) t sg := fun _ _ h => nomatch h

theorem cacheInv_some {s : Signer} {a : Who α} {t : TxV} {sg : Sig} :
    CacheInv D rec (some (s, a)) t sg ↔ signerSender D rec s t sg = .ok a :=
  ⟨fun h => h s a rfl, fun h _ _ e => by cases e; exact h⟩

/-- `cache_sound`: on an object whose content did not change since the cache was written, `sender()` returns exactly what
    the signer derives (a hit needs an equal signer), and keeps the invariant -/
theorem cache_sound (s : Signer) (c : Cache α) (t : TxV) (sg : Sig) (hc : CacheInv D rec c t sg) :
    (sender D rec s c t sg).1 = signerSender D rec s t sg ∧ CacheInv D rec (sender D rec s c t sg).2 t sg := by
  -- a hit under an equal signer; a miss that stores the derived address; a miss that keeps the cell
  fun_cases sender D rec s c t sg with
  | case1 a => exact ⟨(hc s a rfl).symm, hc⟩
  | case2 _ _ _ _ hs | case4 _ hs => exact ⟨hs.symm, (cacheInv_some D rec).2 hs⟩
  | case3 _ _ _ _ hs | case5 _ hs => exact ⟨hs.symm, hc⟩

/-- `StoreFrom` in app/app.go copies `cacheTx.From()` of a hash-identical transaction under the global signer: if the
    two have the same content (what equal `Hash()` means under `hash_covers_all` + injectivity), the written cell
    satisfies the invariant -/
theorem storeFrom_sound (p : Nat) (t : TxV) (sg : Sig) (a : Who α)
    (h : signerSender D rec (.eip p) t sg = .ok a) : CacheInv D rec (some (.eip p, a)) t sg :=
  (cacheInv_some D rec).2 h

end

def t0 : TxV := { kind := .tx, fields := [("AccountNonce", encNat 7), ("Price", encNat 100000000000), ("GasLimit", encNat 21000),
  ("Recipient", rlpStr [0xaa]), ("Amount", encNat 1000), ("Payload", rlpStr [])], sigs := [] }
def t1 : TxV := { t0 with fields := [("AccountNonce", encNat 8), ("Price", encNat 100000000000), ("GasLimit", encNat 21000),
  ("Recipient", rlpStr [0xaa]), ("Amount", encNat 1000), ("Payload", rlpStr [])] }

/-- an ideal instance: the digest is the item list itself, every (r,s,recid) recovers "the holder of" the digest -/
def recId : List Bytes → Int → Int → Int → Option (List Bytes) := fun d _ _ _ => some d
theorem recId_inj : RecInj recId := fun _ _ _ _ _ _ h h' => Option.some.inj (h.trans h'.symm)

theorem t1_ne_t0 : sigHashItems (.eip 1) t1 ≠ sigHashItems (.eip 1) t0 :=
  sigHashItems_field (.eip 1) rfl (n := "AccountNonce") (by decide) (by decide)

/-- the hypotheses of the binding theorems are satisfiable together with an accepted protected signature … -/
example : signerSender id recId (.eip 1) t0 ⟨37, 1, 1⟩ = .ok (.addr (sigHashItems (.eip 1) t0)) := by rfl
example : isProtectedV 37 = true := by decide
/-- … the nonce is a signed field whose change changes the signed content … -/
example : sigHashItems (.eip 1) t1 ≠ sigHashItems (.eip 1) t0 := t1_ne_t0
/-- … and the mutated transaction indeed recovers somebody else -/
example : signerSender id recId (.eip 1) t1 ⟨37, 1, 1⟩ ≠ .ok (.addr (sigHashItems (.eip 1) t0)) :=
  mutation_changes_sender_or_rejects id recId (fun _ _ h => h) recId_inj 1 t0 t1 ⟨37, 1, 1⟩ _ (by decide) (by rfl) t1_ne_t0
example : signerSender id recId (.eip 2) t0 ⟨37, 1, 1⟩ = .error .param :=
  chain_param_binds id recId 1 2 t0 t0 ⟨37, 1, 1⟩ _ (by decide) (by rfl : signerSender id recId (.eip 1) t0 ⟨37, 1, 1⟩ = .ok _) (by decide)

/-- **C08, full statement** (chain clause): for every ideal digest and recovery function, a signature accepted with
    sender `a` under chain parameter p is not accepted with sender `a` under any other chain parameter -/
def C08_statement : Prop :=
  ∀ (D : List Bytes → List Bytes) (rec : List Bytes → Int → Int → Int → Option (List Bytes)),
    Function.Injective D → RecInj rec →
    ∀ (p p' : Nat) (t : TxV) (sg : Sig) (a : List Bytes), p ≠ p' →
      signerSender D rec (.eip p) t sg = .ok (.addr a) → signerSender D rec (.eip p') t sg ≠ .ok (.addr a)

/-- FALSE of the current code: V = 27 makes `STDEIP155Signer.Sender` fall back to the homestead rule, whose hash does not
    contain the chain parameter — the same signature moves the same account's funds on every chain
    (known finding `unprotected-signature-chain-independent`, replayed on the real code by the corpus case) -/
theorem C08_counterexample : ¬ C08_statement := by
  intro h
  exact h id recId (fun _ _ h => h) recId_inj 1 2 t0 ⟨27, 1, 1⟩ (sigHashItems .home t0) (by decide) (by rfl) (by rfl)

/-- **C08, the part that holds**: for PROTECTED signatures (V ∉ {±27, ±28}) the chain parameter is bound (even without
    cryptographic hypotheses: the other chain rejects), every signed field is bound, and the malleable twin is rejected -/
theorem C08_partial {δ α : Type} (D : List Bytes → δ) (rec : δ → Int → Int → Int → Option α)
    (hD : Function.Injective D) (hR : RecInj rec)
    (p : Nat) (t : TxV) (sg : Sig) (a : α) (hprot : isProtectedV sg.v = true)
    (h : signerSender D rec (.eip p) t sg = .ok (.addr a)) :
    (∀ p' t', p ≠ p' → signerSender D rec (.eip p') t' sg = .error .param) ∧
    (∀ t', sigHashItems (.eip p) t' ≠ sigHashItems (.eip p) t → signerSender D rec (.eip p) t' sg ≠ .ok (.addr a)) ∧
    (∀ t' v', ∃ e, signerSender D rec (.eip p) t' ⟨v', sg.r, twinS sg.s⟩ = .error e) ∧
    (sg.v = 35 + 2 * p ∨ sg.v = 36 + 2 * p) := by
  refine ⟨fun p' t' => chain_param_binds D rec p p' t t' sg _ hprot h,
    fun t' => mutation_changes_sender_or_rejects D rec hD hR p t t' sg a hprot h,
    fun t' v' => twin_rejected D rec (.eip p) nofun t t' sg _ v' h, (protected_accept D rec hprot h).2.1⟩

/-- information, kernel-checked in the model: `cache_sound` needs "content unchanged since the cache was written".  An
    object written in place after use (UTXOTransaction's exported fields, `DecodeSER` into a used Transaction, re-`Sign`)
    answers from the stale cell: here the cell written for `t0` answers for `t1`. -/
theorem stale_cache_witness :
    (sender id recId (.eip 1) (sender id recId (.eip 1) none t0 ⟨37, 1, 1⟩).2 t1 ⟨37, 1, 1⟩).1
      ≠ signerSender id recId (.eip 1) t1 ⟨37, 1, 1⟩ := by
  show Except.ok (Who.addr (sigHashItems (.eip 1) t0)) ≠ .ok (.addr (sigHashItems (.eip 1) t1))
  exact fun h => t1_ne_t0 (Who.addr.inj (Except.ok.inj h)).symm

end Props.C08
