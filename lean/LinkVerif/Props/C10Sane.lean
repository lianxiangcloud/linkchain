/-
C10: the data precondition `Sane` of the executable proof theorems follows from bounds on the CONTENT:
every stored key shorter than 2^32 nibbles, every stored value non-empty and shorter than 2^32 bytes.
-/
import LinkVerif.Props.C10Decode
import LinkVerif.Props.C10Iter

namespace Props.C10
open Model.Trie

theorem rlpHead_length_le (base n : Nat) : (rlpHead base n).length ≤ 9 := by
  unfold rlpHead
  split
  · simp
  · have := beBytesAux_length_le 8 n
    simp [beBytes]; omega

theorem rlpStr_length_le (b : Bytes) : (rlpStr b).length ≤ b.length + 9 := by
  unfold rlpStr
  split
  · split
    · simp
    · have := rlpHead_length_le 128 1; simp; omega
  · have := rlpHead_length_le 128 b.length; simp; omega

theorem rlpList_length_le (p : Bytes) : (rlpList p).length ≤ p.length + 9 := by
  have := rlpHead_length_le 192 p.length
  simp [rlpList]; omega

theorem packNibbles_length_le : ∀ (l : List Nib), (packNibbles l).length ≤ l.length
  | [] => by simp [packNibbles]
  | [_] => by simp [packNibbles]
  | a :: b :: r => by
    have := packNibbles_length_le r
    simp [packNibbles]; omega

theorem hexToCompact_length_le (k : List Nib) : (hexToCompact k).length ≤ k.length + 1 := by
  have hd : (if hasTerm k = true then k.dropLast else k).length ≤ k.length := by
    split
    · rw [List.length_dropLast]; exact Nat.sub_le _ _
    · exact Nat.le_refl _
  unfold hexToCompact
  generalize (if hasTerm k = true then k.dropLast else k) = h at hd
  generalize (if hasTerm k = true then 1 else 0) = t
  have h1 := packNibbles_length_le h
  simp only []
  split
  · cases h with
    | nil => exact Nat.succ_le_succ (Nat.zero_le _)
    | cons x r =>
      have h2 := packNibbles_length_le r
      simp only [List.length_cons] at hd ⊢
      omega
  · simp only [List.length_cons]; omega

theorem length_flatMap_le {α : Type} (l : List α) (F : α → Bytes) (B : Nat) (h : ∀ i ∈ l, (F i).length ≤ B) :
    (l.flatMap F).length ≤ l.length * B := by
  induction l with
  | nil => simp
  | cons a l ih =>
    have h1 := h a (by simp)
    have h2 := ih (fun i hi => h i (by simp [hi]))
    simp only [List.flatMap_cons, List.length_append, List.length_cons]
    rw [Nat.succ_mul]; omega

theorem two64 : (2:Nat) ^ 64 = 18446744073709551616 := by decide
theorem two32 : (2:Nat) ^ 32 = 4294967296 := by decide
theorem two31 : (2:Nat) ^ 31 = 2147483648 := by decide

/-- a node whose payload is at most 17 slots of 2^32 + 41 bytes has an encoding `putint` can write -/
theorem sz_of_payload {total p : Nat} (ht : total ≤ p + 9) (hp : p ≤ 17 * (2 ^ 32 + 41)) : Sz total := by
  unfold Sz
  rw [two64]
  rw [two32] at hp
  omega

section
variable (H : Bytes → Bytes) (h32 : H32 H)
include h32

theorem embed_length_le (e : Bytes) : (embed H e).length ≤ 41 := by
  unfold embed
  split
  · omega
  · have := rlpStr_length_le (H e); rw [h32] at this; omega

/-- The contribution of a child to its parent's payload: written out in a value slot (`p`), embedded or hashed
elsewhere.  A written-out child is empty or a value. -/
theorem enc_slot_le {p : Prop} [Decidable p] {c : Node} (hp : Pos (decide p) c)
    (hbd : ∀ w, c = .value w → w.length < 2 ^ 32) :
    (if p then enc H c else embed H (enc H c)).length ≤ 2 ^ 32 + 41 := by
  by_cases h : p
  · rw [if_pos h]
    rcases pos_true_cases (decide_eq_true h ▸ hp) with rfl | ⟨w, rfl⟩
    · exact Nat.le_add_left _ _
    · have := rlpStr_length_le w
      have := hbd w rfl
      show (rlpStr w).length ≤ _
      omega
  · rw [if_neg h]
    exact Nat.le_trans (embed_length_le H h32 _) (Nat.le_add_left _ _)

theorem sane_of_content (n : Node) {v : Bool} (hn : Pos v n) :
    (∀ kv ∈ toMap n, kv.1.length < 2 ^ 32 ∧ kv.2 ≠ [] ∧ kv.2.length < 2 ^ 32) → Sane H n := by
  induction v, n, hn using pos_induction with
  | nil v => exact fun _ => trivial
  | value w =>
    intro h
    have := h ([], w) (List.mem_singleton.mpr rfl)
    exact ⟨this.2.1, Nat.lt_trans this.2.2 (by decide)⟩
  | short k c hkk _ hwc ih =>
    intro h
    have hsub : ∀ kv ∈ toMap c, (k ++ kv.1).length < 2 ^ 32 ∧ kv.2 ≠ [] ∧ kv.2.length < 2 ^ 32 :=
      fun kv hkv => h (k ++ kv.1, kv.2) (List.mem_map.mpr ⟨kv, hkv, rfl⟩)
    refine ⟨?_, ih fun kv hkv => ⟨Nat.lt_of_le_of_lt (by rw [List.length_append]; omega) (hsub kv hkv).1,
      (hsub kv hkv).2⟩⟩
    -- some key is stored below, so the short key itself is bounded
    obtain ⟨key, hka, hg⟩ := exists_key c hwc
    obtain ⟨x, hgx⟩ := Option.isSome_iff_exists.mp hg
    have h4 := (hsub (key, x) ((toMap_mem_iff c c.isValue (pos_of_wf hwc) key x hka).mpr hgx)).1
    have h1 := enc_slot_le H h32 (p := c.isValue = true) (c := c) (Bool.decide_eq_true.symm ▸ pos_of_wf hwc)
      fun w e => by subst e; exact (hsub ([], w) (List.mem_singleton.mpr rfl)).2.2
    have h2 := rlpStr_length_le (hexToCompact k)
    have h3 := hexToCompact_length_le k
    rw [enc_short]
    refine sz_of_payload (rlpList_length_le _) ?_
    rw [List.length_append] at h4 ⊢
    rw [two32] at h1 h4 ⊢
    omega
  | full c hw ih =>
    intro h
    have hsub : ∀ i, ∀ kv ∈ toMap (c i), (i :: kv.1).length < 2 ^ 32 ∧ kv.2 ≠ [] ∧ kv.2.length < 2 ^ 32 :=
      fun i kv hkv => h (i :: kv.1, kv.2)
        (List.mem_flatMap.mpr ⟨i, List.mem_finRange i, List.mem_map.mpr ⟨kv, hkv, rfl⟩⟩)
    refine ⟨?_, fun i => ih i fun kv hkv => ⟨Nat.lt_of_succ_lt (hsub i kv hkv).1, (hsub i kv hkv).2⟩⟩
    have h1 : (fullPayload H c).length ≤ 17 * (2 ^ 32 + 41) := by
      have := length_flatMap_le (List.finRange 17) _ (2 ^ 32 + 41) fun i _ =>
          enc_slot_le H h32 (pos_child hw i) fun w e =>
            (hsub i ([], w) (by rw [e]; exact List.mem_singleton.mpr rfl)).2.2
      rwa [List.length_finRange] at this
    exact sz_of_payload (rlpList_length_le _) h1

end

end Props.C10
