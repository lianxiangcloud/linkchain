import LinkVerif.Props.C15Inv
import LinkVerif.Gen.MempoolLocks

/-!
# C15 — part 3: what the mempool offers is executable, conflict-free and ordered

Model: `Model.Mempool` (pool over the ledger model of C06/C07).  All statements are about EVERY history of submissions,
reaps, own commits (block = reap) and forced commits (block = arbitrary earlier transactions, as another or a Byzantine
proposer assembles them), for every size configuration.  Concurrency: every mutator of `*Mempool` runs under `proxyMtx`
(extracted fact `Gen.MempoolLocks`), so an interleaving is a history.

`C15_statement` holds at full strength: for EVERY registry of transactions (no hypothesis — the basic check of the model
rejects signed amounts, as `CheckBasic` does), every configuration, every history and every cap the reaped block executes.
Before repo commit 6dc6087 it was false (a rejected fee-too-low account-input confidential transaction left the
speculative state advanced); the former counterexample (`witnessReg`) is now the first example below.
-/
namespace Props.C15
open Model.Ledger Model.Mempool

/-! ## interleavings are histories (T2 facts regenerated from mempool/mempool.go and app/app.go) -/

/-- every exported method of `*Mempool` that mutates a queue takes `proxyMtx` itself, except `Update`;
`AddTx` and `Reap` take it; `Update` is called by `CommitBlock` between `mempool.Lock()` and `mempool.Unlock()` -/
theorem mutators_serialised :
    (∀ m ∈ Gen.MempoolLocks.exportedQueueMethods, m.2.1 = true → m.2.2 = true ∨ m.1 = "Update") ∧
    ("AddTx", true, true) ∈ Gen.MempoolLocks.exportedQueueMethods ∧ ("Reap", false, true) ∈ Gen.MempoolLocks.exportedQueueMethods ∧
    ("Update", true, false) ∈ Gen.MempoolLocks.exportedQueueMethods ∧
    Gen.MempoolLocks.commitBlockBracketsUpdate = true := by decide

/-! ## the shape of a reap -/

theorem collect_prefix (u : Nat) : ∀ (l : List E) (m c : Nat), ∃ k, collect u l m c = l.take k := by
  intro l
  induction l with
  | nil => intro m c; exact ⟨0, by simp [collect]⟩
  | cons e r ih =>
    intro m c
    cases m with
    | zero => exact ⟨0, by simp [collect]⟩
    | succ m =>
      unfold collect
      simp only []
      generalize (if e.t.kind = .ain ∨ e.t.kind = .uin then c + 1 else c) = c'
      by_cases hge : c' ≥ u
      · exact ⟨1, by simp [hge]⟩
      · obtain ⟨k, hk⟩ := ih m c'
        exact ⟨k + 1, by simp [hge, hk]⟩

/-- `Reap` returns a prefix of goodTxs followed by a prefix of utxoTxs -/
theorem reap_shape (p : Pool) (max : Nat) : ∃ k j, reap p max = p.good.take k ++ p.utxo.take j := by
  unfold reap
  by_cases h0 : max = 0
  · rw [if_pos h0]; exact ⟨0, 0, rfl⟩
  · rw [if_neg h0]
    simp only []
    obtain ⟨j, hj⟩ := collect_prefix p.cfg.utxoSize p.utxo p.cfg.utxoSize 0
    obtain ⟨k, hk⟩ := collect_prefix p.cfg.utxoSize p.good
      ((if max > p.cfg.maxReap then p.cfg.maxReap else max) - (collect p.cfg.utxoSize p.utxo p.cfg.utxoSize 0).length) 0
    exact ⟨k, j, by rw [hk, hj]⟩

/-! ## the property on a pool satisfying the invariant -/

/-- **reap_gapfree + reap_funded, operational form**: the account part of every reap passes the state checks one after the
other starting from the COMMITTED state — each transaction carries exactly the nonce its sender has after the
transactions offered before it (`checkAcc_ok`: `getn nonce from = t.nonce`) and its cost is covered by what the earlier
ones left of the committed balance (`canPay`); no credit from another offered transaction is used (debit-only run).
The same prefixes carry the key-image clauses of `reap_no_shared_image`. -/
theorem reap_offer {p : Pool} (h : Inv p) (max : Nat) :
    ∃ k j a, reap p max = p.good.take k ++ p.utxo.take j ∧ runAcc (accOf p.c) ((p.good.take k).map (·.t)) = some a ∧
      ((p.utxo.take j).map (·.t.spends)).Nodup ∧
      (∀ e ∈ p.utxo.take j, e.t.kind = .uin ∧ e.t.spends ∉ p.c.spentImgs) ∧ (∀ e ∈ p.good.take k, e.t.kind ≠ .uin) := by
  obtain ⟨k, j, hs⟩ := reap_shape p max
  obtain ⟨σ, hσ, _⟩ := h.path
  obtain ⟨a, ha⟩ := runAcc_take hσ k
  refine ⟨k, j, a, hs, by rw [List.map_take]; exact ha, ?_, ?_, fun e he => h.gkind e (List.mem_of_mem_take he)⟩
  · have := h.nodup
    rw [h.imgs] at this
    exact this.sublist ((List.take_sublist j p.utxo).map _)
  · intro e he
    have hm := List.mem_of_mem_take he
    exact ⟨h.ukind e hm, h.fresh _ (by rw [h.imgs]; exact List.mem_map_of_mem hm)⟩

/-- **reap_no_shared_image + reap_not_committed (confidential part)**: the confidential spends offered have pairwise
distinct key images, none of them committed; the account part contains no confidential spend -/
theorem reap_no_shared_image {p : Pool} (h : Inv p) (max : Nat) :
    ∃ k j, reap p max = p.good.take k ++ p.utxo.take j ∧ ((p.utxo.take j).map (·.t.spends)).Nodup ∧
      (∀ e ∈ p.utxo.take j, e.t.kind = .uin ∧ e.t.spends ∉ p.c.spentImgs) ∧ (∀ e ∈ p.good.take k, e.t.kind ≠ .uin) :=
  have ⟨k, j, _, hs, _, h3⟩ := reap_offer h max
  ⟨k, j, hs, h3⟩

/-- **reaped_block_executes**: the block built from any reap executes on the committed ledger (every transaction valid
where it stands) — what `Model.Ledger.block` promises -/
theorem reaped_block_executes_inv {p : Pool} (h : Inv p) (max : Nat) :
    ∃ s', execBlock p.c [] ((reap p max).map (·.t)) = some s' := by
  obtain ⟨k, j, a, hs, hrun, hnd, hu, hg⟩ := reap_offer h max
  have hgood : ∀ t ∈ (p.good.take k).map (·.t), t.kind ≠ .uin ∧ WFt t :=
    List.forall_mem_map.mpr (fun e he => ⟨hg e he, h.good.1 e (List.mem_of_mem_take he)⟩)
  obtain ⟨s1, hs1, _, hsp⟩ := runAcc_exec _ p.c (accOf p.c) a [] hgood (dom_accOf p.c) hrun
  obtain ⟨s2, hs2⟩ := uin_exec ((p.utxo.take j).map (·.t)) s1 [] (List.forall_mem_map.mpr (fun e he => (hu e he).1))
    (by rw [List.map_map]; exact hnd)
    (List.forall_mem_map.mpr (fun e he => by rw [hsp]; exact ⟨(hu e he).2, List.not_mem_nil⟩))
  refine ⟨s2, ?_⟩
  rw [hs, List.map_append, execBlock_append_acct _ _ _ (fun t ht => (hgood t ht).1), hs1]
  exact hs2

/-! ## nonces only move forward along the speculative run: nothing stale is pending -/

/-- **stale_removed (pending part)**: every transaction on a successful speculative run has a nonce at or above the
starting (committed) nonce of its sender -/
theorem runAcc_not_stale {l : List TxRec} {a a' : Acc} (h : runAcc a l = some a') : ∀ t ∈ l, getn a.nonce t.from_ ≤ t.nonce := by
  induction l generalizing a with
  | nil => exact List.forall_mem_nil _
  | cons x r ih =>
    obtain ⟨hok, hn, _, h⟩ := runAcc_cons_some h
    intro t ht
    rcases List.mem_cons.mp ht with h1 | h1
    · rw [h1]; exact Nat.le_of_eq hn
    · have hm := checkAcc_nonce_mono a x t.from_
      rw [(checkAcc_ok hok).2.2] at hm
      exact Nat.le_trans hm (ih h t h1)

theorem pending_not_stale {p : Pool} (h : Inv p) : ∀ e ∈ p.good, getn p.c.nonce e.t.from_ ≤ e.t.nonce := by
  obtain ⟨σ, hσ, _⟩ := h.path
  exact List.forall_mem_map.mp (runAcc_not_stale hσ)

/-! ## histories -/

/-- full statement: after every history, for every cap, the block built from the reap executes -/
def C15_statement : Prop :=
  ∀ (reg : List TxRec) (cfg : Cfg) (w : Nat) (bal tbal : Int) (ops : List Op) (max : Nat),
    (execBlock (run reg (Model.Mempool.init cfg w bal tbal) ops).c []
      ((reap (run reg (Model.Mempool.init cfg w bal tbal) ops) max).map (·.t))).isSome = true

/-- the invariant holds after EVERY history of submissions, reaps, own and forced commits, for every registry of
transactions and every size configuration -/
theorem inv_after_every_history (reg : List TxRec) (cfg : Cfg) (w : Nat) (bal tbal : Int) (ops : List Op) :
    Inv (run reg (Model.Mempool.init cfg w bal tbal) ops) := run_inv reg ops _ (init_inv cfg w bal tbal)

/-- **C15 (reaped_block_executes over histories), full strength** -/
theorem C15_holds : C15_statement := by
  intro reg cfg w bal tbal ops max
  obtain ⟨s', hs'⟩ := reaped_block_executes_inv (inv_after_every_history reg cfg w bal tbal ops) max
  rw [hs']; rfl

/-- after every history: what is offered has pairwise distinct uncommitted key images, passes the sequential nonce/funds
check from the committed state, and nothing pending is stale -/
theorem C15_offer (reg : List TxRec) (cfg : Cfg) (w : Nat) (bal tbal : Int) (ops : List Op) (max : Nat) :
    let p := run reg (Model.Mempool.init cfg w bal tbal) ops
    (∃ k j a, reap p max = p.good.take k ++ p.utxo.take j ∧ runAcc (accOf p.c) ((p.good.take k).map (·.t)) = some a ∧
      ((p.utxo.take j).map (·.t.spends)).Nodup ∧ (∀ e ∈ p.utxo.take j, e.t.kind = .uin ∧ e.t.spends ∉ p.c.spentImgs)) ∧
    (∀ e ∈ p.good, getn p.c.nonce e.t.from_ ≤ e.t.nonce) := by
  intro p
  have h := inv_after_every_history reg cfg w bal tbal ops
  obtain ⟨k, j, a, hs, hrun, hnd, hu, _⟩ := reap_offer h max
  exact ⟨⟨k, j, a, hs, hrun, hnd, hu⟩, pending_not_stale h⟩

/-- the witness of the former finding: fee-too-low account-input tx (rejected), the sender's nonce 1, then nonce 0 -/
def witnessReg : List TxRec :=
  [ { kind := .ain, from_ := 1, to := 0, amount := 20000000, nonce := 0, gas := 0 },      -- fee 0 < needed fee
    { kind := .xfer, from_ := 1, to := 0, amount := 9, nonce := 1, gas := calGas 9 },
    { kind := .xfer, from_ := 1, to := 0, amount := 9, nonce := 0, gas := calGas 9 } ]

def witnessPool (ops : List Op) : Pool := run witnessReg (Model.Mempool.init { size := 10, future := 10, accts := 2 } 1 100000000 1000) ops

/-- non-vacuity / regression: the rejection leaves the speculative state untouched, nonce 1 waits in the future queue,
nonce 0 is accepted and promotes it, and the reaped block (nonce 0, nonce 1) executes -/
example : (witnessPool [.submit 0]).acc.nonce = [0, 0] ∧ (witnessPool [.submit 0]).acc.bal = [100000000, 100000000] ∧
    (witnessPool [.submit 0, .submit 1]).good.length = 0 ∧ ((witnessPool [.submit 0, .submit 1]).fut.map (·.id)) = [1] ∧
    ((reap (witnessPool [.submit 0, .submit 1, .submit 2]) 100).map (·.id)) = [2, 1] ∧
    (execBlock (witnessPool [.submit 0, .submit 1, .submit 2]).c []
      ((reap (witnessPool [.submit 0, .submit 1, .submit 2]) 100).map (·.t))).isSome = true := by decide

/-- non-vacuity: after a commit the pool is empty again and the committed nonce moved -/
example : (witnessPool [.submit 2, .submit 1, .commit 100]).good.length = 0 ∧
    (witnessPool [.submit 2, .submit 1, .commit 100]).c.nonce = [0, 2] := by decide

/-! ## closed forms of reap_gapfree and reap_funded

For senders that are accounts of the ledger (index below the number of accounts — the model stores nonces and balances in
lists; every sender the harness or a node can name is one), a successful sequential state check from the committed state
means, per sender: the offered nonces are exactly committed.nonce, +1, +2, … and the sum of the offered costs is at most
the committed balance. -/

/-- native cost of a transaction with an account input -/
def costN (t : TxRec) : Int := if t.kind = .xfertok then feeOfGas t.gas else t.amount + feeOfGas t.gas

theorem debit_bal (a : Acc) (t : TxRec) : (debit a t).bal = addAt a.bal t.from_ (-(costN t)) := by
  unfold debit costN; cases h : t.kind <;> simp

theorem debit_lengths (a : Acc) (t : TxRec) : (debit a t).nonce.length = a.nonce.length ∧ (debit a t).bal.length = a.bal.length := by
  refine ⟨?_, ?_⟩
  · rw [debit_nonce]; simp [setN]
  · rw [debit_bal, Props.C06.length_addAt]

theorem canPay_cost {a : Acc} {t : TxRec} (h : canPay a t = true) : costN t ≤ geti a.bal t.from_ := by
  unfold canPay at h; unfold costN
  cases hk : t.kind <;> simp [hk] at h ⊢ <;> omega

def ofSender (s : Nat) (l : List TxRec) : List TxRec := l.filter (fun t => t.from_ == s)

theorem ofSender_cons (s : Nat) (t : TxRec) (r : List TxRec) :
    ofSender s (t :: r) = if t.from_ = s then t :: ofSender s r else ofSender s r := by
  unfold ofSender
  by_cases h : t.from_ = s <;> simp [h]

/-- **reap_gapfree and reap_funded, closed form**, for one sender that is an account of the ledger (nothing is assumed about
the others) -/
theorem runAcc_closed {l : List TxRec} {a a' : Acc} (s : Nat) (h : runAcc a l = some a') :
    (s < a.nonce.length → (ofSender s l).map (·.nonce) = List.range' (getn a.nonce s) (ofSender s l).length) ∧
    (s < a.bal.length → ofSender s l = [] ∨ ((ofSender s l).map costN).sum ≤ geti a.bal s) := by
  induction l generalizing a with
  | nil => exact ⟨fun _ => rfl, fun _ => Or.inl rfl⟩
  | cons t r ih =>
    obtain ⟨_, hn, hp, h⟩ := runAcc_cons_some h
    obtain ⟨ihn, ihb⟩ := ih h
    rw [(debit_lengths a t).1, debit_nonce, Props.C06.getn_setN] at ihn
    rw [(debit_lengths a t).2, debit_bal, geti_addAt] at ihb
    rw [ofSender_cons]
    by_cases hst : t.from_ = s
    · subst hst
      rw [if_pos rfl]
      refine ⟨fun hs => ?_, fun hs => Or.inr ?_⟩
      · have := ihn hs
        rw [if_pos ⟨rfl, hs⟩] at this
        rw [List.map_cons, List.length_cons, List.range'_succ, this, hn]
      · have hc := canPay_cost hp
        have := ihb hs
        rw [if_pos ⟨rfl, hs⟩] at this
        rw [List.map_cons, List.sum_cons]
        rcases this with h0 | h1
        · rw [h0]; exact Int.le_trans (Int.le_of_eq (Int.add_zero _)) hc
        · omega
    · rw [if_neg (fun h => hst h.1)] at ihn ihb
      rw [if_neg hst]; exact ⟨ihn, ihb⟩

/-- **reap_gapfree / reap_funded, closed form, per account**: after every history and for every cap, for EVERY account `s` of
the committed ledger the reaped transactions of `s` carry the nonces committed.nonce, +1, +2, … in offer order and cost
together at most the committed balance.  No hypothesis on the registry or on the pooled transactions (a sender index
beyond the ledger's lists is not an account: the model reads nonce 0 / balance 0 for it and never writes). -/
theorem reap_gapfree_funded_account (reg : List TxRec) (cfg : Cfg) (w : Nat) (bal tbal : Int) (ops : List Op) (max : Nat) :
    let p := run reg (Model.Mempool.init cfg w bal tbal) ops
    ∃ k j, reap p max = p.good.take k ++ p.utxo.take j ∧
      (∀ s, s < p.c.nonce.length → (ofSender s ((p.good.take k).map (·.t))).map (·.nonce) =
                List.range' (getn p.c.nonce s) (ofSender s ((p.good.take k).map (·.t))).length) ∧
      (∀ s, s < p.c.bal.length → (ofSender s ((p.good.take k).map (·.t)) = [] ∨
                ((ofSender s ((p.good.take k).map (·.t))).map costN).sum ≤ geti p.c.bal s)) := by
  intro p
  obtain ⟨k, j, a, hs, hrun, _⟩ := reap_offer (inv_after_every_history reg cfg w bal tbal ops) max
  exact ⟨k, j, hs, fun s => (runAcc_closed s hrun).1, fun s => (runAcc_closed s hrun).2⟩

/-- after every history, for every cap: per sender (an account of the ledger) the account part of the reap carries the
nonces committed.nonce, +1, +2, … in offer order, and its total cost is covered by the committed balance -/
theorem reap_gapfree_funded (reg : List TxRec) (cfg : Cfg) (w : Nat) (bal tbal : Int) (ops : List Op) (max : Nat) :
    let p := run reg (Model.Mempool.init cfg w bal tbal) ops
    ∃ k j, reap p max = p.good.take k ++ p.utxo.take j ∧
      ((∀ e ∈ p.good, e.t.from_ < p.c.nonce.length ∧ e.t.from_ < p.c.bal.length) →
        ∀ s, (ofSender s ((p.good.take k).map (·.t))).map (·.nonce) =
                List.range' (getn p.c.nonce s) (ofSender s ((p.good.take k).map (·.t))).length ∧
             (ofSender s ((p.good.take k).map (·.t)) = [] ∨
                ((ofSender s ((p.good.take k).map (·.t))).map costN).sum ≤ geti p.c.bal s)) := by
  intro p
  obtain ⟨k, j, a, hs, hrun, _⟩ := reap_offer (inv_after_every_history reg cfg w bal tbal ops) max
  refine ⟨k, j, hs, fun hin s => ?_⟩
  by_cases hs : s < p.c.nonce.length ∧ s < p.c.bal.length
  · exact ⟨(runAcc_closed s hrun).1 hs.1, (runAcc_closed s hrun).2 hs.2⟩
  · -- a sender outside the ledger has nothing in the reap
    have hnil : ofSender s ((p.good.take k).map (·.t)) = [] := by
      refine List.filter_eq_nil_iff.mpr (fun t ht hts => hs ?_)
      obtain ⟨e, he, rfl⟩ := List.mem_map.mp ht
      rw [← beq_iff_eq.mp hts]; exact hin e (List.mem_of_mem_take he)
    rw [hnil]; exact ⟨rfl, Or.inl rfl⟩

/-- non-vacuity: the two queued transactions of the regression witness are offered with nonces 0, 1 -/
example : (ofSender 1 ((reap (witnessPool [.submit 1, .submit 2]) 100).map (·.t))).map (·.nonce) = List.range' 0 2 := by decide

end Props.C15
