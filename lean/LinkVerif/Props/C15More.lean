import LinkVerif.Props.C15
import LinkVerif.Props.C07R

/-!
# C15 — part 4: entries only move, stale queued entries are removed by Update, reap over transaction ids

* `run_all`: every entry of the pool after a history was created by a submission (generic predicate threading);
* `update_no_stale_queued` / `stale_removed_queued`: after every commit (own or forced) no queued transaction of an
  account has a nonce below the committed nonce (`promoteExecutables(nil)` runs `Forward` for every sender);
* `reap_distinct_not_committed`: the reaped list has pairwise distinct transaction ids and none of them is in a
  committed block of the history — from strictly advancing nonces and fresh key images;
* `readyRun_spec`, `promote_consumes_ready`: what is proved of promotion beyond `promote_facts`.
-/
namespace Props.C15
open Model.Ledger Model.Mempool

/-! ## entries only move -/

structure AllQ (Q : E → Prop) (p : Pool) : Prop where
  good : ∀ e ∈ p.good, Q e
  utxo : ∀ e ∈ p.utxo, Q e
  fut : ∀ e ∈ p.fut, Q e

variable {Q : E → Prop} {reg : List TxRec} {cfg : Cfg} {p : Pool}

theorem AllQ.of_move {N : E → Prop} {q : Pool} (h : AllQ Q p) (m : AcctMove N p q) (hN : ∀ e, N e → Q e) : AllQ Q q := by
  have key : ∀ e, e ∈ q.good ∨ e ∈ q.fut → Q e := fun e he =>
    (m.mem e he).elim (h.good e) (fun h1 => h1.elim (h.fut e) (hN e))
  exact ⟨fun e he => key e (Or.inl he), by rw [m.utxo]; exact h.utxo, fun e he => key e (Or.inr he)⟩

theorem AllQ.recheckUtxo {l : List E} (h : AllQ Q p) (hl : ∀ e ∈ l, Q e) : AllQ Q (recheckUtxo p l) := by
  have m := recheckUtxo_move l p
  exact ⟨by rw [m.good]; exact h.good, fun x hx => (m.mem x hx).elim (h.utxo x) (hl x), by rw [m.fut]; exact h.fut⟩

theorem addTx_all {e : E} (h : AllQ Q p) (he : Q e) : AllQ Q (addTx p e).2 := by
  have h1 : AllQ Q { p with cache := p.cache ++ [e.id] } := ⟨h.good, h.utxo, h.fut⟩
  exact addTx_ind p e h (fun q hq => ⟨hq.good, hq.utxo, hq.fut⟩) (fun _ _ l hl => h1.recheckUtxo (fun x hx => hl x hx ▸ he))
    (fun _ _ => h1.of_move (addAccount_spec (N := (· = e)) _ rfl).1 (fun _ hx => hx ▸ he))

theorem update_all (h : AllQ Q p) (c' : St) (ids : List Nat) : AllQ Q (update p c' ids) := by
  obtain ⟨g, u, sg, su, h'⟩ := update_eq p c' ids
  rw [h']
  have h0 : AllQ Q (reset p c') := ⟨List.forall_mem_nil _, List.forall_mem_nil _, h.fut⟩
  have h1 := h0.of_move (recheckGood_spec (N := (· ∈ p.good)) g (reset p c') sg).1 h.good
  exact (h1.recheckUtxo (fun e he => h.utxo e (su e he))).of_move (promoteAll_move (fun _ => False) _ _) (fun _ => False.elim)

/-- the entry a submission creates -/
def Created (reg : List TxRec) (e : E) : Prop := reg[e.id]? = some e.t

theorem step_all (reg : List TxRec) (h : AllQ (Created reg) p) (op : Op) : AllQ (Created reg) (step reg p op) :=
  step_ind reg p op h (fun _ _ ht => addTx_all h ht) (fun _ _ _ _ => update_all h _ _)

/-- **every entry of the pool after any history is the registered transaction of its id** -/
theorem run_all (reg : List TxRec) : ∀ (ops : List Op) (p : Pool), AllQ (Created reg) p → AllQ (Created reg) (run reg p ops) :=
  foldl_preserves (fun _ op h => step_all reg h op)

theorem init_all (reg : List TxRec) (cfg : Cfg) (w : Nat) (bal tbal : Int) : AllQ (Created reg) (Model.Mempool.init cfg w bal tbal) :=
  ⟨List.forall_mem_nil _, List.forall_mem_nil _, List.forall_mem_nil _⟩

/-! ## stale queued entries are removed by Update -/

/-- what one `promoteExecutables([a])` does to the containers -/
theorem promote_facts (p : Pool) (a : Nat) :
    (∀ e ∈ (promote p a).good, e ∈ p.good ∨ e ∈ p.fut) ∧ (∀ e ∈ (promote p a).fut, e ∈ p.fut) ∧
    (promote p a).utxo = p.utxo ∧
    (∀ e ∈ (promote p a).fut, ¬ (e.t.from_ = a ∧ e.t.nonce < getn p.acc.nonce a)) ∧
    (∀ j, getn p.acc.nonce j ≤ getn (promote p a).acc.nonce j) :=
  have ⟨m, _, hf⟩ := promote_spec (fun _ => False) p a
  ⟨fun e he => (m.mem e (Or.inl he)).imp id (·.resolve_right id), fun e he => (hf e he).1, m.utxo, fun e he => (hf e he).2, m.nonce⟩

/-- after `promoteAll p k` (senders 0..k-1) no queued entry of a sender below `k` has a nonce below that sender's speculative
nonce at the start: the speculative nonces only grow along the way -/
theorem promoteAll_no_stale (p : Pool) : ∀ k, ∀ e ∈ (promoteAll p k).fut, e.t.from_ < k → ¬ e.t.nonce < getn p.acc.nonce e.t.from_ := by
  intro k
  induction k with
  | zero => exact fun e _ h => absurd h (Nat.not_lt_zero _)
  | succ k ih =>
    intro e he hlt hst
    obtain ⟨_, _, hf⟩ := promote_spec (fun _ => False) (promoteAll p k) k
    by_cases hk : e.t.from_ = k
    · refine (hf e he).2 ⟨hk, Nat.lt_of_lt_of_le hst ?_⟩
      rw [hk]; exact (promoteAll_move (fun _ => False) p k).nonce k
    · exact ih e (hf e he).1 (by omega) hst

/-- **stale_removed (queued part)**: after `Update` with the new committed ledger `c'`, no queued transaction of an account
(index below the configured number of accounts: `promoteExecutables(nil)` visits every sender) has a nonce below the
committed nonce -/
theorem update_no_stale_queued (p : Pool) (c' : St) (ids : List Nat) :
    ∀ e ∈ (update p c' ids).fut, e.t.from_ < p.cfg.accts → getn c'.nonce e.t.from_ ≤ e.t.nonce := by
  intro e he hlt
  obtain ⟨g, u, _, _, h⟩ := update_eq p c' ids
  rw [h] at he
  have h3 := promoteAll_no_stale _ p.cfg.accts e he hlt
  rw [(recheckUtxo_move u _).acc] at h3
  exact Nat.le_trans ((recheckGood_spec (N := fun _ => True) g (reset p c') (fun _ _ => trivial)).1.nonce e.t.from_) (Nat.le_of_not_lt h3)

/-- over histories: after every successful commit (own block or forced block) no queued transaction of an account is stale -/
theorem stale_removed_queued (reg : List TxRec) (cfg : Cfg) (w : Nat) (bal tbal : Int) (ops : List Op) (es : List E) (p' : Pool)
    (hc : commitEntries (run reg (Model.Mempool.init cfg w bal tbal) ops) es = some p') :
    ∀ e ∈ p'.fut, e.t.from_ < cfg.accts → getn p'.c.nonce e.t.from_ ≤ e.t.nonce := by
  obtain ⟨hinv, hcfg⟩ := foldl_preserves (P := fun p => Inv p ∧ p.cfg = cfg)
    (fun p op h => ⟨(step_inv reg h.1 op).1, (step_inv reg h.1 op).2.trans h.2⟩) ops _ ⟨init_inv cfg w bal tbal, rfl⟩
  obtain ⟨c', _, rfl⟩ := commitEntries_some hc
  intro e he hlt
  rw [(update_inv (p := run reg _ ops) hinv _ _).2.1]
  exact update_no_stale_queued _ _ _ e he (hcfg.symm ▸ hlt)

/-! ## the reap over transaction ids -/

/-- along a successful speculative run the nonces of one sender (an account of the ledger) strictly advance -/
theorem runAcc_pairwise : ∀ (l : List TxRec) (a a' : Acc), runAcc a l = some a' → (∀ t ∈ l, t.from_ < a.nonce.length) →
    l.Pairwise (fun x y => x.from_ = y.from_ → x.nonce < y.nonce) := by
  intro l
  induction l with
  | nil => intro a a' _ _; exact List.Pairwise.nil
  | cons x r ih =>
    intro a a' h hr
    obtain ⟨_, _, _, h⟩ := runAcc_cons_some h
    obtain ⟨hx, hr⟩ := List.forall_mem_cons.mp hr
    refine List.Pairwise.cons ?_ (ih _ a' h (fun t ht => by rw [(debit_lengths a x).1]; exact hr t ht))
    intro y hy hxy
    have := runAcc_not_stale h y hy
    rw [debit_nonce, Props.C06.getn_setN, ← hxy, if_pos ⟨rfl, hx⟩] at this
    exact this

/-- the committed history: every transaction of a committed block is consumed — an account transaction's nonce is below
the committed nonce of its sender, a confidential spend's key image is committed -/
def Comm (reg : List TxRec) (c : St) : Prop :=
  ∀ id ∈ c.blocks.flatten, ∀ t, reg[id]? = some t →
    (t.kind ≠ .uin → t.nonce < getn c.nonce t.from_) ∧ (t.kind = .uin → t.spends ∈ c.spentImgs)

/-- senders of registered account transactions are accounts of the ledger -/
def SendersOK (reg : List TxRec) (accts : Nat) : Prop := ∀ t ∈ reg, t.kind ≠ .uin → t.from_ < accts

/-- what holds after every history (on top of `Inv`) -/
structure Hist (reg : List TxRec) (cfg : Cfg) (p : Pool) : Prop where
  inv : Inv p
  created : AllQ (Created reg) p
  len : p.c.nonce.length = cfg.accts
  cfg_eq : p.cfg = cfg
  comm : Comm reg p.c

theorem reap_created (h : AllQ (Created reg) p) (max : Nat) : ∀ e ∈ reap p max, Created reg e := by
  obtain ⟨k, j, hs⟩ := reap_shape p max
  rw [hs]
  exact List.forall_mem_append.mpr ⟨fun e he => h.good e (List.mem_of_mem_take he), fun e he => h.utxo e (List.mem_of_mem_take he)⟩

theorem entries_created (reg : List TxRec) (ids : List Nat) : ∀ e ∈ entries reg ids, Created reg e := by
  intro e he
  unfold entries at he
  obtain ⟨i, _, hi⟩ := List.mem_filterMap.mp he
  obtain ⟨t, hr, rfl⟩ := Option.map_eq_some_iff.mp hi
  exact hr

theorem commit_hist {c' : St} (hreg : SendersOK reg cfg.accts) (h : Hist reg cfg p)
    (es : List E) (hes : ∀ e ∈ es, Created reg e) (hx : execX p.c [] (es.map (·.t)) = some c') :
    Hist reg cfg (update p (finish p.c c' (es.map (·.id))) (es.map (·.id))) := by
  obtain ⟨hinv, hc, hcfg⟩ := update_inv h.inv (finish p.c c' (es.map (·.id))) (es.map (·.id))
  have hR : execBlockR p.c [] (es.map (·.t)) = some c' := by rw [← Props.C06R.execX_eq_execBlockR]; exact hx
  refine ⟨hinv, update_all h.created _ _, ?_, hcfg.trans h.cfg_eq, ?_⟩
  · rw [hc]; exact (Props.C07R.execBlockR_nonce_length hR).trans h.len
  · rw [hc]
    intro id hid t ht
    have hid : id ∈ p.c.blocks.flatten ∨ id ∈ es.map (·.id) := by simpa [finish] using hid
    show (t.kind ≠ .uin → t.nonce < getn c'.nonce t.from_) ∧ (t.kind = .uin → t.spends ∈ c'.spentImgs)
    rcases hid with h1 | h1
    · obtain ⟨k1, k2⟩ := h.comm id h1 t ht
      refine ⟨fun hk => Nat.lt_of_lt_of_le (k1 hk) (Props.C07R.execBlockR_nonce_mono hR _), fun hk => ?_⟩
      rw [Props.C07R.execBlockR_spentImgs hR]; exact List.mem_append_left _ (k2 hk)
    · obtain ⟨e, he, rfl⟩ := List.mem_map.mp h1
      obtain rfl : e.t = t := Option.some.inj ((hes e he).symm.trans ht)
      have htm : e.t ∈ es.map (·.t) := List.mem_map_of_mem he
      refine ⟨fun hk => ?_, fun hk => ?_⟩
      · exact Props.C07R.execBlockR_mem_nonce hR htm hk (by rw [h.len]; exact hreg e.t (List.mem_of_getElem? ht) hk)
      · rw [Props.C07R.execBlockR_spentImgs hR]
        apply List.mem_append_right
        unfold Props.C07.imgsOf
        exact List.mem_map.mpr ⟨e.t, List.mem_filter.mpr ⟨htm, by simp [hk]⟩, rfl⟩

theorem step_hist (hreg : SendersOK reg cfg.accts) (h : Hist reg cfg p) (op : Op) :
    Hist reg cfg (step reg p op) := by
  refine step_ind reg p op h (fun id t ht => ?_) (fun es c' hes hx => commit_hist hreg h es ?_ hx)
  · obtain ⟨hinv, hc, hcfg⟩ := addTx_inv (e := { id := id, t := t }) h.inv
    exact ⟨hinv, addTx_all h.created ht, by rw [hc]; exact h.len, hcfg.trans h.cfg_eq, by rw [hc]; exact h.comm⟩
  · rcases hes with ⟨max, rfl⟩ | ⟨ids, rfl⟩
    · exact reap_created h.created max
    · exact entries_created reg ids

theorem init_hist (reg : List TxRec) (cfg : Cfg) (w : Nat) (bal tbal : Int) : Hist reg cfg (Model.Mempool.init cfg w bal tbal) := by
  refine ⟨init_inv cfg w bal tbal, init_all reg cfg w bal tbal, ?_, rfl, ?_⟩
  · simp [Model.Mempool.init, Model.Ledger.init]
  · intro id hid; simp [Model.Mempool.init, Model.Ledger.init] at hid

theorem reap_ids_of_hist (hreg : SendersOK reg cfg.accts) (h : Hist reg cfg p) (max : Nat) :
    ((reap p max).map (·.id)).Nodup ∧ ∀ e ∈ reap p max, e.id ∉ p.c.blocks.flatten := by
  obtain ⟨k, j, a, hs, hrun, hund, hutxo, hgk⟩ := reap_offer h.inv max
  have hcr := reap_created h.created max
  have hsame : ∀ e₁ ∈ reap p max, ∀ e₂ ∈ reap p max, e₁.id = e₂.id → e₁.t = e₂.t := fun e₁ h1 e₂ h2 hid =>
    Option.some.inj ((hcr e₁ h1).symm.trans (by rw [hid]; exact hcr e₂ h2))
  have hpw := runAcc_pairwise _ _ _ hrun (List.forall_mem_map.mpr (fun e he => Nat.lt_of_lt_of_eq
    (hreg e.t (List.mem_of_getElem? (h.created.good e (List.mem_of_mem_take he))) (hgk e he)) h.len.symm))
  rw [List.Nodup, List.pairwise_map] at hund ⊢
  rw [List.pairwise_map] at hpw
  constructor
  · -- an id determines its transaction, and the transactions offered are pairwise distinct
    have hall : (reap p max).Pairwise (fun e₁ e₂ => e₁.t ≠ e₂.t) := by
      rw [hs, List.pairwise_append]
      refine ⟨hpw.imp (fun hxy heq => ?_), hund.imp (fun hxy heq => hxy (congrArg TxRec.spends heq)), fun x hx y hy heq => ?_⟩
      · exact Nat.ne_of_lt (hxy (congrArg TxRec.from_ heq)) (congrArg TxRec.nonce heq)
      · exact hgk x hx (by rw [heq]; exact (hutxo y hy).1)
    exact hall.imp_of_mem (fun hx hy hne hid => hne (hsame _ hx _ hy hid))
  · intro e he hmem
    obtain ⟨k1, k2⟩ := h.comm e.id hmem e.t (hcr e he)
    rw [hs] at he
    rcases List.mem_append.mp he with h1 | h1
    · exact Nat.not_lt_of_le (pending_not_stale h.inv e (List.mem_of_mem_take h1)) (k1 (hgk e h1))
    · exact (hutxo e h1).2 (k2 (hutxo e h1).1)

/-- **reap_distinct + reap_not_committed over transaction ids**: after every history (senders of registered account
transactions being accounts of the ledger), for every cap, the reaped list of ids has no duplicate and contains no id of a
committed block of that history -/
theorem reap_distinct_not_committed (reg : List TxRec) (cfg : Cfg) (hreg : SendersOK reg cfg.accts) (w : Nat) (bal tbal : Int)
    (ops : List Op) (max : Nat) :
    let p := run reg (Model.Mempool.init cfg w bal tbal) ops
    ((reap p max).map (·.id)).Nodup ∧ ∀ e ∈ reap p max, e.id ∉ p.c.blocks.flatten :=
  reap_ids_of_hist hreg (foldl_preserves (P := Hist reg cfg) (fun _ op h => step_hist hreg h op) ops _ (init_hist reg cfg w bal tbal)) max

/-- non-vacuity: two submissions, a commit, a third submission: the committed block is recorded and the reap offers the new id -/
example : SendersOK witnessReg 2 ∧
    (witnessPool [.submit 2, .submit 1, .commit 1, .submit 0]).c.blocks = [[2]] ∧
    ((reap (witnessPool [.submit 2, .submit 1, .commit 1, .submit 0]) 100).map (·.id)) = [1] := by
  unfold SendersOK
  decide

/-! ## promotion: what is proved, what is still monitored

`promote_facts` shows that one `promoteExecutables([a])` leaves no queued entry of `a` below `a`'s speculative nonce, only
moves entries from the queue to goodTxs, and never lowers a nonce.  `readyRun_spec` shows that `Ready` takes the WHOLE
consecutive run from the speculative nonce (it stops only at the room left in goodTxs or at the first missing nonce), and
`promote_consumes_ready` that every entry of that run leaves the queue (promoted or dropped).  The global clause
"after every operation, while goodTxs has room, no queued transaction of an account sits exactly at its sender's speculative
nonce" needs in addition the uniqueness of (sender, nonce) slots in the queue and the arithmetic of the promotion loop; it is
checked by the monitor `promotion_complete` after every op of every case and is not yet a theorem. -/

theorem readyRun_spec (fut : List E) (a : Nat) : ∀ (cnt start : Nat),
    (readyRun fut a start cnt).map (·.t.nonce) = List.range' start (readyRun fut a start cnt).length ∧
    (∀ e ∈ readyRun fut a start cnt, e.t.from_ = a) ∧
    ((readyRun fut a start cnt).length < cnt →
      fut.find? (fun x => sameSlot x a (start + (readyRun fut a start cnt).length)) = none) := by
  intro cnt
  induction cnt with
  | zero => exact fun start => ⟨rfl, List.forall_mem_nil _, fun h => absurd h (Nat.not_lt_zero _)⟩
  | succ k ih =>
    intro start
    unfold readyRun
    split
    · exact ⟨rfl, List.forall_mem_nil _, fun _ => ‹_›⟩
    · rename_i e he
      obtain ⟨h1, h2, h3⟩ := ih (start + 1)
      have hslot := List.find?_some he
      simp only [sameSlot, Bool.and_eq_true, beq_iff_eq] at hslot
      refine ⟨?_, ?_, ?_⟩
      · simp only [List.map_cons, List.length_cons, List.range'_succ, h1, hslot.2]
      · exact List.forall_mem_cons.mpr ⟨hslot.1, h2⟩
      · intro hlt
        simp only [List.length_cons] at hlt ⊢
        have := h3 (by omega)
        rw [show start + ((readyRun fut a (start + 1) k).length + 1) = start + 1 + (readyRun fut a (start + 1) k).length by omega]
        exact this

/-- every entry `Ready` returned leaves the queue: it is appended to goodTxs or forgotten, never left behind -/
theorem promote_consumes_ready (p : Pool) (a : Nat) (hroom : p.cfg.size - p.good.length ≠ 0) :
    ∀ e ∈ (promote p a).fut, e.id ∉ (readyRun (p.fut.filter (fun e => !(e.t.from_ == a && decide (e.t.nonce < getn p.acc.nonce a))))
      a (getn p.acc.nonce a) (p.cfg.size - p.good.length)).map (·.id) := by
  unfold promote
  simp only [hroom, if_false]
  intro e he
  have := (List.mem_filter.mp he).2
  simpa using this

end Props.C15
