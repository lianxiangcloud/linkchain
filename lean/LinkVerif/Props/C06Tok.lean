import LinkVerif.Props.C06X

/-!
# C06 — token confidential transactions (Model.LedgerX `tokIn`, `tokSpend`)

The token total is measured in BASE units, without any division: `tokenTotalBase = tokenTotal · 10^10 + tokPool · tunit`
(account side kept in 10^10 base units, the pool in hidden units of the TOKEN's own commitment unit `tunit`).
Account → token pool (`tokIn`) conserves it when the debit is exact (`tok10 units · 10^10 = units · tunit`); a spend conserves
it when the hidden amount equals the new outputs plus the account output and the account CREDIT is the hidden units at the
TOKEN's unit (`credit · 10^10 = units · tunit`).  Without the unit condition the statement is FALSE
(`tokSpend_native_unit_inflates`): a withdrawal credited at the NATIVE unit from a token whose unit is 1 multiplies the value
by 10^10 — what `checkCommitEqual` prevents by taking the unit of account outputs from `tx.TokenID`.
-/
namespace Props.C06Tok
open Model.Ledger
open Props.C06 (sum_addAt usum usum_append usum_cons usum_nil usum_mark markSpent_flatten contrib_unspent wsum_eq_usum)
open Props.C06X (addTokOuts_eq)

def tokenTotalBase (s : St) (x : XS) : Int := tokenTotal s x * 10000000000 + tokPool x * x.tunit

theorem tokPool_eq_usum (x : XS) : tokPool x = usum x.tw.flatten := wsum_eq_usum x.tw

theorem usum_modify_append (ws : List (List Out)) (w : Nat) (o : Out) (hw : w < ws.length) (ho : o.spent = false) :
    usum (ws.modify w (· ++ [o])).flatten = usum ws.flatten + o.amount := by
  induction ws generalizing w with
  | nil => simp at hw
  | cons outs ws ih =>
    cases w with
    | zero =>
      simp only [List.modify_zero_cons, List.flatten_cons, usum_append, usum_cons, usum_nil, contrib_unspent ho]
      omega
    | succ w =>
      simp only [List.modify_succ_cons, List.flatten_cons, usum_append, ih w (by simpa using hw)]
      omega

theorem addTokOuts_tw_length (x : XS) (outs : List (Nat × Int)) : (addTokOuts x outs).tw.length = x.tw.length := by
  unfold addTokOuts
  induction outs generalizing x with
  | nil => rfl
  | cons o os ih => simp only [List.foldl_cons]; rw [ih]; simp

theorem tokPool_addTokOuts (x : XS) (outs : List (Nat × Int)) (h : ∀ p ∈ outs, p.1 < x.tw.length) :
    tokPool (addTokOuts x outs) = tokPool x + (outs.map (·.2)).sum := by
  unfold addTokOuts
  induction outs generalizing x with
  | nil => simp
  | cons o os ih =>
    simp only [List.foldl_cons, List.map_cons, List.sum_cons]
    have hw := h o (by simp)
    rw [ih _ (fun p hp => by simp only [List.length_modify]; exact h p (by simp [hp]))]
    rw [tokPool_eq_usum, tokPool_eq_usum]
    -- `simp only []` reduces the projections of the record update, so that the `modify` and then the amount show
    simp only []
    rw [usum_modify_append _ _ _ hw rfl]
    simp only []
    omega

theorem tokenTotalBase_credit (s : St) (x : XS) (i : Nat) (c : Int) (st : List Int) (hi : i < s.tok.length) :
    tokenTotalBase { s with tok := addAt s.tok i c, stok := st } x = tokenTotalBase s x + c * 10000000000 := by
  show ((addAt s.tok i c).sum + x.xt.sum) * 10000000000 + tokPool x * x.tunit =
    (s.tok.sum + x.xt.sum) * 10000000000 + tokPool x * x.tunit + c * 10000000000
  rw [sum_addAt _ _ _ hi, Int.add_right_comm s.tok.sum, Int.add_mul, Int.add_right_comm (_ * _) (c * _)]

theorem tokenTotalBase_addTokOuts (s : St) (x : XS) (outs : List (Nat × Int)) (h : ∀ p ∈ outs, p.1 < x.tw.length) :
    tokenTotalBase s (addTokOuts x outs) = tokenTotalBase s x + (outs.map (·.2)).sum * x.tunit := by
  unfold tokenTotalBase
  rw [tokPool_addTokOuts x outs h, addTokOuts_eq, Int.add_mul]
  exact (Int.add_assoc ..).symm

theorem tokenTotalBase_markSpent (s : St) (x : XS) (oid : Nat) (o : Out) (hnd : (x.tw.flatten.map (·.id)).Nodup)
    (ho : o ∈ x.tw.flatten) (hid : o.id = oid) (hsp : o.spent = false) :
    tokenTotalBase s { x with tw := markSpent x.tw oid } = tokenTotalBase s x - o.amount * x.tunit := by
  have hp : tokPool { x with tw := markSpent x.tw oid } = tokPool x - o.amount := by
    rw [tokPool_eq_usum, tokPool_eq_usum]
    show usum (markSpent x.tw oid).flatten = _
    rw [markSpent_flatten, usum_mark _ oid o hnd ho hid hsp]
  show tokenTotal s x * 10000000000 + tokPool { x with tw := markSpent x.tw oid } * x.tunit =
    tokenTotal s x * 10000000000 + tokPool x * x.tunit - o.amount * x.tunit
  rw [hp, Int.sub_mul]
  exact (Int.add_sub_assoc ..).symm

theorem tokIn_conserves (s : St) (x : XS) (i w : Nat) (units : Int) (hi : i < s.tok.length) (hw : w < x.tw.length)
    (hex : tok10 x units * 10000000000 = units * x.tunit) :
    tokenTotalBase (applyPrim (s, x) (.tokIn i w units)).1 (applyPrim (s, x) (.tokIn i w units)).2 = tokenTotalBase s x := by
  show tokenTotalBase { s with tok := addAt s.tok i (-(tok10 x units)), stok := _ } (addTokOuts x [(w, units)]) = _
  rw [tokenTotalBase_addTokOuts _ x _ (by intro p hp; rw [List.mem_singleton.mp hp]; exact hw), tokenTotalBase_credit _ _ _ _ _ hi]
  show tokenTotalBase s x + -(tok10 x units) * 10000000000 + (units + 0) * x.tunit = tokenTotalBase s x
  rw [Int.add_zero, Int.neg_mul, hex]
  omega

structure TokHonest (s : St) (x : XS) (oid : Nat) (outs : List (Nat × Int)) (aout : Option (Nat × Int × Int)) : Prop where
  ids : (x.tw.flatten.map (·.id)).Nodup
  outs_lt : ∀ p ∈ outs, p.1 < x.tw.length
  acct_lt : ∀ a ∈ aout, a.1 < s.tok.length
  /-- the amount equation: the hidden units spent = the new outputs + the account output -/
  spend : ∃ o ∈ x.tw.flatten, o.id = oid ∧ o.spent = false ∧
    o.amount = (outs.map (·.2)).sum + (match aout with | some (_, u, _) => u | none => 0)
  /-- the account is credited the hidden units at the TOKEN's unit -/
  unit : ∀ a ∈ aout, a.2.2 * 10000000000 = a.2.1 * x.tunit

theorem tokSpend_conserves (s : St) (x : XS) (oid : Nat) (outs : List (Nat × Int)) (aout : Option (Nat × Int × Int))
    (h : TokHonest s x oid outs aout) :
    tokenTotalBase (applyPrim (s, x) (.tokSpend oid outs aout)).1 (applyPrim (s, x) (.tokSpend oid outs aout)).2 =
      tokenTotalBase s x := by
  obtain ⟨o, ho, hid, hsp, hamt⟩ := h.spend
  have hr : ∀ p ∈ outs, p.1 < (markSpent x.tw oid).length := by
    intro p hp; rw [Props.C06.length_markSpent]; exact h.outs_lt p hp
  -- the pool after the spend, whatever the account side `s'`: the spent amount leaves, the new outputs enter
  have hx (s' : St) : tokenTotalBase s' (addTokOuts { x with tw := markSpent x.tw oid } outs) =
      tokenTotalBase s' x - o.amount * x.tunit + (outs.map (·.2)).sum * x.tunit := by
    rw [tokenTotalBase_addTokOuts s' _ outs hr, tokenTotalBase_markSpent s' x oid o h.ids ho hid hsp]
  cases aout with
  | none =>
    show tokenTotalBase s (addTokOuts { x with tw := markSpent x.tw oid } outs) = _
    have e : o.amount = (outs.map (·.2)).sum := by simpa using hamt
    rw [hx, e]; omega
  | some a =>
    obtain ⟨a, u, c⟩ := a
    have hu : c * 10000000000 = u * x.tunit := h.unit (a, u, c) rfl
    have e : o.amount = (outs.map (·.2)).sum + u := hamt
    show tokenTotalBase { s with tok := addAt s.tok a c, stok := _ } (addTokOuts { x with tw := markSpent x.tw oid } outs) = _
    rw [hx, tokenTotalBase_credit _ _ _ _ _ (h.acct_lt (a, u, c) rfl), hu, e, Int.add_mul]
    omega

/-- a token whose unit is 1; wallet 0 holds one unspent output of 7 hidden units (= 7 base units) -/
def tk_s : St := { bal := [0], tok := [0], nonce := [0], sbal := [0], stok := [0], snonce := [0] }
def tk_x : XS := { tw := [[{ id := tokBase, amount := 7, spent := false }]], tnext := 1, tunit := 1 }

/-- the withdrawal of the 7 hidden units credited at the NATIVE unit: the account's balance grows by 7 · 10^10 base units -/
theorem tokSpend_native_unit_inflates :
    ¬ (∀ (s : St) (x : XS) (oid : Nat) (outs : List (Nat × Int)) (aout : Option (Nat × Int × Int)),
        (x.tw.flatten.map (·.id)).Nodup → (∀ p ∈ outs, p.1 < x.tw.length) → (∀ a ∈ aout, a.1 < s.tok.length) →
        (∃ o ∈ x.tw.flatten, o.id = oid ∧ o.spent = false ∧
          o.amount = (outs.map (·.2)).sum + (match aout with | some (_, u, _) => u | none => 0)) →
        tokenTotalBase (applyPrim (s, x) (.tokSpend oid outs aout)).1 (applyPrim (s, x) (.tokSpend oid outs aout)).2 =
          tokenTotalBase s x) := by
  intro h
  have := h tk_s tk_x tokBase [] (some (0, 7, 7)) (by decide) (by decide) (by decide) (by decide)
  revert this; decide

/-- non-vacuity: the same token with unit 10^10 (a hidden unit is an account unit, so every credit is exact): the output of 7 is
spent as 3 to wallet 0 and 4 to account 0, credited 4 -/
def tk_x10 : XS := { tk_x with tunit := 10000000000 }
example : TokHonest tk_s tk_x10 tokBase [(0, 3)] (some (0, 4, 4)) :=
  ⟨by decide, by decide, by decide, ⟨{ id := tokBase, amount := 7, spent := false }, by decide, by decide, by decide, by decide⟩, by decide⟩
example : tokenTotalBase (applyPrim (tk_s, tk_x10) (.tokSpend tokBase [(0, 3)] (some (0, 4, 4)))).1
    (applyPrim (tk_s, tk_x10) (.tokSpend tokBase [(0, 3)] (some (0, 4, 4)))).2 = tokenTotalBase tk_s tk_x10 := by decide
example : tokenTotalBase (applyPrim (tk_s, tk_x10) (.tokIn 0 0 5)).1 (applyPrim (tk_s, tk_x10) (.tokIn 0 0 5)).2 = tokenTotalBase tk_s tk_x10 := by decide

end Props.C06Tok
