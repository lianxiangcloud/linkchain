import LinkVerif.Props.C15Exec

/-!
# C15 — part 2: the pool invariant and what preserves it

Every account-side operation of the pool (queueing, promotion, admission of an account transaction, the recheck of
goodTxs) is an `AcctMove`: it leaves the ledger, the configuration and the confidential lane alone, and only moves
entries between goodTxs and the queue.  What such a move preserves is proved once (`Inv.of_move`, later `AllQ.of_move`);
per operation only the path clause of `Inv` is left.  The confidential lane has `UtxoMove` for `recheckUtxo`, of which
`addPure` is one step.  Admission (`addTx_ind`), `Update` (`update_inv_of`) and histories (`run_inv`) follow.
-/
namespace Props.C15
open Model.Ledger Model.Mempool

/-- what every pooled transaction satisfies (established by the basic check at admission: `basic_ok_wf`) -/
def GoodT (t : TxRec) : Prop := WFt t

/-- **a rejected state check leaves the speculative state untouched** (every rejection, the fee-too-low one included) -/
theorem checkAcc_clean {a : Acc} {t : TxRec} (h : (checkAcc a t).1 ≠ .ok) : (checkAcc a t).2 = a :=
  (checkAcc_cases a t).elim (fun h' => absurd (by rw [h'.1]) h) (·.2)

structure Inv (p : Pool) : Prop where
  path : ∃ σ, runAcc (accOf p.c) (p.good.map (·.t)) = some σ ∧ (p.good.length < p.cfg.size → σ = p.acc)
  gkind : ∀ e ∈ p.good, e.t.kind ≠ .uin
  fkind : ∀ e ∈ p.fut, e.t.kind ≠ .uin
  ukind : ∀ e ∈ p.utxo, e.t.kind = .uin
  imgs : p.imgs = p.utxo.map (·.t.spends)
  nodup : p.imgs.Nodup
  fresh : ∀ i ∈ p.imgs, i ∉ p.c.spentImgs
  good : (∀ e ∈ p.good, GoodT e.t) ∧ (∀ e ∈ p.fut, GoodT e.t)

/-! ## the path clause -/

variable {N : E → Prop} {p q : Pool} {e : E}

/-- the `path` clause of `Inv`: goodTxs is a successful speculative run from the committed state, ending in the speculative
state while there is room -/
def Path (p : Pool) : Prop :=
  ∃ σ, runAcc (accOf p.c) (p.good.map (·.t)) = some σ ∧ (p.good.length < p.cfg.size → σ = p.acc)

/-- the exact form of `Path`: the speculative state IS the committed state advanced by the good list -/
def Exact (p : Pool) : Prop := runAcc (accOf p.c) (p.good.map (·.t)) = some p.acc

theorem Exact.path (h : Exact p) : Path p := ⟨p.acc, h, fun _ => rfl⟩

theorem Path.exact (h : Path p) (hl : p.good.length < p.cfg.size) : Exact p := by
  obtain ⟨σ, h1, h2⟩ := h
  unfold Exact; rw [h1, h2 hl]

theorem Path.setAcc_full (h : Path p) (a : Acc) (hfull : ¬ p.good.length < p.cfg.size) : Path { p with acc := a } := by
  obtain ⟨σ, h1, _⟩ := h
  exact ⟨σ, h1, fun hl => absurd hl hfull⟩

theorem Exact.push (h : Exact p) (hok : (checkAcc p.acc e.t).1 = .ok) :
    Exact { p with acc := (checkAcc p.acc e.t).2, good := p.good ++ [e] } := by
  have := runAcc_append h hok
  unfold Exact; rwa [List.map_append]

/-! ## account-side moves -/

/-- `q` arises from `p` by an account-side operation that may bring in entries satisfying `N` -/
structure AcctMove (N : E → Prop) (p q : Pool) : Prop where
  c : q.c = p.c
  cfg : q.cfg = p.cfg
  imgs : q.imgs = p.imgs
  utxo : q.utxo = p.utxo
  mem : ∀ e, e ∈ q.good ∨ e ∈ q.fut → e ∈ p.good ∨ e ∈ p.fut ∨ N e
  cache : ∀ x ∈ q.cache, x ∈ p.cache
  nonce : ∀ j, getn p.acc.nonce j ≤ getn q.acc.nonce j

theorem AcctMove.refl (N : E → Prop) (p : Pool) : AcctMove N p p :=
  ⟨rfl, rfl, rfl, rfl, fun _ h => h.elim Or.inl (fun h => Or.inr (Or.inl h)), fun _ h => h, fun _ => Nat.le_refl _⟩

theorem AcctMove.trans {r : Pool} (h1 : AcctMove N p q) (h2 : AcctMove N q r) : AcctMove N p r :=
  ⟨h2.c.trans h1.c, h2.cfg.trans h1.cfg, h2.imgs.trans h1.imgs, h2.utxo.trans h1.utxo,
    fun e he => (h2.mem e he).elim (fun h => h1.mem e (Or.inl h)) (fun h => h.elim (fun h => h1.mem e (Or.inr h)) (fun h => Or.inr (Or.inr h))),
    fun x hx => h1.cache x (h2.cache x hx), fun j => Nat.le_trans (h1.nonce j) (h2.nonce j)⟩

theorem AcctMove.uncache (h : AcctMove N p q) (id : Nat) : AcctMove N p (uncache q id) :=
  ⟨h.c, h.cfg, h.imgs, h.utxo, h.mem, fun x hx => h.cache x (List.mem_filter.mp hx).1, h.nonce⟩

theorem AcctMove.check (N : E → Prop) (p : Pool) (t : TxRec) : AcctMove N p { p with acc := (checkAcc p.acc t).2 } :=
  ⟨rfl, rfl, rfl, rfl, (AcctMove.refl N p).mem, fun _ h => h, checkAcc_nonce_mono p.acc t⟩

theorem Inv.of_move (h : Inv p) (m : AcctMove N p q) (hN : ∀ e, N e → e.t.kind ≠ .uin ∧ GoodT e.t)
    (hp : Path q) : Inv q := by
  have key : ∀ e, e ∈ q.good ∨ e ∈ q.fut → e.t.kind ≠ .uin ∧ GoodT e.t := fun e he =>
    (m.mem e he).elim (fun h1 => ⟨h.gkind e h1, h.good.1 e h1⟩)
      (fun h1 => h1.elim (fun h2 => ⟨h.fkind e h2, h.good.2 e h2⟩) (hN e))
  refine ⟨hp, fun e he => (key e (Or.inl he)).1, fun e he => (key e (Or.inr he)).1, ?_, ?_, ?_, ?_,
    fun e he => (key e (Or.inl he)).2, fun e he => (key e (Or.inr he)).2⟩
  · rw [m.utxo]; exact h.ukind
  · rw [m.imgs, m.utxo]; exact h.imgs
  · rw [m.imgs]; exact h.nodup
  · rw [m.imgs, m.c]; exact h.fresh

theorem Inv.setCache (h : Inv p) (cache : List Nat) : Inv { p with cache := cache } :=
  ⟨h.path, h.gkind, h.fkind, h.ukind, h.imgs, h.nodup, h.fresh, h.good⟩

/-! ## the queue and promotion -/

theorem addFuture_cases (p : Pool) (e : E) : (addFuture p e).2 = p ∨ (addFuture p e).2 = { p with fut := p.fut ++ [e] } := by
  unfold addFuture
  split
  · exact Or.inl rfl
  · split
    · exact Or.inl rfl
    · exact Or.inr rfl

/-- queueing is a move that keeps the path clause, in both its forms -/
theorem addFuture_spec (p : Pool) (he : N e) :
    AcctMove N p (addFuture p e).2 ∧ (Path p → Path (addFuture p e).2) ∧ (Exact p → Exact (addFuture p e).2) := by
  rcases addFuture_cases p e with h | h <;> rw [h]
  · exact ⟨AcctMove.refl N p, id, id⟩
  · refine ⟨⟨rfl, rfl, rfl, rfl, fun x hx => hx.elim Or.inl (fun hx => ?_), fun _ h => h, fun _ => Nat.le_refl _⟩, id, id⟩
    rcases List.mem_append.mp hx with h1 | h1
    · exact Or.inr (Or.inl h1)
    · rw [List.mem_singleton.mp h1]; exact Or.inr (Or.inr he)

/-- the loop of `promoteExecutables`; `a0` is the committed state: an accepted entry extends the run from `a0`, a rejected one
leaves the speculative state as it was (`checkAcc_clean`) -/
theorem promoteLoop_spec (a0 : Acc) : ∀ (l : List E) (acc : Acc) (good : List E) (cache : List Nat),
    (∀ e ∈ (promoteLoop acc good cache l).2.1, e ∈ good ∨ e ∈ l) ∧
    (∀ x ∈ (promoteLoop acc good cache l).2.2, x ∈ cache) ∧
    (∀ j, getn acc.nonce j ≤ getn (promoteLoop acc good cache l).1.nonce j) ∧
    (runAcc a0 (good.map (·.t)) = some acc →
      runAcc a0 ((promoteLoop acc good cache l).2.1.map (·.t)) = some (promoteLoop acc good cache l).1) := by
  intro l
  induction l with
  | nil => intro acc good cache; exact ⟨fun e he => Or.inl he, fun _ h => h, fun _ => Nat.le_refl _, id⟩
  | cons e r ih =>
    intro acc good cache
    have hm := checkAcc_nonce_mono acc e.t
    unfold promoteLoop
    by_cases hok : (checkAcc acc e.t).1 = .ok
    · obtain ⟨i1, i2, i3, i4⟩ := ih (checkAcc acc e.t).2 (good ++ [e]) cache
      rw [if_pos hok]
      exact ⟨fun x hx => by simpa [or_assoc] using i1 x hx, i2, fun j => Nat.le_trans (hm j) (i3 j),
        fun h => i4 (by rw [List.map_append]; exact runAcc_append h hok)⟩
    · obtain ⟨i1, i2, i3, i4⟩ := ih (checkAcc acc e.t).2 good (cache.filter (· != e.id))
      rw [if_neg hok]
      refine ⟨fun x hx => (i1 x hx).imp id (List.mem_cons_of_mem _), fun x hx => (List.mem_filter.mp (i2 x hx)).1,
        fun j => Nat.le_trans (hm j) (i3 j), fun h => i4 (by rw [checkAcc_clean hok]; exact h)⟩

theorem readyRun_mem (fut : List E) (a : Nat) : ∀ (cnt start : Nat), ∀ e ∈ readyRun fut a start cnt, e ∈ fut := by
  intro cnt
  induction cnt with
  | zero => exact fun _ => List.forall_mem_nil _
  | succ k ih =>
    intro start
    rw [readyRun]
    split
    · exact List.forall_mem_nil _
    · exact List.forall_mem_cons.mpr ⟨List.mem_of_find?_eq_some ‹_›, ih _⟩

theorem dropIds_sub (xs : List Nat) (es : List E) : ∀ x ∈ dropIds xs es, x ∈ xs := fun _ hx => (List.mem_filter.mp hx).1

/-- one `promoteExecutables([a])` is a move that keeps the path clause; the queue only shrinks and keeps no entry of `a`
below `a`'s speculative nonce -/
theorem promote_spec (N : E → Prop) (p : Pool) (a : Nat) : AcctMove N p (promote p a) ∧ (Path p → Path (promote p a)) ∧
    ∀ e ∈ (promote p a).fut, e ∈ p.fut ∧ ¬ (e.t.from_ = a ∧ e.t.nonce < getn p.acc.nonce a) := by
  have hstale : ∀ e ∈ p.fut.filter (fun e => !(e.t.from_ == a && decide (e.t.nonce < getn p.acc.nonce a))),
      e ∈ p.fut ∧ ¬ (e.t.from_ = a ∧ e.t.nonce < getn p.acc.nonce a) := by
    intro e he
    obtain ⟨h1, h2⟩ := List.mem_filter.mp he
    exact ⟨h1, fun hc => by simp [hc.1, hc.2] at h2⟩
  unfold promote
  simp only []
  by_cases hneed : p.cfg.size - p.good.length = 0
  · rw [if_pos hneed]
    exact ⟨⟨rfl, rfl, rfl, rfl, fun e he => he.elim Or.inl (fun h => Or.inr (Or.inl (hstale e h).1)), dropIds_sub _ _,
      fun _ => Nat.le_refl _⟩, id, hstale⟩
  · rw [if_neg hneed]
    generalize hcache : dropIds p.cache _ = cache1
    generalize p.fut.filter _ = fut1 at hstale
    generalize hready : readyRun fut1 a _ _ = ready
    have hrm : ∀ e ∈ ready, e ∈ p.fut := by
      intro e he; rw [← hready] at he; exact (hstale e (readyRun_mem _ _ _ _ e he)).1
    obtain ⟨s1, s2, s3, s4⟩ := promoteLoop_spec (accOf p.c) ready p.acc p.good cache1
    generalize promoteLoop p.acc p.good cache1 ready = res at s1 s2 s3 s4
    obtain ⟨acc', good', cache'⟩ := res
    refine ⟨⟨rfl, rfl, rfl, rfl, fun e he => he.elim (fun h => (s1 e h).imp id (fun h => Or.inl (hrm e h))) (fun h => ?_),
      fun x hx => dropIds_sub _ _ x (hcache ▸ s2 x hx), s3⟩, fun h => Exact.path (s4 (h.exact (by omega))),
      fun e he => hstale e (List.mem_filter.mp he).1⟩
    exact Or.inr (Or.inl (hstale e (List.mem_filter.mp h).1).1)

theorem promote_move (N : E → Prop) (p : Pool) (a : Nat) : AcctMove N p (promote p a) := (promote_spec N p a).1

theorem promote_path (a : Nat) (h : Path p) : Path (promote p a) := (promote_spec (fun _ => False) p a).2.1 h

theorem promote_inv {p : Pool} (a : Nat) (h : Inv p) : Inv (promote p a) ∧ (promote p a).c = p.c ∧ (promote p a).cfg = p.cfg :=
  have m := promote_move (fun _ => False) p a
  ⟨h.of_move m (fun _ => False.elim) (promote_path a h.path), m.c, m.cfg⟩

theorem promoteAll_move (N : E → Prop) (p : Pool) : ∀ k, AcctMove N p (promoteAll p k)
  | 0 => AcctMove.refl N p
  | k + 1 => (promoteAll_move N p k).trans (promote_move N _ k)

theorem promoteAll_path (h : Path p) : ∀ k, Path (promoteAll p k)
  | 0 => h
  | k + 1 => promote_path k (promoteAll_path h k)

/-! ## admission of a transaction with an account input -/

theorem push_move (p : Pool) (he : N e) :
    AcctMove N p { p with acc := (checkAcc p.acc e.t).2, good := p.good ++ [e] } := by
  refine ⟨rfl, rfl, rfl, rfl, fun x hx => hx.elim (fun hx => ?_) (fun hx => Or.inr (Or.inl hx)), fun _ h => h, checkAcc_nonce_mono p.acc e.t⟩
  rcases List.mem_append.mp hx with h1 | h1
  · exact Or.inl h1
  · rw [List.mem_singleton.mp h1]; exact Or.inr (Or.inr he)

theorem addAccount_spec (p : Pool) (he : N e) :
    AcctMove N p (addAccount p e).2 ∧ (Path p → Path (addAccount p e).2) := by
  have hc := AcctMove.check N p e.t
  unfold addAccount addGood
  simp only []
  by_cases hok : (checkAcc p.acc e.t).1 = .ok
  · rw [if_pos hok]
    by_cases hroom : p.good.length < p.cfg.size
    · rw [if_pos hroom]
      exact ⟨(push_move p he).trans (promote_move N _ _), fun h => promote_path _ ((h.exact hroom).push hok).path⟩
    · rw [if_neg hroom]
      have hf := addFuture_spec { p with acc := (checkAcc p.acc e.t).2 } he
      exact ⟨hc.trans hf.1, fun h => hf.2.1 (h.setAcc_full _ hroom)⟩
  · -- a rejected check leaves the speculative state as it was
    rw [if_neg hok]
    rw [checkAcc_clean hok] at hc ⊢
    split
    · exact ⟨(addFuture_spec p he).1, (addFuture_spec p he).2.1⟩
    · exact ⟨hc, id⟩

theorem addAccount_inv (h : Inv p) (hk : e.t.kind ≠ .uin) (hg : GoodT e.t) : Inv (addAccount p e).2 :=
  have ⟨m, hp⟩ := addAccount_spec (N := (· = e)) p rfl
  h.of_move m (fun _ hx => hx ▸ ⟨hk, hg⟩) (hp h.path)

/-! ## the confidential lane -/

theorem checkImg_ok {spent imgs : List Nat} {t : TxRec} (h : checkImg spent imgs t = .ok) : t.spends ∉ spent ∧ t.spends ∉ imgs := by
  unfold checkImg at h
  split at h
  · cases h
  · split at h
    · cases h
    · rename_i h1 h2
      exact ⟨by simpa using h1, by simpa using h2⟩

theorem pushImg_inv (h : Inv p) (hk : e.t.kind = .uin) (hok : checkImg p.c.spentImgs p.imgs e.t = .ok) :
    Inv { p with imgs := p.imgs ++ [e.t.spends], utxo := p.utxo ++ [e] } := by
  obtain ⟨h1, h2⟩ := checkImg_ok hok
  refine ⟨h.path, h.gkind, h.fkind, ?_, ?_, ?_, ?_, h.good⟩
  · exact List.forall_mem_append.mpr ⟨h.ukind, List.forall_mem_singleton.mpr hk⟩
  · simp [h.imgs]
  · exact List.nodup_append.mpr ⟨h.nodup, by simp, fun a ha b hb => by rw [List.mem_singleton.mp hb]; exact fun heq => h2 (heq ▸ ha)⟩
  · exact List.forall_mem_append.mpr ⟨h.fresh, List.forall_mem_singleton.mpr h1⟩

/-- `q` arises from `p` by the confidential recheck of `l`: only the confidential lane moves, the cache only shrinks -/
structure UtxoMove (l : List E) (p q : Pool) : Prop where
  c : q.c = p.c
  cfg : q.cfg = p.cfg
  acc : q.acc = p.acc
  good : q.good = p.good
  fut : q.fut = p.fut
  mem : ∀ e ∈ q.utxo, e ∈ p.utxo ∨ e ∈ l
  cache : ∀ x ∈ q.cache, x ∈ p.cache

theorem recheckUtxo_spec : ∀ (l : List E) (p : Pool),
    UtxoMove l p (recheckUtxo p l) ∧ (Inv p → (∀ e ∈ l, e.t.kind = .uin) → Inv (recheckUtxo p l)) := by
  intro l
  induction l with
  | nil => intro p; exact ⟨⟨rfl, rfl, rfl, rfl, rfl, fun _ h => Or.inl h, fun _ h => h⟩, fun h _ => h⟩
  | cons e r ih =>
    intro p
    rw [recheckUtxo]
    by_cases hok : checkImg p.c.spentImgs p.imgs e.t = .ok
    · rw [if_pos hok]
      obtain ⟨m, i⟩ := ih { p with imgs := p.imgs ++ [e.t.spends], utxo := p.utxo ++ [e] }
      exact ⟨⟨m.c, m.cfg, m.acc, m.good, m.fut, fun x hx => by simpa [or_assoc] using m.mem x hx, m.cache⟩,
        fun h hl => i (pushImg_inv h (List.forall_mem_cons.mp hl).1 hok) (List.forall_mem_cons.mp hl).2⟩
    · rw [if_neg hok]
      obtain ⟨m, i⟩ := ih (uncache p e.id)
      exact ⟨⟨m.c, m.cfg, m.acc, m.good, m.fut, fun x hx => (m.mem x hx).imp id (List.mem_cons_of_mem _),
        fun x hx => (List.mem_filter.mp (m.cache x hx)).1⟩, fun h hl => i (h.setCache _) (List.forall_mem_cons.mp hl).2⟩

theorem recheckUtxo_move (l : List E) (p : Pool) : UtxoMove l p (recheckUtxo p l) := (recheckUtxo_spec l p).1

theorem recheckUtxo_inv {l : List E} (h : Inv p) (hl : ∀ e ∈ l, e.t.kind = .uin) : Inv (recheckUtxo p l) :=
  (recheckUtxo_spec l p).2 h hl

/-- `addUTXOTx` past its size gate is one step of `recheckUtxoTxs` -/
theorem addPure_spec (p : Pool) (e : E) : ∃ l, (∀ x ∈ l, x = e) ∧ (addPure p e).2 = recheckUtxo p l := by
  unfold addPure
  split
  · exact ⟨[], List.forall_mem_nil _, rfl⟩
  · split
    · exact ⟨[e], fun _ h => List.mem_singleton.mp h, by rw [recheckUtxo, if_pos ‹_›]; rfl⟩
    · exact ⟨[], List.forall_mem_nil _, rfl⟩

/-! ## `AddTx` -/

/-- the basic check admits only unsigned amounts (values, fees, account outputs) -/
theorem basic_ok_wf {t : TxRec} (h : basic t = .ok) : WFt t := by
  unfold basic at h
  split at h
  · cases h
  · split at h
    · cases h
    · rename_i hneg
      refine ⟨by omega, by omega, ?_⟩
      intro a v hav
      rw [hav] at h
      simp only [] at h
      split at h
      · cases h
      · omega

/-- what `AddTx` preserves: anything kept by dropping the submitted id from the cache, by the confidential recheck of a list
holding at most the submitted entry, and by `addAccount`, the latter two on the pool with the id cached -/
theorem addTx_ind {P : Pool → Prop} (p : Pool) (e : E) (h0 : P p) (hun : ∀ q, P q → P (uncache q e.id))
    (hu : basic e.t = .ok → e.t.kind = .uin → ∀ l, (∀ x ∈ l, x = e) → P (recheckUtxo { p with cache := p.cache ++ [e.id] } l))
    (ha : basic e.t = .ok → e.t.kind ≠ .uin → P (addAccount { p with cache := p.cache ++ [e.id] } e).2) : P (addTx p e).2 := by
  unfold addTx
  by_cases hd : p.cache.contains e.id = true
  · rw [if_pos hd]; exact h0
  · by_cases hb : basic e.t = .ok
    · by_cases hfull : p.fut.length ≥ p.cfg.future ∧ p.good.length ≥ p.cfg.size
      · rw [if_neg hd, if_pos hb, if_pos hfull]; exact h0
      · rw [if_neg hd, if_pos hb, if_neg hfull]
        simp only []
        generalize hr : (if e.t.kind = .uin then addPure _ e else addAccount _ e) = r
        have hP : P r.2 := by
          rw [← hr]
          by_cases hk : e.t.kind = .uin
          · obtain ⟨l, hl, he⟩ := addPure_spec { p with cache := p.cache ++ [e.id] } e
            rw [if_pos hk, he]; exact hu hb hk l hl
          · rw [if_neg hk]; exact ha hb hk
        split
        · exact hP
        · exact hun _ hP
    · rw [if_neg hd, if_neg hb]; exact h0

theorem addTx_inv (h : Inv p) :
    Inv (addTx p e).2 ∧ (addTx p e).2.c = p.c ∧ (addTx p e).2.cfg = p.cfg := by
  refine addTx_ind (P := fun q => Inv q ∧ q.c = p.c ∧ q.cfg = p.cfg) p e ⟨h, rfl, rfl⟩ (fun q hq => ⟨hq.1.setCache _, hq.2⟩)
    (fun _ hk l hl => ?_) (fun hb hk => ?_)
  · have m := recheckUtxo_move l { p with cache := p.cache ++ [e.id] }
    exact ⟨recheckUtxo_inv (h.setCache _) (fun x hx => hl x hx ▸ hk), m.c, m.cfg⟩
  · have m := (addAccount_spec (N := (· = e)) { p with cache := p.cache ++ [e.id] } rfl).1
    exact ⟨addAccount_inv (h.setCache _) hk (basic_ok_wf hb), m.c, m.cfg⟩

/-! ## Update -/

theorem recheckGood_spec : ∀ (l : List E) (p : Pool), (∀ e ∈ l, N e) →
    AcctMove N p (recheckGood p l) ∧ (Exact p → Exact (recheckGood p l)) := by
  intro l
  induction l with
  | nil => intro p _; exact ⟨AcctMove.refl N p, id⟩
  | cons e r ih =>
    intro p hl
    obtain ⟨he, hr⟩ := List.forall_mem_cons.mp hl
    -- one step, then the rest of the list
    suffices ∃ q, recheckGood p (e :: r) = recheckGood q r ∧ AcctMove N p q ∧ (Exact p → Exact q) by
      obtain ⟨q, hq, m, hex⟩ := this
      rw [hq]
      exact ⟨m.trans (ih q hr).1, fun h => (ih q hr).2 (hex h)⟩
    rw [recheckGood]
    by_cases hok : (checkAcc p.acc e.t).1 = .ok
    · rw [if_pos hok]
      exact ⟨_, rfl, push_move p he, fun h => h.push hok⟩
    · rw [if_neg hok, checkAcc_clean hok]
      obtain ⟨hm, _, hf⟩ := addFuture_spec p he
      by_cases hh : (checkAcc p.acc e.t).1 = .nonceHigh
      · rw [if_pos hh]
        split
        · exact ⟨_, rfl, hm, hf⟩
        · exact ⟨_, rfl, hm.uncache _, hf⟩
      · rw [if_neg hh]; exact ⟨_, rfl, (AcctMove.refl N p).uncache _, id⟩

/-- the pool `Update` starts from: the new committed ledger, nothing pending -/
def reset (p : Pool) (c' : St) : Pool := { p with c := c', acc := accOf c', imgs := [], good := [], utxo := [] }

theorem update_eq (p : Pool) (c' : St) (ids : List Nat) : ∃ g u, (∀ e ∈ g, e ∈ p.good) ∧ (∀ e ∈ u, e ∈ p.utxo) ∧
    update p c' ids = promoteAll (recheckUtxo (recheckGood (reset p c') g) u) p.cfg.accts := by
  refine ⟨p.good.filter (fun e => !ids.contains e.id), p.utxo.filter (fun e => !ids.contains e.id),
    fun e he => (List.mem_filter.mp he).1, fun e he => (List.mem_filter.mp he).1, ?_⟩
  unfold update promoteEvery
  simp only []
  rw [(recheckUtxo_move _ _).cfg, (recheckGood_spec (N := fun _ => True) _ _ (fun _ _ => trivial)).1.cfg]
  rfl

/-- Update from kinds and well-formedness alone: what is left of the old pool re-enters through the state checks -/
theorem update_inv_of (hg : ∀ e ∈ p.good, e.t.kind ≠ .uin ∧ GoodT e.t) (hu : ∀ e ∈ p.utxo, e.t.kind = .uin)
    (hf : ∀ e ∈ p.fut, e.t.kind ≠ .uin ∧ GoodT e.t) (c' : St) (ids : List Nat) :
    Inv (update p c' ids) ∧ (update p c' ids).c = c' ∧ (update p c' ids).cfg = p.cfg := by
  obtain ⟨g, u, sg, su, h⟩ := update_eq p c' ids
  rw [h]
  have h0 : Inv (reset p c') :=
    ⟨⟨accOf c', rfl, fun _ => rfl⟩, List.forall_mem_nil _, fun e he => (hf e he).1, List.forall_mem_nil _, rfl, List.nodup_nil,
      List.forall_mem_nil _, List.forall_mem_nil _, fun e he => (hf e he).2⟩
  obtain ⟨m1, e1⟩ := recheckGood_spec (N := (· ∈ p.good)) g (reset p c') sg
  have m2 := recheckUtxo_move u (recheckGood (reset p c') g)
  have h2 := recheckUtxo_inv (h0.of_move m1 hg (e1 rfl).path) (fun e he => hu e (su e he))
  have m3 := promoteAll_move (fun _ => False) (recheckUtxo (recheckGood (reset p c') g) u) p.cfg.accts
  exact ⟨h2.of_move m3 (fun _ => False.elim) (promoteAll_path h2.path _), by rw [m3.c, m2.c, m1.c]; rfl, by rw [m3.cfg, m2.cfg, m1.cfg]; rfl⟩

/-- **Update re-establishes the invariant from the new committed ledger, whatever that ledger is** -/
theorem update_inv {p : Pool} (h : Inv p) (c' : St) (ids : List Nat) :
    Inv (update p c' ids) ∧ (update p c' ids).c = c' ∧ (update p c' ids).cfg = p.cfg :=
  update_inv_of (fun e he => ⟨h.gkind e he, h.good.1 e he⟩) h.ukind (fun e he => ⟨h.fkind e he, h.good.2 e he⟩) c' ids

/-! ## histories -/

theorem commitEntries_some {p' : Pool} {es : List E} (hc : commitEntries p es = some p') :
    ∃ c', execX p.c [] (es.map (·.t)) = some c' ∧ p' = update p (finish p.c c' (es.map (·.id))) (es.map (·.id)) := by
  unfold commitEntries at hc
  split at hc
  · cases hc
  · cases hc; exact ⟨_, ‹_›, rfl⟩

/-- what every operation of a history preserves: anything kept by `AddTx` of a registered transaction and by the `Update`
after a block (what a reap returned, or any registered transactions) that executes -/
theorem step_ind {P : Pool → Prop} (reg : List TxRec) (p : Pool) (op : Op) (h0 : P p)
    (hadd : ∀ id t, reg[id]? = some t → P (addTx p { id := id, t := t }).2)
    (hupd : ∀ es c', ((∃ max, es = reap p max) ∨ ∃ ids, es = entries reg ids) → execX p.c [] (es.map (·.t)) = some c' →
      P (update p (finish p.c c' (es.map (·.id))) (es.map (·.id)))) : P (step reg p op) := by
  have hc : ∀ es, ((∃ max, es = reap p max) ∨ ∃ ids, es = entries reg ids) → P ((commitEntries p es).getD p) := by
    intro es hes
    unfold commitEntries
    split
    · exact h0
    · exact hupd es _ hes ‹_›
  cases op with
  | submit id =>
    simp only [step]
    split
    · exact hadd id _ ‹_›
    · exact h0
  | reap max => exact h0
  | commit max => exact hc _ (Or.inl ⟨max, rfl⟩)
  | force ids =>
    simp only [step, forceEntries]
    split
    · exact h0
    · exact hc _ (Or.inr ⟨ids, rfl⟩)

theorem foldl_preserves {α β : Type} {P : α → Prop} {f : α → β → α} (hstep : ∀ a b, P a → P (f a b)) :
    ∀ (l : List β) (a : α), P a → P (l.foldl f a) :=
  fun l _ h => List.foldlRecOn l f h fun a ha b _ => hstep a b ha

theorem step_inv (reg : List TxRec) (h : Inv p) (op : Op) :
    Inv (step reg p op) ∧ (step reg p op).cfg = p.cfg :=
  step_ind (P := fun q => Inv q ∧ q.cfg = p.cfg) reg p op ⟨h, rfl⟩ (fun _ _ _ => ⟨(addTx_inv h).1, (addTx_inv h).2.2⟩)
    (fun _ _ _ _ => ⟨(update_inv h _ _).1, (update_inv h _ _).2.2⟩)

theorem init_inv (cfg : Cfg) (w : Nat) (bal tbal : Int) : Inv (Model.Mempool.init cfg w bal tbal) :=
  ⟨⟨_, rfl, fun _ => rfl⟩, List.forall_mem_nil _, List.forall_mem_nil _, List.forall_mem_nil _, rfl, List.nodup_nil,
    List.forall_mem_nil _, List.forall_mem_nil _, List.forall_mem_nil _⟩

/-- the invariant holds after every operation of every history -/
theorem run_inv (reg : List TxRec) : ∀ (ops : List Op) (p : Pool), Inv p → Inv (run reg p ops) :=
  foldl_preserves (fun _ op h => (step_inv reg h op).1)

end Props.C15
