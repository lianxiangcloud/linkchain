/-
C09: copies.  Two states of one world share the heap of token-map cells.  Independence of a copy is a
statement about that heap: a state can be influenced from outside ONLY through cells it references (`TokStore.shared`).
The full second clause for the current tree (all operations incl. snapshots, reverts, Finalise, Commit, copies of copies) is
`world_independent` in Props/C09World.lean, built on `NS`; the refutation for the pinned tree is
`C09_copy_pinned_counterexample` in Props/C09.lean.
-/
import LinkVerif.Props.C09Revert

namespace Props.C09
open Model.StateDB

def obsWith (h : Ref → TokMap) (s : State) : Obs := obs { heap := h, nextRef := 0, st := s }

def AccObs.noTok (x : AccObs) : Nat × Nat × Int × Bytes × (Key → Bytes) × Bool × Bool :=
  (x.nonce, x.credits, x.balance, x.code, x.stor, x.suicided, x.empty)

/-- **partial independence (any configuration, also the sharing `deepCopy` of the pinned tree).**  Whatever happens to the heap —
i.e. whatever any copy, copy of a copy or the original does — nonce, credits, balance, code, storage, suicide mark, existence,
emptiness, refund and logs of a state do not move. -/
theorem copy_independent_partial (h h' : Ref → TokMap) (s : State) :
    (∀ a, ((obsWith h s).acct a).map AccObs.noTok = ((obsWith h' s).acct a).map AccObs.noTok) ∧
    (obsWith h s).refund = (obsWith h' s).refund ∧ (obsWith h s).logs = (obsWith h' s).logs ∧
    (obsWith h s).logSize = (obsWith h' s).logSize := by
  refine ⟨fun a => ?_, rfl, rfl, rfl⟩
  simp only [obsWith, obs]
  cases peek s a <;> simp [AccObs.noTok, obsObj]

/-- token balances of an account whose map is private do not depend on the heap either -/
theorem copy_independent_private (h h' : Ref → TokMap) (s : State) (a : Addr) (o : Obj) (m : TokMap)
    (hp : peek s a = some o) (hm : o.toks = .inl m) : (obsWith h s).acct a = (obsWith h' s).acct a := by
  simp [obsWith, obs, hp, obsObj, tokMapOf, hm]

def runOps (cfg : Cfg) (c : Ctx) (ops : List Op) : Ctx := ops.foldl (applyOp cfg) c

theorem runOps_noShared (cfg : Cfg) (ops : List Op) : ∀ c, NSo c.st → (runOps cfg c ops).heap = c.heap ∧ NSo (runOps cfg c ops).st :=
  fun c hn => List.foldlRecOn ops _ (motive := fun b => b.heap = c.heap ∧ NSo b.st) ⟨rfl, hn⟩ (fun b h op _ =>
    have h' := (applyOp_frame cfg b op).priv h.2 PrevOK_nil
    ⟨h'.1.trans h.1, h'.2.1⟩)

/-- induction over the loop of `Copy`: one deep-copied live object per step -/
theorem copy_ind (cfg : Cfg) (c : Ctx) (P : Ctx × State → Prop)
    (h0 : P (c, { State.empty with trie := c.st.trie, refund := c.st.refund, logs := c.st.logs, logSize := c.st.logSize,
                                   preimages := c.st.preimages }))
    (hs : ∀ (c1 : Ctx) (n : State) (a : Addr) (o : Obj), P (c1, n) → c1.st.objs a = some o →
      P (putObj { c1 with heap := (deepCopy cfg c1.heap c1.nextRef o).1, nextRef := (deepCopy cfg c1.heap c1.nextRef o).2.1 } a
           (deepCopy cfg c1.heap c1.nextRef o).2.2.1,
         { n with objs := upd n.objs a (some (deepCopy cfg c1.heap c1.nextRef o).2.2.2), objsDirty := upd n.objsDirty a true })) :
    P (copy cfg c) := by
  unfold copy
  refine List.foldlRecOn addrU _ (motive := P) h0 (fun acc h a _ => ?_)
  obtain ⟨c1, n⟩ := acc
  dsimp only
  split
  · cases ho : c1.st.objs a with
    | none => exact h
    | some o => exact hs c1 n a o h ho
  · exact h

theorem copy_fresh (cfg : Cfg) (c : Ctx) :
    (copy cfg c).2.journal = [] ∧ (copy cfg c).2.revs = [] ∧ (copy cfg c).2.nextRev = 0 :=
  copy_ind cfg c (fun acc => acc.2.journal = [] ∧ acc.2.revs = [] ∧ acc.2.nextRev = 0) ⟨rfl, rfl, rfl⟩ (fun _ _ _ _ h _ => h)

/-- with `cloneTokens`, `Copy` leaves the original context untouched and the copy holds no shared cell -/
theorem copy_repaired_noShared (cfg : Cfg) (hc : cfg.cloneTokens = true) (c : Ctx) :
    (copy cfg c).1 = c ∧ NSo (copy cfg c).2 := by
  refine copy_ind cfg c (fun acc => acc.1 = c ∧ NSo acc.2) ⟨rfl, fun a o h => by simp [State.empty] at h⟩ ?_
  intro c1 n a o ⟨h1, h2⟩ ho
  subst h1
  simp only [deepCopy, hc, if_true]
  refine ⟨?_, NSo_objs_upd h2 a _ ⟨_, rfl⟩ rfl⟩
  simp only [putObj]
  rw [← ho, upd_self]

/-- **C09, second clause, mutator histories, for the cloning `deepCopy` (the current tree).**  In a world where no state holds a
shared cell (which the repaired `Copy` preserves: `copy_repaired_noShared`), any mutator sequence on the copy leaves every
observable of the original unchanged, and any mutator sequence on the original leaves every observable of the copy unchanged. -/
theorem copy_independent_repaired (cfg : Cfg) (hc : cfg.cloneTokens = true) (c : Ctx) (hn : NSo c.st) (ops : List Op) :
    let c' := (copy cfg c).1
    let n := (copy cfg c).2
    obsWith (runOps cfg { heap := c'.heap, nextRef := c'.nextRef, st := n } ops).heap c'.st = obsWith c.heap c.st ∧
    obsWith (runOps cfg c' ops).heap n = obsWith c'.heap n := by
  obtain ⟨h1, h2⟩ := copy_repaired_noShared cfg hc c
  simp only
  rw [h1]
  refine ⟨?_, ?_⟩
  · rw [(runOps_noShared cfg ops { heap := c.heap, nextRef := c.nextRef, st := (copy cfg c).2 } h2).1]
  · rw [(runOps_noShared cfg ops c hn).1]

/-! With a `deepCopy` that clones the Tokens map (the tree since fix 9e64f31, `cfg.cloneTokens = true`) NO token map is ever shared.
`NS` (no live object and no object remembered by a `resetObjectChange` holds a shared cell) is preserved by EVERY operation of a
state — all mutators, Snapshot, RevertToSnapshot, Finalise, Commit, Copy — and under `NS` no operation writes the heap (`step_ns`,
`finalise_ns`, `commit_ns`, `copy_ns`). -/

def NS (s : State) : Prop := NSo s ∧ PrevOK s.journal

theorem NS_empty : NS State.empty :=
  ⟨fun a o h => by simp [State.empty] at h, fun a p h => by simp [State.empty] at h⟩

def Fn (c c' : Ctx) : Prop := c'.heap = c.heap ∧ NS c'.st

theorem Fn.trans {c c' c'' : Ctx} (h1 : Fn c c') (h2 : Fn c' c'') : Fn c c'' := ⟨h2.1.trans h1.1, h2.2⟩

theorem Frame.fn {es : List Entry} {c c' : Ctx} (h : Frame es c c') (hn : NS c.st) (hp : PrevOK es) : Fn c c' := by
  obtain ⟨h1, h2, h3⟩ := h.priv hn.1 hp
  exact ⟨h1, h2, h3 hn.2⟩

theorem applyOp_fn (cfg : Cfg) (c : Ctx) (op : Op) (hn : NS c.st) : Fn c (applyOp cfg c op) :=
  (applyOp_frame cfg c op).fn hn PrevOK_nil

theorem step_ns (cfg : Cfg) (c : Ctx) (s : Step) (hn : NS c.st) : Fn c (stepCtx cfg c s) := by
  cases s with
  | op o => exact applyOp_fn cfg c o hn
  | snap => exact ⟨rfl, hn⟩
  | revert id =>
    exact stepCtx_revert (P := Fn c) cfg c id ⟨rfl, hn⟩ (fun j _ _ =>
      (revertJournal_frame j c).fn hn (fun a q h => hn.2 a q (List.mem_of_mem_take h)))

theorem run_ns (cfg : Cfg) (steps : List Step) : ∀ c, NS c.st → Fn c (run cfg c steps) :=
  fun c hn => List.foldlRecOn steps _ (motive := Fn c) ⟨rfl, hn⟩ (fun b h s _ => h.trans (step_ns cfg b s h.2))

theorem updateTrie_toks (o : Obj) : (updateTrie o).toks = o.toks := by
  unfold updateTrie
  refine List.foldlRecOn keyU _ (motive := fun acc : Obj => acc.toks = o.toks) rfl (fun acc h k _ => ?_)
  split
  · exact h
  · split <;> exact h

theorem NSo_clearJournal {s : State} (h : NSo s) : NSo (clearJournal s) := fun a o ho => h a o ho

theorem finalise_ns (del : Bool) (c : Ctx) (hn : NS c.st) : Fn c (finalise del c) := by
  refine ⟨rfl, ?_, PrevOK_nil⟩
  unfold finalise
  apply NSo_clearJournal
  apply List.foldlRecOn _ _ (motive := NSo) hn.1
  intro s h a _
  dsimp only
  split
  · cases ho : c.st.objs a with
    | none => exact h
    | some o =>
      have hi := hn.1 a o ho
      dsimp only
      split
      · exact NSo_objs_upd h a { o with deleted := true } (Inl_of_toks rfl hi) rfl
      · exact NSo_objs_upd h a (updateTrie o) (Inl_of_toks (updateTrie_toks o) hi) rfl
  · exact h

theorem commit_ns (del : Bool) (c : Ctx) (hn : NS c.st) : Fn c (commit del c) := by
  refine ⟨rfl, ?_, PrevOK_nil⟩
  unfold commit
  apply NSo_clearJournal
  apply List.foldlRecOn _ _ (motive := NSo) hn.1
  intro s h a _
  dsimp only
  cases ho : c.st.objs a with
  | none => exact h
  | some o =>
    have hi := hn.1 a o ho
    dsimp only
    split
    · exact NSo_objs_upd h a { o with deleted := true } (Inl_of_toks rfl hi) rfl
    · split
      · exact NSo_objs_upd h a (updateTrie o) (Inl_of_toks (updateTrie_toks o) hi) rfl
      · exact h

theorem copy_ns (cfg : Cfg) (hc : cfg.cloneTokens = true) (c : Ctx) : (copy cfg c).1 = c ∧ NS (copy cfg c).2 := by
  obtain ⟨h1, h2⟩ := copy_repaired_noShared cfg hc c
  exact ⟨h1, h2, (copy_fresh cfg c).1 ▸ PrevOK_nil⟩

end Props.C09
