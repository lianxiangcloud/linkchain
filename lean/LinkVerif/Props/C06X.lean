import LinkVerif.Model.LedgerX
import LinkVerif.Props.C06Lemmas

/-!
# C06, value moved by contract transactions (Model.LedgerX)

The value movements of creations, of calls that keep / forward / transfer value, of token-carrying calls and of
SELFDESTRUCT are lists of primitive moves between observed buckets.  Over everything observed (`nativeTotal`,
`tokenTotal`): a move between buckets that exist changes neither total (whatever the amount, also "all"); the one designed
destruction (`burn`) lowers the native total by exactly the holdings of the bucket; a list of moves, SELFDESTRUCT marks and
awards (`AllMoves`) conserves both, since no primitive changes the lengths the in-range hypotheses speak of.
Blocks (`applyBlock` = the movements in order, then `endBlock`: objects destroyed in the block are deleted with what they
hold by then): `C06X_block_statement` (every block of in-range moves and marks conserves the native total) is FALSE of
the model, which mirrors the code: `C06X_block_counterexample` is the known finding's witness (an instance is destroyed,
a later transaction of the same block pays it 77, the 77 are gone); `C06X_block_partial` proves conservation for blocks
in which no destroyed instance holds anything at the end.
`X_statement_unrestricted` (every primitive list conserves) is FALSE: `X_counterexample` (a burn), and so is the version
without the in-range hypothesis: `X_counterexample_range` (a move to a bucket that is not observed loses the value —
the shape of the defect recorded in proposed/C06-pay-selfdestructed-same-block.md).
-/
namespace Props.C06X
open Model.Ledger
open Props.C06 (sum_addAt length_addAt)

/-- the bucket exists in the observation -/
def InRange (s : St) (x : XS) (tok : Bool) : Bk → Prop
  | .acct i => if tok then i < s.tok.length else i < s.bal.length
  | .zero => if tok then 0 < x.xt.length else True
  | .x k => if tok then k + 1 < x.xt.length else k < x.xb.length

instance (s : St) (x : XS) (tok : Bool) (b : Bk) : Decidable (InRange s x tok b) := by
  cases b <;> simp only [InRange] <;> infer_instance

/-- `InRange` and `AllMoves` look at these five lengths only -/
structure SameShape (s s' : St) (x x' : XS) : Prop where
  bal : s'.bal.length = s.bal.length
  tok : s'.tok.length = s.tok.length
  xb : x'.xb.length = x.xb.length
  xt : x'.xt.length = x.xt.length
  yw : x'.yw.length = x.yw.length

theorem SameShape.trans {s s' s'' : St} {x x' x'' : XS} (h : SameShape s s' x x') (h' : SameShape s' s'' x' x'') :
    SameShape s s'' x x'' :=
  ⟨h'.bal.trans h.bal, h'.tok.trans h.tok, h'.xb.trans h.xb, h'.xt.trans h.xt, h'.yw.trans h.yw⟩

theorem SameShape.inRange {s s' : St} {x x' : XS} (hs : SameShape s s' x x') {tok : Bool} {b : Bk} (h : InRange s x tok b) :
    InRange s' x' tok b :=
  match b, tok, h with
  | .acct _, false, h => Nat.lt_of_lt_of_eq (show _ < s.bal.length from h) hs.bal.symm
  | .acct _, true, h => Nat.lt_of_lt_of_eq (show _ < s.tok.length from h) hs.tok.symm
  | .zero, false, _ => trivial
  | .zero, true, h => Nat.lt_of_lt_of_eq (show _ < x.xt.length from h) hs.xt.symm
  | .x _, false, h => Nat.lt_of_lt_of_eq (show _ < x.xb.length from h) hs.xb.symm
  | .x _, true, h => Nat.lt_of_lt_of_eq (show _ < x.xt.length from h) hs.xt.symm

theorem addBk_shape (s : St) (x : XS) (tok : Bool) (b : Bk) (d : Int) :
    SameShape s (addBk s x tok b d).1 x (addBk s x tok b d).2 :=
  match b, tok with
  | .acct _, false => ⟨length_addAt .., rfl, rfl, rfl, rfl⟩
  | .acct _, true => ⟨rfl, length_addAt .., rfl, rfl, rfl⟩
  | .zero, false => ⟨rfl, rfl, rfl, rfl, rfl⟩
  | .zero, true => ⟨rfl, rfl, rfl, length_addAt .., rfl⟩
  | .x _, false => ⟨rfl, rfl, length_addAt .., rfl, rfl⟩
  | .x _, true => ⟨rfl, rfl, rfl, length_addAt .., rfl⟩

theorem addBk_native (s : St) (x : XS) (b : Bk) (d : Int) (h : InRange s x false b) :
    nativeTotal (addBk s x false b d).1 (addBk s x false b d).2 = nativeTotal s x + d ∧
    tokenTotal (addBk s x false b d).1 (addBk s x false b d).2 = tokenTotal s x := by
  refine ⟨?_, by cases b <;> rfl⟩
  cases b with
  | acct i => simp only [nativeTotal, supply, pool, addBk, sum_addAt _ _ _ h, Int.add_right_comm _ d]
  | zero => simp only [nativeTotal, supply, pool, addBk, ← Int.add_assoc, Int.add_right_comm _ d]
  | x k => simp only [nativeTotal, addBk, sum_addAt _ _ _ h, Int.add_assoc]

theorem addBk_token (s : St) (x : XS) (b : Bk) (d : Int) (h : InRange s x true b) :
    nativeTotal (addBk s x true b d).1 (addBk s x true b d).2 = nativeTotal s x ∧
    tokenTotal (addBk s x true b d).1 (addBk s x true b d).2 = tokenTotal s x + d := by
  refine ⟨by cases b <;> rfl, ?_⟩
  cases b with
  | acct i => simp only [tokenTotal, tokSupply, addBk, sum_addAt _ _ _ h, Int.add_right_comm _ d]
  | zero => simp only [tokenTotal, addBk, sum_addAt _ _ _ h, Int.add_assoc]
  | x k => simp only [tokenTotal, addBk, sum_addAt _ _ _ h, Int.add_assoc]

def amtOf (s : St) (x : XS) (tok : Bool) (src : Bk) : Option Int → Int
  | some v => v
  | none => getBk s x tok src

theorem applyPrim_move (s : St) (x : XS) (tok : Bool) (src dst : Bk) (amt : Option Int) :
    applyPrim (s, x) (.move tok src dst amt) =
      addBk (addBk s x tok src (-(amtOf s x tok src amt))).1 (addBk s x tok src (-(amtOf s x tok src amt))).2 tok dst
        (amtOf s x tok src amt) := by
  cases amt <;> rfl

theorem applyPrim_move_conserves (s : St) (x : XS) (tok : Bool) (src dst : Bk) (amt : Option Int)
    (hs : InRange s x tok src) (hd : InRange s x tok dst) :
    nativeTotal (applyPrim (s, x) (.move tok src dst amt)).1 (applyPrim (s, x) (.move tok src dst amt)).2 = nativeTotal s x ∧
    tokenTotal (applyPrim (s, x) (.move tok src dst amt)).1 (applyPrim (s, x) (.move tok src dst amt)).2 = tokenTotal s x := by
  rw [applyPrim_move]
  generalize amtOf s x tok src amt = v
  have hd' := (addBk_shape s x tok src (-v)).inRange hd
  cases tok with
  | false =>
    have h1 := addBk_native s x src (-v) hs
    have h2 := addBk_native _ _ dst v hd'
    rw [h2.1, h2.2, h1.1, h1.2]; exact ⟨by omega, rfl⟩
  | true =>
    have h1 := addBk_token s x src (-v) hs
    have h2 := addBk_token _ _ dst v hd'
    rw [h2.1, h2.2, h1.1, h1.2]; exact ⟨rfl, by omega⟩

theorem applyPrim_burn (s : St) (x : XS) (b : Bk) (h : InRange s x false b) :
    nativeTotal (applyPrim (s, x) (.burn b)).1 (applyPrim (s, x) (.burn b)).2 = nativeTotal s x - getBk s x false b ∧
    tokenTotal (applyPrim (s, x) (.burn b)).1 (applyPrim (s, x) (.burn b)).2 = tokenTotal s x := by
  have h1 := addBk_native s x b (-(getBk s x false b)) h
  have e : nativeTotal s x + -(getBk s x false b) = nativeTotal s x - getBk s x false b := by omega
  rw [e] at h1
  -- `applyPrim` looks at the bucket only to book the surplus `rx`, which neither total reads
  cases b with
  | acct i => exact h1
  | zero => exact h1
  | x k => exact h1

def AllMoves (s : St) (x : XS) : List Prim → Prop
  | [] => True
  | .move tok src dst _ :: ps => InRange s x tok src ∧ InRange s x tok dst ∧ AllMoves s x ps
  | .burn _ :: _ => False
  | .kill b :: ps => InRange s x false b ∧ AllMoves s x ps
  | .award k _ :: ps => k < x.yw.length ∧ AllMoves s x ps
  | .tokIn _ _ _ :: _ => False
  | .tokSpend _ _ _ :: _ => False
  | .fee _ _ :: _ => False

instance allMovesDecidable (s : St) (x : XS) : (ps : List Prim) → Decidable (AllMoves s x ps)
  | [] => isTrue trivial
  | p :: ps =>
    have := allMovesDecidable s x ps
    by cases p <;> simp only [AllMoves] <;> infer_instance

/-- `AllMoves s x [p]` says that `p` is admissible -/
theorem allMoves_cons (s : St) (x : XS) (p : Prim) (ps : List Prim) :
    AllMoves s x (p :: ps) ↔ AllMoves s x [p] ∧ AllMoves s x ps := by
  cases p <;> simp only [AllMoves, and_true, and_assoc, false_and]

theorem SameShape.allMoves {s s' : St} {x x' : XS} (hs : SameShape s s' x x') {ps : List Prim} (h : AllMoves s x ps) :
    AllMoves s' x' ps := by
  induction ps with
  | nil => trivial
  | cons p ps ih =>
    rw [allMoves_cons] at h ⊢
    refine ⟨?_, ih h.2⟩
    have h1 := h.1
    cases p with
    | move tok src dst amt => exact ⟨hs.inRange h1.1, hs.inRange h1.2.1, trivial⟩
    | kill b => exact ⟨hs.inRange h1.1, trivial⟩
    | award k w => exact ⟨hs.yw ▸ h1.1, trivial⟩
    | _ => exact h1

theorem addTokOuts_eq (x : XS) (outs : List (Nat × Int)) :
    addTokOuts x outs = { x with tw := (addTokOuts x outs).tw, tnext := (addTokOuts x outs).tnext } := by
  unfold addTokOuts
  induction outs generalizing x with
  | nil => rfl
  | cons o os ih => exact ih _

theorem addTokOuts_shape (s : St) (x : XS) (outs : List (Nat × Int)) : SameShape s s x (addTokOuts x outs) := by
  rw [addTokOuts_eq]; exact ⟨rfl, rfl, rfl, rfl, rfl⟩

theorem applyPrim_award_eq (s : St) (x : XS) (k : Nat) (w : Int) :
    applyPrim (s, x) (.award k w) = (s, { x with yw := addAt x.yw k w, fw := x.fw + w }) := rfl

theorem applyPrim_shape (s : St) (x : XS) (p : Prim) : SameShape s (applyPrim (s, x) p).1 x (applyPrim (s, x) p).2 := by
  cases p with
  | move tok src dst amt => rw [applyPrim_move]; exact (addBk_shape ..).trans (addBk_shape ..)
  | burn b =>
    have h := addBk_shape s x false b (-(getBk s x false b))
    cases b with
    | acct i => exact h
    | zero => exact h
    | x k => exact ⟨h.bal, h.tok, h.xb, h.xt, h.yw⟩
  | kill b => cases b <;> exact ⟨rfl, rfl, rfl, rfl, rfl⟩
  | award k w => exact ⟨rfl, rfl, rfl, rfl, length_addAt ..⟩
  | tokIn i w units =>
    have h := addTokOuts_shape s x [(w, units)]
    exact ⟨rfl, length_addAt .., h.xb, h.xt, h.yw⟩
  | tokSpend oid outs aout =>
    have h := addTokOuts_shape s { x with tw := markSpent x.tw oid } outs
    cases aout with
    | none => exact ⟨rfl, rfl, h.xb, h.xt, h.yw⟩
    | some a => exact ⟨rfl, length_addAt .., h.xb, h.xt, h.yw⟩
  | fee i u => exact ⟨length_addAt .., rfl, rfl, rfl, rfl⟩

theorem applyPrims_keeps {α : Type} (f : St → XS → α)
    (step : ∀ s x p, AllMoves s x [p] → f (applyPrim (s, x) p).1 (applyPrim (s, x) p).2 = f s x)
    (ps : List Prim) (s : St) (x : XS) (h : AllMoves s x ps) : f (applyPrims (s, x) ps).1 (applyPrims (s, x) ps).2 = f s x := by
  induction ps generalizing s x with
  | nil => rfl
  | cons p ps ih =>
    rw [allMoves_cons] at h
    exact (ih _ _ ((applyPrim_shape s x p).allMoves h.2)).trans (step s x p h.1)

theorem applyPrim_conserves {s : St} {x : XS} {p : Prim} (h : AllMoves s x [p]) :
    nativeTotal (applyPrim (s, x) p).1 (applyPrim (s, x) p).2 = nativeTotal s x ∧
    tokenTotal (applyPrim (s, x) p).1 (applyPrim (s, x) p).2 = tokenTotal s x := by
  cases p with
  | move tok src dst amt => exact applyPrim_move_conserves s x tok src dst amt h.1 h.2.1
  | kill b => cases b <;> exact ⟨rfl, rfl⟩
  | award k w => exact ⟨rfl, rfl⟩
  | _ => exact h.elim

/-- **C06 over contract movements (partial).**  A list of moves between observed buckets conserves the native and the token
total.  This is what every contract transaction of the harness books except SELFDESTRUCT in favour of the contract itself. -/
theorem applyPrims_conserves (ps : List Prim) (s : St) (x : XS) (h : AllMoves s x ps) :
    nativeTotal (applyPrims (s, x) ps).1 (applyPrims (s, x) ps).2 = nativeTotal s x ∧
    tokenTotal (applyPrims (s, x) ps).1 (applyPrims (s, x) ps).2 = tokenTotal s x :=
  ⟨applyPrims_keeps nativeTotal (fun _ _ _ hp => (applyPrim_conserves hp).1) ps s x h,
   applyPrims_keeps tokenTotal (fun _ _ _ hp => (applyPrim_conserves hp).2) ps s x h⟩

theorem addAt_zero (xs : List Int) (k : Nat) : addAt xs k 0 = xs := by
  unfold addAt
  rw [show (fun x : Int => x + 0) = id from funext Int.add_zero]
  exact List.modify_id ..

theorem burn_empty (s : St) (x : XS) (k : Nat) (h : geti x.xb k = 0) : applyPrim (s, x) (.burn (.x k)) = (s, x) := by
  simp only [applyPrim, getBk, Bool.false_eq_true, if_false, h, Int.neg_zero, addBk, addAt_zero]

def DeadEmpty (sx : St × XS) : Prop := ∀ k ∈ sx.2.killed, geti sx.2.xb k = 0

instance (sx : St × XS) : Decidable (DeadEmpty sx) := inferInstanceAs (Decidable (∀ k ∈ sx.2.killed, geti sx.2.xb k = 0))

theorem endBlock_of_deadEmpty (sx : St × XS) (h : DeadEmpty sx) : endBlock sx = (sx.1, { sx.2 with killed := [] }) := by
  obtain ⟨s, x⟩ := sx
  unfold endBlock
  have key : ∀ (ks : List Nat), (∀ k ∈ ks, geti x.xb k = 0) →
      ks.foldl (fun acc k => applyPrim acc (.burn (.x k))) (s, x) = (s, x) := by
    intro ks
    induction ks with
    | nil => intro _; rfl
    | cons k ks ih =>
      intro hk
      simp only [List.foldl_cons]
      rw [burn_empty s x k (hk k (by simp))]
      exact ih (fun j hj => hk j (by simp [hj]))
  simp only [key x.killed h]

theorem foldl_applyPrims_flatten (txs : List (List Prim)) (sx : St × XS) :
    txs.foldl applyPrims sx = applyPrims sx txs.flatten := by
  induction txs generalizing sx with
  | nil => rfl
  | cons t ts ih =>
    simp only [List.foldl_cons, List.flatten_cons, applyPrims, List.foldl_append]
    exact ih _

/-- what C06 demands of a block of contract movements: in-range moves and SELFDESTRUCT marks conserve the native total -/
def C06X_block_statement : Prop :=
  ∀ (txs : List (List Prim)) (s : St) (x : XS), AllMoves s x txs.flatten →
    nativeTotal (applyBlock (s, x) txs).1 (applyBlock (s, x) txs).2 = nativeTotal s x

/-- **C06 over blocks of contract movements (partial).**  Conservation for every block in which no destroyed instance holds
anything at the end of the block — i.e. without a payment that an instance received, and kept, after an earlier transaction
of the same block destroyed it.  The full statement is false of the model (which mirrors the code): `C06X_block_counterexample`. -/
theorem C06X_block_partial (txs : List (List Prim)) (s : St) (x : XS) (h : AllMoves s x txs.flatten)
    (hd : DeadEmpty (txs.foldl applyPrims (s, x))) :
    nativeTotal (applyBlock (s, x) txs).1 (applyBlock (s, x) txs).2 = nativeTotal s x ∧
    tokenTotal (applyBlock (s, x) txs).1 (applyBlock (s, x) txs).2 = tokenTotal s x := by
  unfold applyBlock
  rw [endBlock_of_deadEmpty _ hd, foldl_applyPrims_flatten]
  exact applyPrims_conserves txs.flatten s x h

/-- the known finding's witness: instance 0 (bucket 3) is destroyed in favour of account 2 by the first transaction; the second
transaction of the block pays it 77 -/
def wit_s : St := { bal := [1000, 1000, 1000], tok := [0, 0, 0], nonce := [1, 0, 0], sbal := [1000, 1000, 1000], stok := [0, 0, 0], snonce := [1, 0, 0] }
def wit_x : XS := { xb := [0, 0, 0, 0], xt := [0, 0, 0, 0], rx := [0, 0, 0, 0] }
def wit_block : List (List Prim) :=
  [[.move false (.acct 0) (.x 3) (some 0), .move false (.x 3) (.acct 2) none, .kill (.x 3)],
   [.move false (.acct 1) (.x 3) (some 77)]]

/-- 77 units are destroyed, and the balance records keep crediting them (`rx`) -/
theorem wit_effect : nativeTotal (applyBlock (wit_s, wit_x) wit_block).1 (applyBlock (wit_s, wit_x) wit_block).2 = nativeTotal wit_s wit_x - 77 ∧
    (applyBlock (wit_s, wit_x) wit_block).2.rx = [0, 0, 0, 77] ∧ (applyBlock (wit_s, wit_x) wit_block).1.bal = [1000, 923, 1000] := by decide

theorem C06X_block_counterexample : ¬ C06X_block_statement := by
  intro h
  have := h wit_block wit_s wit_x (by decide)
  revert this; decide

/-- the hypothesis of the partial theorem is exactly what the witness violates; without the payment it holds -/
example : ¬ DeadEmpty (wit_block.foldl applyPrims (wit_s, wit_x)) := by decide
example : DeadEmpty ((wit_block.take 1).foldl applyPrims (wit_s, wit_x)) := by decide
example : nativeTotal (applyBlock (wit_s, wit_x) (wit_block.take 1)).1 (applyBlock (wit_s, wit_x) (wit_block.take 1)).2 = nativeTotal wit_s wit_x := by decide

/-- what C06 would demand of arbitrary contract movements: every primitive list conserves the native total -/
def X_statement_unrestricted : Prop :=
  ∀ (ps : List Prim) (s : St) (x : XS), nativeTotal (applyPrims (s, x) ps).1 (applyPrims (s, x) ps).2 = nativeTotal s x

def cx_s : St := { bal := [100], tok := [0], nonce := [0], sbal := [100], stok := [0], snonce := [0] }
def cx_x : XS := { xb := [0, 0, 0, 7], xt := [0, 0, 0, 0], rx := [0, 0, 0, 0] }

/-- a contract holding 7 destroys itself in its own favour: 7 are gone (the designed exception of the property) -/
theorem X_counterexample : ¬ X_statement_unrestricted := by
  intro h
  have := h [.burn (.x 3)] cx_s cx_x
  revert this; decide

/-- the same without the in-range hypothesis: value moved to a bucket that is not observed is lost -/
def X_statement_moves_any_range : Prop :=
  ∀ (tok : Bool) (src dst : Bk) (amt : Option Int) (s : St) (x : XS),
    nativeTotal (applyPrim (s, x) (.move tok src dst amt)).1 (applyPrim (s, x) (.move tok src dst amt)).2 = nativeTotal s x

theorem X_counterexample_range : ¬ X_statement_moves_any_range := by
  intro h
  have := h false (.acct 0) (.x 9) (some 5) cx_s cx_x
  revert this; decide

/-! ## non-vacuity: the movements the driver books -/

/-- account 0 sends 40 to instance 0 (bucket 3), which then pays everything it holds (7 + 40) to beneficiary 1 (bucket 2) -/
def nv_ps : List Prim := [.move false (.acct 0) (.x 3) (some 40), .move false (.x 3) (.x 2) none]

example : AllMoves cx_s cx_x nv_ps := by decide
example : (applyPrims (cx_s, cx_x) nv_ps).2.xb = [0, 0, 47, 0] ∧ (applyPrims (cx_s, cx_x) nv_ps).1.bal = [60] := by decide
example : nativeTotal (applyPrims (cx_s, cx_x) nv_ps).1 (applyPrims (cx_s, cx_x) nv_ps).2 = nativeTotal cx_s cx_x := by decide
/-- SELFDESTRUCT in its own favour after receiving 40: 47 destroyed, and the record surplus `rx` remembers them -/
example : nativeTotal (applyPrims (cx_s, cx_x) [.move false (.acct 0) (.x 3) (some 40), .burn (.x 3)]).1
      (applyPrims (cx_s, cx_x) [.move false (.acct 0) (.x 3) (some 40), .burn (.x 3)]).2 = nativeTotal cx_s cx_x - 47 ∧
    (applyPrims (cx_s, cx_x) [.move false (.acct 0) (.x 3) (some 40), .burn (.x 3)]).2.rx = [0, 0, 0, 47] := by decide

end Props.C06X
