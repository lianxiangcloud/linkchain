/-
C01 (layer L-A): agreement for the abstract protocol model `Model.Protocol`.

If a merged history satisfies the voting discipline `disciplined` (d0-d4, checked for correct
validators only) and the Byzantine validators hold less than one third of the power, then no two
correct validators decide different values.  Core Lean only.
-/
import LinkVerif.Model.Protocol

namespace Props.C01
open Model.Protocol

theorem pow_or_and (c : Cfg) (p q : Val → Bool) :
    pow c p + pow c q = pow c (fun n => p n || q n) + pow c (fun n => p n && q n) := by
  unfold pow
  induction c.vals with
  | nil => rfl
  | cons a l ih =>
    simp only [List.filter_cons]
    cases p a <;> cases q a <;>
      simp only [Bool.or_self, Bool.and_self, Bool.or_true, Bool.or_false, Bool.and_true,
        Bool.and_false, Bool.false_eq_true, if_true, if_false, List.map_cons, List.sum_cons]
    · exact ih
    · rw [Nat.add_left_comm, ih, Nat.add_assoc]
    · rw [Nat.add_assoc, ih, Nat.add_assoc]
    · rw [Nat.add_add_add_comm, ih, Nat.add_add_add_comm]

theorem pow_mono (c : Cfg) (p q : Val → Bool)
    (hpq : ∀ n, n ∈ c.vals → p n = true → q n = true) : pow c p ≤ pow c q := by
  unfold pow
  revert hpq
  induction c.vals with
  | nil => exact fun _ => Nat.le_refl _
  | cons a l ih =>
    intro hpq
    have ih' := ih fun n hn => hpq n (List.mem_cons_of_mem a hn)
    simp only [List.filter_cons]
    cases hp : p a
    · cases q a
      · exact ih'
      · exact Nat.le_trans ih' (Nat.le_add_left _ _)
    · rw [hpq a List.mem_cons_self hp]
      exact Nat.add_le_add_left ih' _

theorem pow_le_total (c : Cfg) (p : Val → Bool) : pow c p ≤ total c :=
  pow_mono c p (fun _ => true) (fun _ _ _ => rfl)

theorem quorum_mono (c : Cfg) {p q : Val → Bool} (hpq : ∀ n, n ∈ c.vals → p n = true → q n = true)
    (hp : 3 * pow c p > 2 * total c) : 3 * pow c q > 2 * total c :=
  Nat.lt_of_lt_of_le hp (Nat.mul_le_mul_left 3 (pow_mono c p q hpq))

theorem quorum_intersection (c : Cfg) (p q : Val → Bool) (hb : byzBound c)
    (hp : 3 * pow c p > 2 * total c) (hq : 3 * pow c q > 2 * total c) :
    ∃ n, n ∈ c.vals ∧ p n = true ∧ q n = true ∧ c.byz n = false := by
  apply Classical.byContradiction
  intro hne
  -- otherwise the intersection is Byzantine and weighs less than a third, too little for two quorums to share
  have h1 := pow_mono c (fun n => p n && q n) c.byz fun n hn hpq =>
    Bool.of_not_eq_false fun hbz =>
      hne ⟨n, hn, (Bool.and_eq_true_iff.1 hpq).1, (Bool.and_eq_true_iff.1 hpq).2, hbz⟩
  have h2 := pow_or_and c p q
  have h3 := pow_le_total c (fun n => p n || q n)
  unfold byzBound at hb
  omega

theorem quorum_has_correct (c : Cfg) (p : Val → Bool) (hb : byzBound c)
    (hp : 3 * pow c p > 2 * total c) :
    ∃ n, n ∈ c.vals ∧ p n = true ∧ c.byz n = false := by
  obtain ⟨n, hn, h1, _, h3⟩ := quorum_intersection c p p hb hp hp
  exact ⟨n, hn, h1, h3⟩

theorem prevoted_iff {h : List Event} {r : Round} {v : Option Value} {n : Val} :
    prevoted h r v n = true ↔ Event.prevote n r v ∈ h :=
  List.contains_iff_mem

theorem precommitted_iff {h : List Event} {r : Round} {v : Option Value} {n : Val} :
    precommitted h r v n = true ↔ Event.precommit n r v ∈ h :=
  List.contains_iff_mem

theorem polka_iff {c : Cfg} {h : List Event} {r : Round} {v : Option Value} :
    polka c h r v = true ↔ 3 * pow c (prevoted h r v) > 2 * total c :=
  decide_eq_true_iff

theorem commitQuorum_iff {c : Cfg} {h : List Event} {r : Round} {b : Value} :
    commitQuorum c h r b = true ↔ 3 * pow c (precommitted h r (some b)) > 2 * total c :=
  decide_eq_true_iff

section
variable {c : Cfg} {h h' p rest : List Event} {e : Event} {m n n' : Val} {r r' r'' : Round}
  {v v' w : Option Value} {b b' : Value}

theorem polka_mono (hs : ∀ e, e ∈ h → e ∈ h') (hp : polka c h r v = true) : polka c h' r v = true :=
  polka_iff.2 (quorum_mono c (fun _ _ hn => prevoted_iff.2 (hs _ (prevoted_iff.1 hn))) (polka_iff.1 hp))

theorem commitQuorum_mono (hs : ∀ e, e ∈ h → e ∈ h') (hp : commitQuorum c h r b = true) :
    commitQuorum c h' r b = true :=
  commitQuorum_iff.2
    (quorum_mono c (fun _ _ hn => precommitted_iff.2 (hs _ (precommitted_iff.1 hn))) (commitQuorum_iff.1 hp))

theorem eventOk_of_splitFrom {q : List Event} (hd : disciplinedFrom c q (p ++ e :: rest) = true) :
    eventOk c (q ++ p) e = true := by
  induction p generalizing q with
  | nil =>
    rw [List.append_nil]
    exact (Bool.and_eq_true_iff.1 hd).1
  | cons a p ih =>
    rw [List.append_cons]
    exact ih (Bool.and_eq_true_iff.1 hd).2

theorem eventOk_of_split (hd : disciplined c h = true) (hs : h = p ++ e :: rest) :
    eventOk c p e = true := by
  subst hs
  exact eventOk_of_splitFrom (q := []) hd

theorem eventOk_prevote_iff (hm : c.byz m = false) :
    eventOk c p (.prevote m r w) = true ↔
      noLaterRound p m r = true ∧ anyPrevoteAt p m r = false ∧ lockRespected c p m r w = true := by
  simp only [eventOk, hm, Bool.false_or, Bool.and_eq_true, Bool.not_eq_true', and_assoc]

theorem eventOk_precommit_iff (hm : c.byz m = false) :
    eventOk c p (.precommit m r v) = true ↔
      noLaterRound p m r = true ∧ anyPrecommitAt p m r = false ∧ ∀ b, v = some b → polka c p r v = true := by
  cases v with
  | none =>
    simp only [eventOk, hm, Bool.false_or, Bool.and_eq_true, Bool.not_eq_true', and_assoc, reduceCtorEq, false_imp_iff,
      implies_true]
  | some b =>
    simp only [eventOk, hm, Bool.false_or, Bool.and_eq_true, Bool.not_eq_true', and_assoc, Option.some.injEq, forall_eq']

theorem eventOk_decide_iff (hm : c.byz m = false) :
    eventOk c p (.decide m r b) = true ↔ commitQuorum c p r b = true := by
  simp only [eventOk, hm, Bool.false_or]

theorem mem_split_cases {x y : Event} (hs : h = p ++ x :: rest) (hy : y ∈ h) :
    y ∈ p ∨ y = x ∨ ∃ q t, h = q ++ y :: t ∧ x ∈ q := by
  rw [hs, List.mem_append, List.mem_cons] at hy
  refine hy.imp_right (Or.imp_right fun hy => ?_)
  obtain ⟨s, t, rfl⟩ := List.append_of_mem hy
  exact ⟨p ++ x :: s, t, by rw [hs, List.append_assoc, List.cons_append],
    List.mem_append_right p List.mem_cons_self⟩

/-- d0 unpacked, for an earlier prevote -/
theorem prevote_round_le (h0 : noLaterRound p n r = true) (hm : Event.prevote n r' w ∈ p) :
    r' ≤ r := by
  unfold noLaterRound at h0
  have := List.all_eq_true.1 h0 _ hm
  simpa using this

/-- d0 used in the direction the agreement proof needs: the precommit of a correct validator at a
round below one of its prevotes lies before that prevote -/
theorem precommit_before_prevote (hd : disciplined c h = true) (hm : c.byz m = false)
    (hs : h = p ++ Event.prevote m r'' w :: rest) (hlt : r < r'')
    (hpc : Event.precommit m r v ∈ h) : Event.precommit m r v ∈ p := by
  rcases mem_split_cases hs hpc with hpc | hpc | ⟨q, t, hs', hq⟩
  · exact hpc
  · cases hpc
  · -- otherwise the prevote lies before the precommit, at a higher round
    obtain ⟨h0, _⟩ := (eventOk_precommit_iff hm).1 (eventOk_of_split hd hs')
    exact absurd hlt (Nat.not_lt.2 (prevote_round_le h0 hq))

theorem anyPrecommitAt_of_mem (hm : Event.precommit n r v ∈ p) : anyPrecommitAt p n r = true := by
  unfold anyPrecommitAt
  apply List.any_eq_true.2
  exact ⟨_, hm, by simp⟩

/-- d1 for precommits, one ordering: a correct validator's precommit is not preceded by another of
its precommits at the same round -/
theorem no_second_precommit (hd : disciplined c h = true) (hm : c.byz m = false)
    (hs : h = p ++ Event.precommit m r v :: rest) (hp : Event.precommit m r v' ∈ p) : False := by
  obtain ⟨_, h1, _⟩ := (eventOk_precommit_iff hm).1 (eventOk_of_split hd hs)
  exact Bool.false_ne_true (h1.symm.trans (anyPrecommitAt_of_mem hp))

/-- d1: a correct validator precommits at most one value per round -/
theorem precommit_unique (hd : disciplined c h = true) (hm : c.byz m = false)
    (h1 : Event.precommit m r v ∈ h) (h2 : Event.precommit m r v' ∈ h) : v = v' := by
  obtain ⟨p, rest, hs⟩ := List.append_of_mem h1
  rcases mem_split_cases hs h2 with hp | hp | ⟨q, t, hs', hq⟩
  · exact (no_second_precommit hd hm hs hp).elim
  · cases hp; rfl
  · exact (no_second_precommit hd hm hs' hq).elim

/-- d2: a correct validator's precommit for a block is backed by a polka in the history -/
theorem polka_of_precommit (hd : disciplined c h = true) (hm : c.byz m = false)
    (h1 : Event.precommit m r (some b) ∈ h) : polka c h r (some b) = true := by
  obtain ⟨p, rest, hs⟩ := List.append_of_mem h1
  obtain ⟨_, _, hpol⟩ := (eventOk_precommit_iff hm).1 (eventOk_of_split hd hs)
  rw [hs]
  exact polka_mono (fun _ => List.mem_append_left _) (hpol b rfl)

/-- d4: a correct validator's decision is backed by a commit quorum in the history -/
theorem commitQuorum_of_decide (hd : disciplined c h = true) (hm : c.byz m = false)
    (h1 : Event.decide m r b ∈ h) : commitQuorum c h r b = true := by
  obtain ⟨p, rest, hs⟩ := List.append_of_mem h1
  have hq := (eventOk_decide_iff hm).1 (eventOk_of_split hd hs)
  rw [hs]
  exact commitQuorum_mono (fun _ => List.mem_append_left _) hq

/-- d3 unpacked: the unlocking polka demanded from a correct validator that prevotes against an
earlier precommit of its own -/
theorem unlocking_of_lock (hl : lockRespected c p m r'' w = true)
    (hpc : Event.precommit m r (some b) ∈ p) (hlt : r < r'') (hw : w ≠ some b) :
    ∃ r1 v1, r < r1 ∧ r1 ≤ r'' ∧ v1 ≠ some b ∧ polka c p r1 v1 = true := by
  unfold lockRespected at hl
  have h1 := List.all_eq_true.1 hl _ hpc
  have hcond : (m == m && decide (r < r'') && (w != some b)) = true := by
    simp [hlt, hw]
  simp only [hcond, if_true] at h1
  unfold unlockingPolka at h1
  obtain ⟨e, _, he⟩ := List.any_eq_true.1 h1
  cases e with
  | prevote m1 r1 v1 =>
    simp only [Bool.and_eq_true, decide_eq_true_eq, bne_iff_ne, ne_eq] at he
    exact ⟨r1, v1, he.1.1.1, he.1.1.2, he.1.2, he.2⟩
  | precommit _ _ _ => cases he
  | decide _ _ _ => cases he

/-- Once a block has a commit quorum at round `r`, no prefix of the history has a polka for anything else at a later round.
Such a polka would contain a correct member of the commit quorum; its precommit lies before its prevote (d0), so d3 demands
a polka of the same kind among the events before that prevote: a shorter prefix. -/
theorem no_foreign_polka_prefix (hd : disciplined c h = true) (hb : byzBound c)
    (hq : commitQuorum c h r b = true) (p rest : List Event) (hs : h = p ++ rest)
    (hr : r < r'') (hv : v ≠ some b) : polka c p r'' v = false := by
  induction hn : p.length using Nat.strongRecOn generalizing p rest r'' v with
  | ind k ih =>
    apply Bool.eq_false_iff.2
    intro hpol
    obtain ⟨m, _, hm1, hm2, hm⟩ :=
      quorum_intersection c _ _ hb (polka_iff.1 hpol) (commitQuorum_iff.1 hq)
    obtain ⟨p1, s, hp⟩ := List.append_of_mem (prevoted_iff.1 hm1)
    have hs1 : h = p1 ++ Event.prevote m r'' v :: (s ++ rest) := by
      rw [hs, hp, List.append_assoc, List.cons_append]
    have hpc := precommit_before_prevote hd hm hs1 hr (precommitted_iff.1 hm2)
    obtain ⟨_, _, hl⟩ := (eventOk_prevote_iff hm).1 (eventOk_of_split hd hs1)
    obtain ⟨r1, v1, hlo, _, hv1, hpol1⟩ := unlocking_of_lock hl hpc hr hv
    have hlen : p1.length < k := by
      rw [← hn, hp, List.length_append, List.length_cons]
      omega
    exact Bool.eq_false_iff.1 (ih _ hlen p1 _ hs1 hlo hv1 rfl) hpol1

theorem no_foreign_polka (c : Cfg) (h : List Event) (hd : disciplined c h = true)
    (hb : byzBound c) (r : Round) (b : Value) (hq : commitQuorum c h r b = true) :
    ∀ r'', r < r'' → ∀ v'', v'' ≠ some b → polka c h r'' v'' = false :=
  fun _ hr _ hv => no_foreign_polka_prefix hd hb hq h [] (List.append_nil h).symm hr hv

theorem agreement_le (hd : disciplined c h = true) (hb : byzBound c)
    (hn : c.byz n = false) (hn' : c.byz n' = false)
    (h1 : Event.decide n r b ∈ h) (h2 : Event.decide n' r' b' ∈ h) (hle : r ≤ r') : b = b' := by
  have hq := commitQuorum_of_decide hd hn h1
  have hq' := commitQuorum_of_decide hd hn' h2
  rcases Nat.lt_or_eq_of_le hle with hlt | rfl
  · -- different rounds: a correct precommitter of b' at r' saw a polka for b'
    obtain ⟨m, _, hm1, hmb⟩ := quorum_has_correct c _ hb (commitQuorum_iff.1 hq')
    have hpol := polka_of_precommit hd hmb (precommitted_iff.1 hm1)
    apply Classical.byContradiction
    intro hne
    have := no_foreign_polka c h hd hb r b hq r' hlt (some b') fun heq => hne (Option.some.inj heq).symm
    rw [hpol] at this
    cases this
  · -- same round: the two commit quorums share a correct validator, which precommits once
    obtain ⟨m, _, hm1, hm2, hmb⟩ :=
      quorum_intersection c _ _ hb (commitQuorum_iff.1 hq) (commitQuorum_iff.1 hq')
    exact Option.some.inj (precommit_unique hd hmb (precommitted_iff.1 hm1) (precommitted_iff.1 hm2))

/-- C01, layer L-A: in a disciplined history with less than a third of Byzantine power, two
correct validators never decide differently -/
theorem agreement (c : Cfg) (h : List Event) (hd : disciplined c h = true) (hb : byzBound c)
    (n n' : Val) (r r' : Round) (b b' : Value) (hn : c.byz n = false) (hn' : c.byz n' = false)
    (h1 : Event.decide n r b ∈ h) (h2 : Event.decide n' r' b' ∈ h) : b = b' := by
  rcases Nat.le_total r r' with hle | hle
  · exact agreement_le hd hb hn hn' h1 h2 hle
  · exact (agreement_le hd hb hn' hn h2 h1 hle).symm

theorem mem_decisions (hm : b ∈ decisions c h) :
    ∃ n r, c.byz n = false ∧ Event.decide n r b ∈ h := by
  unfold decisions at hm
  obtain ⟨e, he, hf⟩ := List.mem_filterMap.1 hm
  cases e with
  | prevote _ _ _ => cases hf
  | precommit _ _ _ => cases hf
  | decide n r v =>
    cases hbz : c.byz n
    · simp only [hbz, Bool.false_eq_true, if_false, Option.some.injEq] at hf
      subst hf
      exact ⟨n, r, hbz, he⟩
    · simp [hbz] at hf

/-- the executable agreement monitor never fires on a disciplined history -/
theorem agreement_monitor (c : Cfg) (h : List Event) (hd : disciplined c h = true)
    (hb : byzBound c) : agree c h = true := by
  unfold agree
  cases hdec : decisions c h with
  | nil => rfl
  | cons b rest =>
    refine List.all_eq_true.2 fun x hx => beq_iff_eq.2 ?_
    obtain ⟨n, r, hn, h1⟩ := mem_decisions (hdec ▸ List.mem_cons_of_mem b hx)
    obtain ⟨n', r', hn', h2⟩ := mem_decisions (hdec ▸ List.mem_cons_self (a := b))
    exact agreement c h hd hb n n' r r' x b hn hn' h1 h2

end

/-- four validators of power 1; validator 3 is Byzantine -/
def exCfg : Cfg := { vals := [0, 1, 2, 3], power := fun _ => 1, byz := fun n => n == 3 }

/-- Round 0: everybody prevotes block 7 (the Byzantine validator 3 also prevotes 8), but only
validator 0 sees the polka in time and precommits 7 (locking on it); 1 and 2 precommit nil and
validator 3 precommits both 7 and 8, so there is no commit quorum.  Round 1: block 7 again gets a
polka, all correct validators precommit it and decide it. -/
def exHist : List Event :=
  [ .prevote 0 0 (some 7), .prevote 1 0 (some 7), .prevote 3 0 (some 7), .prevote 3 0 (some 8),
    .prevote 2 0 (some 7),
    .precommit 0 0 (some 7), .precommit 1 0 none, .precommit 2 0 none,
    .precommit 3 0 (some 7), .precommit 3 0 (some 8),
    .prevote 0 1 (some 7), .prevote 1 1 (some 7), .prevote 2 1 (some 7),
    .prevote 3 1 (some 8), .prevote 3 1 (some 7),
    .precommit 0 1 (some 7), .precommit 1 1 (some 7), .precommit 3 1 (some 8),
    .precommit 2 1 (some 7),
    .decide 0 1 7, .decide 1 1 7, .decide 3 1 8, .decide 2 1 7 ]

theorem exCfg_byzBound : byzBound exCfg := by decide

theorem exHist_disciplined : disciplined exCfg exHist = true := by decide +kernel

/-- the correct validators do decide in the example (and the Byzantine one "decides" otherwise) -/
theorem exHist_decisions : decisions exCfg exHist = [7, 7, 7] := by decide

theorem exHist_agree : agree exCfg exHist = true :=
  agreement_monitor exCfg exHist exHist_disciplined exCfg_byzBound

/-- the hypotheses of `agreement` are jointly satisfiable by a history in which two distinct correct
validators decide in the presence of an equivocating Byzantine validator -/
theorem agreement_nonvacuous :
    ∃ c h, disciplined c h = true ∧ byzBound c ∧
      ∃ n n' r r' b b', n ≠ n' ∧ c.byz n = false ∧ c.byz n' = false ∧
        Event.decide n r b ∈ h ∧ Event.decide n' r' b' ∈ h ∧
        (∃ m r v v', c.byz m = true ∧ v ≠ v' ∧ Event.prevote m r v ∈ h ∧ Event.prevote m r v' ∈ h) :=
  ⟨exCfg, exHist, exHist_disciplined, exCfg_byzBound, 0, 2, 1, 1, 7, 7, by decide, by decide,
    by decide, by decide, by decide, 3, 0, some 7, some 8, by decide, by decide, by decide, by decide⟩

/-- A second disciplined history, exercising the releasing branch of d3: validator 0 locks on block 7
in round 0 (nobody else precommits it); in round 1 block 8 gets a polka from 1, 2 and 3, after which
validator 0 may (and does) prevote 8 against its lock; everybody precommits and decides 8. -/
def exUnlockHist : List Event :=
  [ .prevote 0 0 (some 7), .prevote 1 0 (some 7), .prevote 2 0 (some 7), .prevote 3 0 (some 7),
    .precommit 0 0 (some 7), .precommit 1 0 none, .precommit 2 0 none, .precommit 3 0 none,
    .prevote 1 1 (some 8), .prevote 2 1 (some 8), .prevote 3 1 (some 8), .prevote 0 1 (some 8),
    .precommit 0 1 (some 8), .precommit 1 1 (some 8), .precommit 2 1 (some 8),
    .decide 0 1 8, .decide 1 1 8, .decide 2 1 8 ]

theorem exUnlockHist_disciplined :
    disciplined exCfg exUnlockHist = true ∧ decisions exCfg exUnlockHist = [8, 8, 8] ∧
      unlockingPolka exCfg (exUnlockHist.take 11) 7 0 1 = true ∧
      -- without the polka (one prevote earlier) the same prevote would break d3
      lockRespected exCfg (exUnlockHist.take 10) 0 1 (some 8) = false := by decide +kernel

/-- the events of `h` that break the discipline, each with the index at which it occurs -/
def violationsFrom (c : Cfg) : List Event → List Event → List (Nat × Event)
  | _, [] => []
  | p, e :: rest =>
    (if eventOk c p e then [] else [(p.length, e)]) ++ violationsFrom c (p ++ [e]) rest

/-- Round 0: block 7 gets a polka; validators 0, 1 and the Byzantine 3 precommit it, validator 0 sees
the commit quorum and decides 7, validator 2 times out (precommits nil).  Round 1: validator 1,
although locked on 7 and without any polka to release it, prevotes 8 (breaking d3) together with 2
and 3; block 8 gets a polka and a commit quorum and validator 2 decides 8. -/
def badHist : List Event :=
  [ .prevote 0 0 (some 7), .prevote 1 0 (some 7), .prevote 2 0 (some 7), .prevote 3 0 (some 7),
    .precommit 0 0 (some 7), .precommit 1 0 (some 7), .precommit 3 0 (some 7), .precommit 2 0 none,
    .decide 0 0 7,
    .prevote 1 1 (some 8), .prevote 2 1 (some 8), .prevote 3 1 (some 8),
    .precommit 1 1 (some 8), .precommit 2 1 (some 8), .precommit 3 1 (some 8),
    .decide 2 1 8 ]

/-- With `byzBound` true and a single violation of d3 by a single correct validator (event 9: it
respects d0 and d1, nobody equivocates, every other event of the history is fine) two correct
validators decide differently: the discipline hypothesis of `agreement` is not decorative. -/
theorem discipline_needed :
    byzBound exCfg ∧
    violationsFrom exCfg [] badHist = [(9, Event.prevote 1 1 (some 8))] ∧
    exCfg.byz 1 = false ∧
    noLaterRound (badHist.take 9) 1 1 = true ∧
    anyPrevoteAt (badHist.take 9) 1 1 = false ∧
    lockRespected exCfg (badHist.take 9) 1 1 (some 8) = false ∧
    disciplined exCfg badHist = false ∧
    decisions exCfg badHist = [7, 8] ∧
    agree exCfg badHist = false := by decide +kernel

/-- `violationsFrom` is empty exactly on disciplined histories (so the example above really has one
broken event and nothing else wrong) -/
theorem violationsFrom_nil_iff (c : Cfg) (h : List Event) :
    ∀ p, violationsFrom c p h = [] ↔ disciplinedFrom c p h = true := by
  induction h with
  | nil => intro p; simp [violationsFrom, disciplinedFrom]
  | cons e rest ih =>
    intro p
    simp only [violationsFrom, disciplinedFrom, List.append_eq_nil_iff, Bool.and_eq_true, ih]
    cases eventOk c p e <;> simp

end Props.C01
