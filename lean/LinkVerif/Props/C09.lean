/-
C09 — State snapshots revert exactly and state copies are fully independent.

The tree today: `deepCopy` clones the Tokens map (fix 9e64f31), `SetTokenBalance` still inserts an un-journalled zero entry:
`Cfg.current = { cloneTokens := true, journalAbsent := false }`; `treeCfg` is the same configuration built from the facts
re-extracted from the tree on every run (what the driver executes), and `treeCfg_eq_current` checks they agree — reverting the
fix breaks that theorem (and the harness monitor `copy_independent` fires).

Clause 1 (revert) — TRUE of the current tree:
    `C09_revert_tree` = `revert_exact_any_ns`/`revert_exact_ns` for `treeCfg`: snapshot; ANY sequence of mutators, snapshots and
    reverts to ARBITRARY ids; the outer revert panics (id consumed) or restores every observable; with inner reverts confined to
    inner snapshots it succeeds.  Only side condition: non-negative balances where `Suicide` runs (`SafeNN`) — it cannot be
    dropped: `C09_revert_unconditional_counterexample` (suicideChange forgets non-positive balances).
    General versions for any Cfg, any state (shared cells allowed, then `Safe` also asks for a private map at Suicide):
    `revert_exact`, `revert_exact_any`.
Secondary observable (root) — FALSE of the current tree: `C09_root_counterexample` (known finding
    revert-leaves-zero-token-entry: the un-journalled zero entry is encoded); equal on the same witness for `Cfg.repaired`.
Clause 2 (copies) — TRUE of the current tree:
    `C09_copy_tree : C09_copy_statement treeCfg` = `world_independent`: in a world of any number of states built by Copy from a
    fresh state, a history of mutators, snapshots, reverts, Finalise, Commit and Copy on any handles changes no observable of a
    handle it does not target.  Rests on `NS` (no shared token-map cell), preserved by every operation (Props/C09Copy.lean).
    `C09_copy_pinned_counterexample` keeps the refutation for the pinned tree (`Cfg.pinned`, before the fix) as a regression
    witness: it is what a revert of 9e64f31 would make true of the code again.
Not covered by Copy (known finding copy-misses-reset-object): a `CreateAccount` over an existing clean account is not dirty, so
    the copy starts from the OLD account; this is a statement about the copy's INITIAL observables, not about independence, and
    the model mirrors it (checked by the correspondence run and the `copy_faithful` monitor).
-/
import LinkVerif.Props.C09World
import LinkVerif.Props.C09Journal
import LinkVerif.Props.C09Blocks
import LinkVerif.Gen.C09Facts

namespace Props.C09
open Model.StateDB

def emptyCtx : Ctx := { heap := fun _ => emptyToks, nextRef := 0, st := State.empty }

theorem WF_empty : WF emptyCtx.st := by
  intro a o h; simp [emptyCtx, State.empty] at h

/-- the clause as the property states it, with no side condition on the operations -/
def C09_revert_unconditional (cfg : Cfg) : Prop :=
  ∀ (c : Ctx), WF c.st → (∀ p ∈ c.st.revs, p.1 < c.st.nextRev) → ∀ steps : List Step, WellNested (snapshot c).2 steps →
    ∃ c2, revertTo (run cfg (snapshot c).1 steps) (snapshot c).2 = some c2 ∧ obs c2 = obs c

/-- what is proved: the same with `Safe` (a condition only where `Suicide` runs) -/
def C09_revert_statement (cfg : Cfg) : Prop :=
  ∀ (c : Ctx), WF c.st → (∀ p ∈ c.st.revs, p.1 < c.st.nextRev) → ∀ steps : List Step,
    Safe cfg (snapshot c).1 steps → WellNested (snapshot c).2 steps →
    ∃ c2, revertTo (run cfg (snapshot c).1 steps) (snapshot c).2 = some c2 ∧ obs c2 = obs c

theorem C09_revert (cfg : Cfg) : C09_revert_statement cfg :=
  fun c hw hB steps hs hn => revert_exact cfg c hw hB steps hs hn

/-- a state in which account 0 has balance −1 (reachable only through an unguarded `SubBalance`/`SetBalance`) -/
def negCtx : Ctx := applyOp Cfg.current emptyCtx (.setBal 0 (-1))

/-- `suicideChange` remembers only strictly positive balances: Snapshot; Suicide; Revert turns a negative balance into 0.
So the side condition of `revert_exact` cannot be dropped. -/
theorem C09_revert_unconditional_counterexample : ¬ C09_revert_unconditional Cfg.current := by
  intro h
  have hB : ∀ p ∈ negCtx.st.revs, p.1 < negCtx.st.nextRev := by
    unfold negCtx
    rw [(applyOp_frame _ _ _).revs]
    intro p hp; cases hp
  obtain ⟨c2, h1, h2⟩ := h negCtx (WF_applyOp _ _ _ WF_empty) hB [.op (.suicide 0)] trivial
  have e1 : ((obs negCtx).acct 0).map (·.balance) = some (-1) := by decide
  have e2 : (revertTo (run Cfg.current (snapshot negCtx).1 [.op (.suicide 0)]) (snapshot negCtx).2).map
      (fun c => ((obs c).acct 0).map (·.balance)) = some (some 0) := by decide
  rw [h1, Option.map_some, h2, e1] at e2
  exact absurd e2 (by decide)

/-- non-vacuity of `revert_exact`: a concrete history satisfying every hypothesis, with a nested snapshot, a nested revert,
a suicide, and an effect that the outer revert really undoes -/
def demoSteps : List Step :=
  [.op (.addTok 1 1 5), .snap, .op (.setNonce 1 7), .op (.setState 1 2 [1]), .revert 1, .op (.addBal 2 3), .op (.suicide 1)]

example : WellNested (snapshot emptyCtx).2 demoSteps := by simp [WellNested, demoSteps, snapshot, emptyCtx, State.empty]
example : ((obs (run Cfg.current (snapshot emptyCtx).1 demoSteps)).acct 2).map (·.balance) = some 3 := by decide
example : ((obs emptyCtx).acct 2).map (·.balance) = none := by decide

/-- revert also restores what the account trie will commit to -/
def C09_root_statement (cfg : Cfg) : Prop :=
  ∀ (c : Ctx) (steps : List Step) (c2 : Ctx), WF c.st → Safe cfg (snapshot c).1 steps → WellNested (snapshot c).2 steps →
    revertTo (run cfg (snapshot c).1 steps) (snapshot c).2 = some c2 →
    rootContent (finalise false c2).st = rootContent (finalise false c).st

def rootWitness : Ctx := applyOp Cfg.current emptyCtx (.addBal 1 5)
def rootWitnessSteps : List Step := [.op (.addTok 1 1 7)]

/-- the token maps inside the trie content (a projection of `rootContent`) -/
def tokContent (s : State) : List (Option (List (Option Int))) :=
  addrU.map (fun a => (s.trie a).map (fun acc => tokU.map acc.tokens))

theorem tokContent_of_rootContent (s : State) : tokContent s = (rootContent s).map (Option.map (fun x => x.2.2.2.1)) := by
  simp [tokContent, rootContent, List.map_map, Function.comp_def, Option.map_map]

/-- the token part of the root after Snapshot; AddTokenBalance on a token the account does not hold; Revert; Finalise -/
def rootAfter (cfg : Cfg) : Option (List (Option (List (Option Int)))) :=
  (revertTo (run cfg (snapshot rootWitness).1 rootWitnessSteps) (snapshot rootWitness).2).map (fun c2 => tokContent (finalise false c2).st)

theorem rootAfter_current_ne : rootAfter Cfg.current ≠ some (tokContent (finalise false rootWitness).st) := by decide

/-- with the repaired journal entry (remember absence, delete on revert) the same history restores it -/
theorem rootAfter_repaired_eq : rootAfter Cfg.repaired = some (tokContent (finalise false rootWitness).st) := by decide

/-- **known finding `revert-leaves-zero-token-entry`**: the un-journalled `Tokens[token] = 0` survives the revert and is encoded -/
theorem C09_root_counterexample : ¬ C09_root_statement Cfg.current := by
  intro h
  cases hr : revertTo (run Cfg.current (snapshot rootWitness).1 rootWitnessSteps) (snapshot rootWitness).2 with
  | none =>
    have : rootAfter Cfg.current = none := by simp [rootAfter, hr]
    have h2 : rootAfter Cfg.current ≠ none := by decide
    exact h2 this
  | some c2 =>
    have := h rootWitness rootWitnessSteps c2 (WF_applyOp _ _ _ WF_empty) (by simp [Safe, SafeOp, rootWitnessSteps])
      (by simp [WellNested, rootWitnessSteps]) hr
    apply rootAfter_current_ne
    simp [rootAfter, hr, tokContent_of_rootContent, this]

/-- the property's second clause: starting from any world without shared cells (e.g. one fresh state), no history of operations
that do not target handle `k` — whatever they do to other handles: mutate, snapshot, revert, finalise, commit, copy them, copy
the copies — changes any observable of `k` -/
def C09_copy_statement (cfg : Cfg) : Prop :=
  ∀ (w : World), AllNS w → ∀ (ops : List WOp) (k : Nat), (∀ op ∈ ops, op.target ≠ k) → (wrun cfg w ops).obsAt k = w.obsAt k

theorem C09_copy_cloning (cfg : Cfg) (hc : cfg.cloneTokens = true) : C09_copy_statement cfg :=
  fun w hw ops k hk => world_independent cfg hc ops k w hw hk

/-- the configuration of the tree as the extractor sees it now (the one the driver runs) -/
def treeCfg : Cfg := { cloneTokens := Gen.C09Facts.deepCopyClonesTokens, journalAbsent := !Gen.C09Facts.zeroInsertBeforeJournal }

/-- the tree is in the state this file describes: fix 9e64f31 present, zero entry still un-journalled -/
theorem treeCfg_eq_current : treeCfg.cloneTokens = Cfg.current.cloneTokens ∧ treeCfg.journalAbsent = Cfg.current.journalAbsent := by decide

/-- **clause 2 holds of the current tree** -/
theorem C09_copy_tree : C09_copy_statement treeCfg := C09_copy_cloning treeCfg (by decide)

/-- **clause 1 holds of the current tree** in every state of a world built by the cloning `Copy` (`NS`; see `AllNS_reachable`):
arbitrary ids, panic or exact; side condition non-negative balances at `Suicide` only -/
theorem C09_revert_tree (c : Ctx) (hw : WF c.st) (hB : ∀ p ∈ c.st.revs, p.1 < c.st.nextRev) (hn : NS c.st)
    (steps : List Step) (hs : SafeNN treeCfg (snapshot c).1 steps) :
    revertTo (run treeCfg (snapshot c).1 steps) (snapshot c).2 = none ∨
    ∃ c2, revertTo (run treeCfg (snapshot c).1 steps) (snapshot c).2 = some c2 ∧ obs c2 = obs c :=
  revert_exact_any_ns treeCfg c hw hB hn steps hs

/-- account 1 holds 100 of token 1 and is dirty; handle 0 of a one-state world -/
def copyWitness : Ctx := applyOp Cfg.pinned emptyCtx (.addTok 1 1 100)

def witnessWorld : World := { heap := copyWitness.heap, nextRef := copyWitness.nextRef, states := upd (fun _ => none) 0 (some copyWitness.st) }

/-- Copy(); AddTokenBalance(1, token 1, 5) on the COPY (handle 1); nothing targets handle 0 -/
def witnessOps : List WOp := [.copy 0 1, .step 1 (.op (.addTok 1 1 5))]

/-- what handle 0 reads for token 1 of account 1 -/
def tokAt (w : World) : Option (Option Int) := (w.obsAt 0).map (fun o => (o.acct 1).map (·.tok 1))

/-- **regression witness for the pinned tree** (`copy-shares-token-map`, fixed by 9e64f31): with the sharing `deepCopy` the
original reads 105 after the copy moved 5 -/
theorem C09_copy_pinned_counterexample : ¬ C09_copy_statement Cfg.pinned := by
  intro h
  have h1 := h witnessWorld (AllNS_single _ _ (applyOp_fn Cfg.pinned emptyCtx _ NS_empty).2) witnessOps 0 (by decide)
  have h2 : tokAt (wrun Cfg.pinned witnessWorld witnessOps) = some (some 105) := by decide
  have h3 : tokAt witnessWorld = some (some 100) := by decide
  simp only [tokAt, h1] at h2
  simp only [tokAt] at h3
  rw [h3] at h2
  cases h2

/-- non-vacuity for the current tree: same world, same history — the original stays at 100 while the copy (handle 1) reads 105 -/
example : tokAt (wrun Cfg.current witnessWorld witnessOps) = some (some 100) := by decide
example : (((wrun Cfg.current witnessWorld witnessOps).obsAt 1).map (fun o => (o.acct 1).map (·.tok 1))) = some (some 105) := by decide

/-- non-vacuity of `C09_revert_tree`/`revert_exact_any`: an inner revert to the OUTER id consumes it — the outer revert then panics -/
example : revertTo (run Cfg.current (snapshot emptyCtx).1 [.op (.addBal 1 5), .revert 0]) (snapshot emptyCtx).2 = none := rfl

/-! ## T2 facts about the tree as it is now (regenerated on every check) -/

/-- every mutator of the journalled state appends an undo entry (the model pushes one in each of them) -/
theorem mutators_all_journal : Gen.C09Facts.journalled.all (fun p => p.2) = true := by decide

/-- `journal.revert` undoes the entry AT the snapshot index too (`revertJournal` stops at length n, i.e. undoes index n) -/
theorem revert_loop_inclusive : Gen.C09Facts.revertLoopInclusive = true := by decide

/-- the order of writes the undo-log model (`kvCommit`, `kvOpen`) assumes: `SaveWAL(height)` before any object is written; in every
trie commit the old value is read before the update is queued and the log is synced before the batch; the log is replayed exactly
when the stored height is one ahead of the block store -/
theorem wal_order_facts : (Gen.C09Facts.saveWalBeforeObjects && Gen.C09Facts.walSyncedBeforeBatch && Gen.C09Facts.rebuildWhenOneAhead) = true := by decide

end Props.C09
