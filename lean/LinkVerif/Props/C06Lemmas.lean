import LinkVerif.Model.LedgerR

/-!
# C06 / C07 — lemmas about the ledger model
Sums under `addAt`, `markSpent`, `addOuts`; what `applyTx`, `execTx` and admission write; the step lemmas of block
execution.  Through `Props.C06R.execBlock_sub_R` C06 and C07 get what they say of `execBlock` from what they prove of
`execBlockR`.  Proof-friendly restatements of `Model.Ledger` definitions live here and are proved equal to the model's.
-/
namespace Props.C06
open Model.Ledger

theorem clamp_mono {lo hi g g' : Int} (h : g ≤ g') : max lo (min hi g) ≤ max lo (min hi g') :=
  Int.max_le.mpr ⟨Int.le_max_left .., Int.le_trans (Int.le_min.mpr ⟨Int.min_le_left .., Int.le_trans (Int.min_le_right ..) h⟩)
    (Int.le_max_right ..)⟩

theorem calGas_clamp (a : Int) :
    calGas a = max 500000 (min 5000000000 (50000 * ((a + 99999999) / 100000000))) := by
  unfold calGas
  simp only []
  generalize 50000 * ((a + 99999999) / 100000000) = g
  split
  · rename_i h
    rw [Int.max_eq_left (Int.le_trans (Int.min_le_right 5000000000 g) (Int.le_of_lt h))]
  · rename_i h
    split
    · rename_i h'
      rw [Int.min_eq_left (Int.le_of_lt h'), Int.max_eq_right (by decide)]
    · rename_i h'
      rw [Int.min_eq_right (Int.not_lt.mp h'), Int.max_eq_right (Int.not_lt.mp h)]

theorem calGas_bounds (a : Int) : 500000 ≤ calGas a ∧ calGas a ≤ 5000000000 := by
  rw [calGas_clamp]
  exact ⟨Int.le_max_left .., Int.max_le.mpr ⟨by decide, Int.min_le_left ..⟩⟩

theorem calGas_mono {a b : Int} (h : a ≤ b) : calGas a ≤ calGas b := by
  rw [calGas_clamp, calGas_clamp]
  exact clamp_mono (Int.mul_le_mul_of_nonneg_left (Int.ediv_le_ediv (by decide) (Int.add_le_add_right h _)) (by decide))

theorem length_addAt (xs : List Int) (i : Nat) (d : Int) : (addAt xs i d).length = xs.length :=
  List.length_modify ..

theorem sum_addAt (xs : List Int) (i : Nat) (d : Int) (h : i < xs.length) : (addAt xs i d).sum = xs.sum + d := by
  unfold addAt
  induction xs generalizing i with
  | nil => simp at h
  | cons x xs ih =>
    cases i with
    | zero => simp only [List.modify_zero_cons, List.sum_cons]; omega
    | succ i =>
      have h' : i < xs.length := by simpa using h
      simp only [List.modify_succ_cons, List.sum_cons, ih i h']; omega

/-- out of range `addAt` is the identity: the reason `Honest` asks for indices in range -/
theorem addAt_out (xs : List Int) (i : Nat) (d : Int) (h : xs.length ≤ i) : addAt xs i d = xs :=
  List.modify_eq_self h

theorem getn_setN (xs : List Nat) (i v j : Nat) :
    getn (setN xs i v) j = if i = j ∧ i < xs.length then v else getn xs j := by
  unfold getn setN
  simp only [List.getD_eq_getElem?_getD, List.getElem?_set]
  by_cases h : i = j
  · subst h
    by_cases h2 : i < xs.length
    · simp [h2]
    · simp [h2]
  · simp [h]

/-- what one output contributes to the pool -/
def contrib (o : Out) : Int := if o.spent then 0 else o.amount

theorem contrib_unspent {o : Out} (h : o.spent = false) : contrib o = o.amount := by
  unfold contrib; rw [h]; rfl

def usum (l : List Out) : Int := ((l.filter (!·.spent)).map (·.amount)).sum

theorem usum_nil : usum [] = 0 := rfl

theorem usum_cons (o : Out) (l : List Out) : usum (o :: l) = contrib o + usum l := by
  unfold usum contrib
  cases h : o.spent <;> simp [h]

theorem usum_append (l₁ l₂ : List Out) : usum (l₁ ++ l₂) = usum l₁ + usum l₂ := by
  induction l₁ with
  | nil => simp [usum_nil]
  | cons o l ih => simp only [List.cons_append, usum_cons, ih]; omega

theorem usum_perm {l₁ l₂ : List Out} (h : l₁.Perm l₂) : usum l₁ = usum l₂ := by
  induction h with
  | nil => rfl
  | cons x _ ih => simp only [usum_cons, ih]
  | swap x y l => simp only [usum_cons]; omega
  | trans _ _ ih₁ ih₂ => exact ih₁.trans ih₂

theorem wsum_eq_usum (ws : List (List Out)) :
    (ws.map (fun outs => ((outs.filter (!·.spent)).map (·.amount)).sum)).sum = usum ws.flatten := by
  induction ws with
  | nil => rfl
  | cons outs ws ih =>
    simp only [List.map_cons, List.sum_cons, List.flatten_cons, usum_append, ih]
    rfl

theorem pool_eq_usum (s : St) : pool s = usum s.wallets.flatten := wsum_eq_usum s.wallets

def mark (oid : Nat) (o : Out) : Out := if o.id = oid then { o with spent := true } else o

theorem markSpent_eq (ws : List (List Out)) (oid : Nat) : markSpent ws oid = ws.map (List.map (mark oid)) := rfl

theorem markSpent_flatten (ws : List (List Out)) (oid : Nat) :
    (markSpent ws oid).flatten = ws.flatten.map (mark oid) := by
  rw [markSpent_eq, List.map_flatten]

theorem length_markSpent (ws : List (List Out)) (oid : Nat) : (markSpent ws oid).length = ws.length := by
  simp [markSpent]

theorem mark_id (oid : Nat) (o : Out) : (mark oid o).id = o.id := by
  unfold mark; split <;> rfl

theorem map_mark_ids (oid : Nat) (l : List Out) : (l.map (mark oid)).map (·.id) = l.map (·.id) := by
  simp only [List.map_map]
  apply List.map_congr_left
  intro o _
  exact mark_id oid o

theorem mark_of_ne {oid : Nat} {o : Out} (h : o.id ≠ oid) : mark oid o = o := by
  unfold mark; simp [h]

theorem contrib_mark_eq {oid : Nat} {o : Out} (h : o.id = oid) : contrib (mark oid o) = 0 := by
  unfold mark contrib; simp [h]

theorem map_mark_of_fresh (oid : Nat) (l : List Out) (h : ∀ y ∈ l, y.id ≠ oid) : l.map (mark oid) = l :=
  (List.map_congr_left fun y hy => mark_of_ne (h y hy)).trans (List.map_id l)

theorem usum_mark (l : List Out) (oid : Nat) (o : Out) (hnd : (l.map (·.id)).Nodup) (ho : o ∈ l) (hid : o.id = oid)
    (hsp : o.spent = false) : usum (l.map (mark oid)) = usum l - o.amount := by
  -- bring `o` to the front: no other output has its id, so marking changes `o` alone
  have hp := List.perm_cons_erase ho
  have hnd' := (hp.map (·.id)).nodup_iff.mp hnd
  rw [List.map_cons, List.nodup_cons, hid] at hnd'
  have hfresh : ∀ y ∈ l.erase o, y.id ≠ oid := fun y hy h => hnd'.1 (h ▸ List.mem_map_of_mem hy)
  rw [usum_perm (hp.map (mark oid)), usum_perm hp, List.map_cons, usum_cons, usum_cons, map_mark_of_fresh oid _ hfresh,
    contrib_mark_eq hid, contrib_unspent hsp]
  omega

def mkOut (x : (Nat × Int) × Nat) : Out := { id := x.2, amount := x.1.2, spent := false }

/-- the created outputs of `t`, tagged with their ids, as in `addOuts` -/
def tagOf (nextOut : Nat) (t : TxRec) : List ((Nat × Int) × Nat) :=
  (newOuts t).zip ((List.range (newOuts t).length).map (· + nextOut))

/-- the wallets after appending the tagged outputs to their owners (wallet indices start at `k`) -/
def addW (ws : List (List Out)) (k : Nat) (tg : List ((Nat × Int) × Nat)) : List (List Out) :=
  (ws.zipIdx k).map (fun p => p.1 ++ (tg.filter (fun x => x.1.1 = p.2)).map mkOut)

theorem addOuts_eq (s : St) (t : TxRec) :
    addOuts s t = { s with wallets := addW s.wallets 0 (tagOf s.nextOut t), nextOut := s.nextOut + (newOuts t).length } :=
  rfl

theorem addOuts_nextOut (s : St) (t : TxRec) : (addOuts s t).nextOut = s.nextOut + (newOuts t).length := rfl

theorem length_addW (ws : List (List Out)) (k : Nat) (tg) : (addW ws k tg).length = ws.length := by
  simp [addW]

/-- the outputs owned by wallet `k`, then those owned by `k+1 … k+n`, are those owned by `k … k+n` -/
theorem filter_split (tg : List ((Nat × Int) × Nat)) (k n : Nat) :
    ((tg.filter (fun x => k ≤ x.1.1 ∧ x.1.1 < k + (n + 1))).map mkOut).Perm
      ((tg.filter (fun x => x.1.1 = k)).map mkOut ++
        (tg.filter (fun x => k + 1 ≤ x.1.1 ∧ x.1.1 < k + 1 + n)).map mkOut) := by
  have h := List.filter_append_perm (fun x => decide (x.1.1 = k)) (tg.filter (fun x => k ≤ x.1.1 ∧ x.1.1 < k + (n + 1)))
  rw [List.filter_filter, List.filter_filter] at h
  have e1 : ∀ x ∈ tg, (decide (x.1.1 = k) && decide (k ≤ x.1.1 ∧ x.1.1 < k + (n + 1))) = decide (x.1.1 = k) := by
    intro x _; rw [← Bool.decide_and, decide_eq_decide]; omega
  have e2 : ∀ x ∈ tg, (!decide (x.1.1 = k) && decide (k ≤ x.1.1 ∧ x.1.1 < k + (n + 1))) =
      decide (k + 1 ≤ x.1.1 ∧ x.1.1 < k + 1 + n) := by
    intro x _; rw [← decide_not, ← Bool.decide_and, decide_eq_decide]; omega
  rw [List.filter_congr e1, List.filter_congr e2] at h
  rw [← List.map_append]
  exact h.symm.map mkOut

theorem addW_flatten_perm (ws : List (List Out)) (k : Nat) (tg : List ((Nat × Int) × Nat)) :
    (addW ws k tg).flatten.Perm
      (ws.flatten ++ (tg.filter (fun x => k ≤ x.1.1 ∧ x.1.1 < k + ws.length)).map mkOut) := by
  induction ws generalizing k with
  | nil =>
    have : tg.filter (fun x => k ≤ x.1.1 ∧ x.1.1 < k + ([] : List (List Out)).length) = [] := by
      apply List.filter_eq_nil_iff.mpr
      intro a _
      simp
    simp [addW]
  | cons outs ws ih =>
    have ih' := ih (k + 1)
    unfold addW at ih' ⊢
    simp only [List.zipIdx_cons, List.map_cons, List.flatten_cons, List.length_cons]
    refine ((List.Perm.append_left _ ih').trans ?_)
    refine List.Perm.trans ?_ (List.Perm.append_left _ (filter_split tg k ws.length).symm)
    simp only [List.append_assoc]
    apply List.Perm.append_left
    exact List.perm_append_comm_assoc _ _ _

theorem addW_flatten_perm_inrange (ws : List (List Out)) (tg : List ((Nat × Int) × Nat))
    (h : ∀ x ∈ tg, x.1.1 < ws.length) : (addW ws 0 tg).flatten.Perm (ws.flatten ++ tg.map mkOut) := by
  have hp := addW_flatten_perm ws 0 tg
  have : tg.filter (fun x => 0 ≤ x.1.1 ∧ x.1.1 < 0 + ws.length) = tg := by
    apply List.filter_eq_self.mpr
    intro a ha
    have := h a ha
    simp; omega
  rwa [this] at hp

theorem usum_mkOut (tg : List ((Nat × Int) × Nat)) : usum (tg.map mkOut) = (tg.map (·.1.2)).sum := by
  induction tg with
  | nil => rfl
  | cons x tg ih => simp only [List.map_cons, usum_cons, List.sum_cons, ih]; rfl

theorem tagOf_fst (n : Nat) (t : TxRec) : (tagOf n t).map (·.1) = newOuts t := by
  unfold tagOf
  apply List.map_fst_zip
  simp

theorem tagOf_snd (n : Nat) (t : TxRec) : (tagOf n t).map (·.2) = List.range' n (newOuts t).length := by
  unfold tagOf
  rw [List.map_snd_zip (by simp), List.range'_eq_map_range]
  apply List.map_congr_left
  intro a _
  omega

theorem tagOf_amounts (n : Nat) (t : TxRec) : ((tagOf n t).map (·.1.2)).sum = ((newOuts t).map (·.2)).sum := by
  rw [← tagOf_fst n t, List.map_map]; rfl

theorem tagOf_inrange (m : Nat) (t : TxRec) (n : Nat) (h : ∀ p ∈ newOuts t, p.1 < n) : ∀ x ∈ tagOf m t, x.1.1 < n := by
  intro x hx
  apply h
  rw [← tagOf_fst m t]
  exact List.mem_map.mpr ⟨x, hx, rfl⟩

theorem mkOut_ids (tg : List ((Nat × Int) × Nat)) : (tg.map mkOut).map (·.id) = tg.map (·.2) := by
  rw [List.map_map]; rfl

section
variable (s : St) (t : TxRec)

theorem applyTx_eq :
    applyTx s t = { s with bal := (applyTx s t).bal, tok := (applyTx s t).tok, nonce := (applyTx s t).nonce } := by
  unfold applyTx
  generalize t.kind = k
  cases k
  · rfl
  · rfl
  · rfl
  · cases t.aout <;> rfl

theorem execTx_eq :
    execTx s t =
      { applyTx s t with
        found := s.found + feeOfGas t.gas
        wallets := addW (if t.kind = .uin then markSpent s.wallets t.spends else s.wallets) 0 (tagOf s.nextOut t)
        spentImgs := if t.kind = .uin then s.spentImgs ++ [t.spends] else s.spentImgs
        nextOut := s.nextOut + (newOuts t).length } := by
  unfold execTx
  rw [applyTx_eq s t]
  split <;> rfl

theorem execTx_bal : (execTx s t).bal = (applyTx s t).bal := by rw [execTx_eq]
theorem execTx_tok : (execTx s t).tok = (applyTx s t).tok := by rw [execTx_eq]
theorem execTx_nonce : (execTx s t).nonce = (applyTx s t).nonce := by rw [execTx_eq]
theorem execTx_found : (execTx s t).found = s.found + feeOfGas t.gas := by rw [execTx_eq]
theorem execTx_zero : (execTx s t).zero = s.zero := by rw [execTx_eq, applyTx_eq]
theorem execTx_nextOut : (execTx s t).nextOut = s.nextOut + (newOuts t).length := by
  rw [execTx_eq]

theorem execTx_spentImgs :
    (execTx s t).spentImgs = if t.kind = .uin then s.spentImgs ++ [t.spends] else s.spentImgs := by
  rw [execTx_eq]

theorem execTx_wallets :
    (execTx s t).wallets =
      addW (if t.kind = .uin then markSpent s.wallets t.spends else s.wallets) 0 (tagOf s.nextOut t) := by
  rw [execTx_eq]

end

/-- `s'` is `s` up to the speculative balances and nonces, the pending list and the key-image cache -/
def MempoolOnly (s s' : St) : Prop :=
  s' = { s with sbal := s'.sbal, stok := s'.stok, snonce := s'.snonce, poolImgs := s'.poolImgs, pending := s'.pending }

/-- used to walk through `checkState` without `split`, which re-simplifies the whole record update at every `if` -/
theorem snd_ite {P : St → Prop} {c : Prop} [Decidable c] {a b : String × St} (ha : P a.2) (hb : P b.2) :
    P (if c then a else b).2 := by
  split <;> assumption

theorem checkState_writes (s : St) (id : Nat) (t : TxRec) :
    MempoolOnly s (checkState s id t).2 ∧ (t.kind ≠ .uin → (checkState s id t).2.poolImgs = s.poolImgs) := by
  unfold checkState
  generalize t.kind = k
  have ite {c : Prop} [Decidable c] {a b : String × St} :=
    @snd_ite (fun s' => MempoolOnly s s' ∧ (k ≠ .uin → s'.poolImgs = s.poolImgs)) c _ a b
  have keep : MempoolOnly s s ∧ (k ≠ .uin → s.poolImgs = s.poolImgs) := ⟨rfl, fun _ => rfl⟩
  cases k
  · exact ite keep (ite keep (ite keep ⟨rfl, fun _ => rfl⟩))
  · exact ite keep (ite keep (ite keep ⟨rfl, fun _ => rfl⟩))
  · exact ite keep (ite keep (ite keep ⟨rfl, fun _ => rfl⟩))
  · exact ite keep (ite keep ⟨rfl, fun h => absurd rfl h⟩)

theorem admitTx_mempoolOnly (s : St) (id : Nat) (t : TxRec) : MempoolOnly s (admitTx s id t).2 := by
  unfold admitTx
  split
  · rfl
  · exact (checkState_writes s id t).1

section
variable {s s' : St} {seen : List Nat} {t : TxRec} {rest : List TxRec}

theorem execBlock_nil (he : execBlock s seen [] = some s') : s' = s := by
  simp only [execBlock, Option.some.injEq] at he; exact he.symm

theorem execBlock_cons (h : execBlock s seen (t :: rest) = some s') :
    txValid s seen t = true ∧ execBlock (execTx s t) (if t.kind = .uin then t.spends :: seen else seen) rest = some s' := by
  unfold execBlock at h
  split at h
  · rename_i hv; exact ⟨hv, h⟩
  · cases h

theorem execBlockR_nil (he : execBlockR s seen [] = some s') : s' = s := by
  simp only [execBlockR, Option.some.injEq] at he; exact he.symm

theorem execBlockR_cons (he : execBlockR s seen (t :: rest) = some s') :
    (txValid s seen t = true ∧ execBlockR (execTx s t) (if t.kind = .uin then t.spends :: seen else seen) rest = some s') ∨
    (txValid s seen t = false ∧ vmFailsR s t = true ∧ execBlockR (failTx s t) seen rest = some s') := by
  unfold execBlockR at he
  split at he
  · rename_i hv; exact Or.inl ⟨hv, he⟩
  · rename_i hv
    split at he
    · rename_i hf; exact Or.inr ⟨by simpa using hv, hf, he⟩
    · cases he

end

def recsOf (s : St) (ids : List Nat) : List TxRec := ids.filterMap (fun i => s.txs[i]?)

theorem block_eq (s : St) :
    block s = match execBlock s [] (recsOf s s.pending) with
      | some s' => finishBlock s s' s.pending
      | none => s := rfl

theorem forceBlock_eq (s : St) (ids : List Nat) :
    forceBlock s ids = match execBlock s [] (recsOf s ids) with
      | none => (s, "propose=panic")
      | some s' =>
        if (recsOf s ids).any (fun t => t.broken.isSome) then (s, "validate=false") else (finishBlock s s' ids, "ok") := rfl

theorem forceBlock_cases (s : St) (ids : List Nat) :
    ((forceBlock s ids).1 = s ∧ (forceBlock s ids).2 ≠ "ok") ∨
    ∃ s', execBlock s [] (recsOf s ids) = some s' ∧ (recsOf s ids).any (fun t => t.broken.isSome) = false ∧
      forceBlock s ids = (finishBlock s s' ids, "ok") := by
  rw [forceBlock_eq]
  cases execBlock s [] (recsOf s ids) with
  | none => exact .inl ⟨rfl, (by decide : "propose=panic" ≠ "ok")⟩
  | some s' =>
    cases hb : (recsOf s ids).any (fun t => t.broken.isSome) with
    | true => exact .inl ⟨rfl, (by decide : "validate=false" ≠ "ok")⟩
    | false => exact .inr ⟨s', rfl, rfl, rfl⟩

end Props.C06

namespace Props.C06R
open Model.Ledger

theorem execBlock_sub_R {s s' : St} {seen : List Nat} {recs : List TxRec} (he : execBlock s seen recs = some s') :
    execBlockR s seen recs = some s' := by
  induction recs generalizing s seen with
  | nil => rw [Props.C06.execBlock_nil he]; rfl
  | cons t rest ih =>
    obtain ⟨hv, he'⟩ := Props.C06.execBlock_cons he
    unfold execBlockR
    simp only [hv, if_true]
    exact ih he'

end Props.C06R
