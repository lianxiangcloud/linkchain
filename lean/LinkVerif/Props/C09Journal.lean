/-
C09: bookkeeping invariants of the journal.
The per-address counters of `journal.dirties` (`Model.StateDB.JB`, the code's own bookkeeping: ++ on append, -- and
delete-at-zero on revert) always equal the number of journal entries that dirty the address; so "the key is present" — what
`Finalise`, `Commit` and `Copy` range over — is exactly the model's `isDirtyJ` (`jb_dirty_iff`).
`RevsOK`: `validRevisions` is strictly increasing in id, below `nextRevisionId`, with journal indices non-decreasing and at most
the journal length.  Every step preserves it (`revsOK_step`: that the journal does not shrink is read off `applyOp_ext`, hence
the two hypotheses), and it gives the hypothesis `∀ p ∈ revs, p.1 < nextRev` of `revert_exact` (`revsOK_ids`).
-/
import LinkVerif.Props.C09Revert

namespace Props.C09
open Model.StateDB

def countJ (l : List Entry) (a : Addr) : Nat := (l.filter (fun e => e.dirtied == some a)).length

def JBInv (j : JB) : Prop := ∀ a, j.dirties a = if countJ j.entries a = 0 then none else some (countJ j.entries a : Int)

theorem jb_inv_empty : JBInv JB.empty := fun a => by simp [JB.empty, countJ]

theorem countJ_cons (e : Entry) (l : List Entry) (a : Addr) :
    countJ (e :: l) a = countJ l a + (if e.dirtied = some a then 1 else 0) := by
  simp only [countJ, List.filter_cons]
  by_cases h : e.dirtied = some a <;> simp [h]

/-- how `journal.dirties` holds a count: the key is absent at zero -/
def cnt (n : Nat) : Option Int := if n = 0 then none else some (n : Int)

theorem cnt_succ (n : Nat) : some ((cnt n).getD 0 + 1) = cnt (n + 1) := by
  unfold cnt; split <;> simp [*]

theorem cnt_pred (n : Nat) :
    (if (cnt (n + 1)).getD 0 - 1 = 0 then none else some ((cnt (n + 1)).getD 0 - 1)) = cnt n := by
  unfold cnt; split <;> simp [*] <;> omega

theorem jb_inv_append (j : JB) (e : Entry) (h : JBInv j) : JBInv (j.append e) := by
  intro a
  show (j.append e).dirties a = cnt (countJ (e :: j.entries) a)
  rw [countJ_cons]
  cases hd : e.dirtied with
  | none => simp only [JB.append, hd]; exact h a
  | some b =>
    simp only [JB.append, hd]
    by_cases hab : a = b
    · subst hab
      rw [upd_same, if_pos rfl, ← cnt_succ]
      exact congrArg (fun x => some (Option.getD x 0 + 1)) (h a)
    · rw [upd_other _ _ _ _ hab, if_neg (fun hh => hab (Option.some.inj hh).symm)]
      exact h a

theorem dropDirty_eq (d : Addr → Option Int) (e : Entry) :
    JB.dropDirty d e = match e.dirtied with
      | some a => upd d a (if (d a).getD 0 - 1 = 0 then none else some ((d a).getD 0 - 1))
      | none => d := by
  cases hd : e.dirtied with
  | none => simp only [JB.dropDirty, hd]
  | some a => simp only [JB.dropDirty, hd]; split <;> rfl

theorem dropDirty_inv (e : Entry) (rest : List Entry) (d : Addr → Option Int) (h : ∀ a, d a = cnt (countJ (e :: rest) a)) (a : Addr) :
    JB.dropDirty d e a = cnt (countJ rest a) := by
  have ha := h a
  rw [countJ_cons] at ha
  rw [dropDirty_eq]
  cases hd : e.dirtied with
  | none => simpa [hd] using ha
  | some b =>
    rw [hd] at ha
    by_cases hab : a = b
    · subst hab
      rw [if_pos rfl] at ha
      simp only [upd_same, ha, cnt_pred]
    · rw [if_neg (fun hh => hab (Option.some.inj hh).symm)] at ha
      simp only [upd_other _ _ _ _ hab]
      exact ha

theorem jb_inv_revertAux (n : Nat) (l : List Entry) (d : Addr → Option Int) (h : ∀ a, d a = cnt (countJ l a)) :
    JBInv (JB.revertAux n l d) := by
  induction l generalizing d with
  | nil => exact h
  | cons e rest ih =>
    simp only [JB.revertAux]
    split
    · exact h
    · exact ih _ (dropDirty_inv e rest d h)

theorem jb_inv_revert (j : JB) (n : Nat) (h : JBInv j) : JBInv (j.revert n) := jb_inv_revertAux n j.entries j.dirties h

theorem jb_dirty_iff (j : JB) (h : JBInv j) (s : State) (hs : s.journal = j.entries) (a : Addr) :
    (j.dirties a).isSome = isDirtyJ s a := by
  rw [h a, isDirtyJ, hs]
  generalize j.entries = l
  induction l with
  | nil => simp [countJ]
  | cons e rest ih =>
    simp only [countJ_cons, List.any_cons]
    by_cases he : e.dirtied = some a
    · simp [he]
    · simp only [he, if_false, Nat.add_zero]
      have : (e.dirtied == some a) = false := by simpa using he
      rw [this, Bool.false_or]; exact ih

/-- both halves of `journal.revert` walk the entry list alike -/
theorem jb_revertAux_entries (n : Nat) (l : List Entry) (d : Addr → Option Int) (c : Ctx) :
    (JB.revertAux n l d).entries = (revertJournal n l c).st.journal := by
  induction l generalizing d c with
  | nil => rfl
  | cons e rest ih =>
    simp only [JB.revertAux, revertJournal]
    split
    · rfl
    · exact ih _ _

/-- the bookkeeping follows the model's journal through append and revert -/
theorem jb_follows_push (j : JB) (c : Ctx) (e : Entry) (h : c.st.journal = j.entries) : (push c e).st.journal = (j.append e).entries := by
  simp [push, JB.append, h]

theorem jb_follows_revert (j : JB) (c : Ctx) (n : Nat) (h : c.st.journal = j.entries) :
    (revertJournal n c.st.journal c).st.journal = (j.revert n).entries := by
  rw [h]; exact (jb_revertAux_entries n _ _ c).symm

/-- non-vacuity: three entries for address 1 and one for address 2, revert to length 1 -/
example : ((((JB.empty.append (.nonce 1 0)).append (.balance 2 0)).append (.touch 1)).append (.credits 1 0)).dirties 1 = some 3 := by decide
example : (((((JB.empty.append (.nonce 1 0)).append (.balance 2 0)).append (.touch 1)).append (.credits 1 0)).revert 1).dirties 1 = some 1 := by decide
example : (((((JB.empty.append (.nonce 1 0)).append (.balance 2 0)).append (.touch 1)).append (.credits 1 0)).revert 1).dirties 2 = none := by decide

/-- ids strictly decreasing from the head and below `next`; journal indices non-increasing from the head and at most `n` -/
def RevChain : Nat → Nat → List (Nat × Nat) → Prop
  | _, _, [] => True
  | n, next, (i, j) :: rest => i < next ∧ j ≤ n ∧ RevChain j i rest

def RevsOK (s : State) : Prop := RevChain s.journal.length s.nextRev s.revs

theorem RevChain.mono {n n' next next' : Nat} {l : List (Nat × Nat)} (h : RevChain n next l) (hn : n ≤ n') (hx : next ≤ next') :
    RevChain n' next' l := by
  cases l with
  | nil => trivial
  | cons p rest => obtain ⟨i, j⟩ := p; exact ⟨Nat.lt_of_lt_of_le h.1 hx, Nat.le_trans h.2.1 hn, h.2.2⟩

theorem RevChain.ids {n next : Nat} {l : List (Nat × Nat)} (h : RevChain n next l) : ∀ p ∈ l, p.1 < next := by
  induction l generalizing n next with
  | nil => intro p hp; cases hp
  | cons q rest ih =>
    obtain ⟨i, j⟩ := q
    intro p hp
    rcases List.mem_cons.mp hp with hp | hp
    · subst hp; exact h.1
    · exact Nat.lt_trans (ih h.2.2 p hp) h.1

theorem revsOK_ids {s : State} (h : RevsOK s) : ∀ p ∈ s.revs, p.1 < s.nextRev := RevChain.ids h

theorem RevChain.find {n next i j : Nat} {l older : List (Nat × Nat)} (h : RevChain n next l) (hf : findRev i l = some (j, older)) :
    j ≤ n ∧ RevChain j next older := by
  induction l generalizing n next with
  | nil => simp [findRev] at hf
  | cons q rest ih =>
    obtain ⟨i', j'⟩ := q
    simp only [findRev] at hf
    split at hf
    · cases hf; exact ⟨h.2.1, h.2.2.mono (Nat.le_refl _) (Nat.le_of_lt h.1)⟩
    · obtain ⟨h1, h2⟩ := ih h.2.2 hf
      exact ⟨Nat.le_trans h1 h.2.1, h2.mono (Nat.le_refl _) (Nat.le_of_lt h.1)⟩

theorem revsOK_empty : RevsOK State.empty := trivial

theorem revsOK_step (cfg : Cfg) (c : Ctx) (hw : WF c.st) (s : Step)
    (hs : match s with
      | .op o => SafeOp c o
      | _ => True) (h : RevsOK c.st) : RevsOK (stepCtx cfg c s).st := by
  cases s with
  | op o =>
    have hf := applyOp_frame cfg c o
    have hl := (applyOp_ext cfg c o hw hs).journal_len
    simp only [stepCtx, RevsOK]; rw [hf.revs, hf.nextRev]; exact h.mono hl (Nat.le_refl _)
  | snap => exact ⟨Nat.lt_succ_self _, Nat.le_refl _, h⟩
  | revert i =>
    refine stepCtx_revert (P := fun x => RevsOK x.st) cfg c i h (fun j older hf => ?_)
    obtain ⟨hj, hch⟩ := RevChain.find h hf
    simp only [RevsOK]
    rw [(revertJournal_frame j c).nextRev, revertJournal_length hj]
    exact hch

/-- `Finalise` and `Commit` drop every revision (`clearJournalAndRefund`) -/
theorem revsOK_finalise (del : Bool) (c : Ctx) : RevsOK (finalise del c).st := by
  show RevChain _ _ []
  trivial

theorem revsOK_commit (del : Bool) (c : Ctx) : RevsOK (commit del c).st := by
  show RevChain _ _ []
  trivial

end Props.C09
