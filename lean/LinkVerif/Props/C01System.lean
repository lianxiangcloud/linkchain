/-
C01: the GLOBAL theorem.  A system of node models (`Model.Node`, one per correct validator) plus an adversary that adds
arbitrary events of Byzantine validators produces a merged history (for one height `H`) that satisfies L-A's voting
discipline `Model.Protocol.disciplined`; with Byzantine power below one third, two correct node models never commit
different blocks at `H` (`node_models_agree`, through `Props.C01.agreement`).

Network hypotheses are explicit in the step relation `SysStep.deliver`:
* `Sched` (the ticker): a delivered timeout is one the node scheduled earlier (it is among its outputs) or a round-0 timeout;
  `WellTimed` is DERIVED from it (invariant `TimeoutsOK`);
* `Recv` (unforgeability): an ACCEPTABLE vote input (signature, size and address verdict `ok = true`) for height `H` naming
  validator `j` is an event of the history so far — a correct signer's vote was emitted by its node, the adversary's votes are
  events too.  That every vote in a correct node's tables is in the history (`Seen`) is then an invariant, DERIVED from the frame
  theorem `Grow` (the model records a vote only when it is the input of the step).
-/
import LinkVerif.Props.C01NodeGlobal

namespace Props.C01Node
open Model.Node Model.Protocol

theorem disciplinedFrom_ok (c : Cfg) : ∀ (l q : List Event),
    (∀ pre e post, l = pre ++ e :: post → eventOk c (q ++ pre) e = true) → disciplinedFrom c q l = true
  | [], _, _ => rfl
  | e :: rest, q, h => by
    simp only [disciplinedFrom, Bool.and_eq_true]
    refine ⟨by simpa using h [] e rest rfl, disciplinedFrom_ok c rest (q ++ [e]) ?_⟩
    intro pre e' post hs
    have := h (e :: pre) e' post (by rw [hs]; rfl)
    simpa [List.append_assoc] using this

theorem disciplinedFrom_append (c : Cfg) : ∀ (l₁ l₂ q : List Event),
    disciplinedFrom c q (l₁ ++ l₂) = (disciplinedFrom c q l₁ && disciplinedFrom c (q ++ l₁) l₂)
  | [], l₂, q => by simp [disciplinedFrom]
  | e :: rest, l₂, q => by
    simp only [List.cons_append, disciplinedFrom]
    rw [disciplinedFrom_append c rest l₂ (q ++ [e])]
    simp [Bool.and_assoc, List.append_assoc]

theorem disciplined_extend (c : Cfg) (h l : List Event) (hd : disciplined c h = true)
    (hl : ∀ pre e post, l = pre ++ e :: post → eventOk c (h ++ pre) e = true) : disciplined c (h ++ l) = true := by
  unfold disciplined at hd ⊢
  rw [disciplinedFrom_append, hd]
  simpa using disciplinedFrom_ok c l h hl

theorem filterMap_split {α β : Type} (f : α → Option β) {l : List α} {a : List β} {b : β} {c : List β}
    (h : l.filterMap f = a ++ b :: c) : ∃ pre o post, l = pre ++ o :: post ∧ f o = some b ∧ pre.filterMap f = a := by
  obtain ⟨l₁, l₂, rfl, h1, h2⟩ := List.filterMap_eq_append_iff.1 h
  obtain ⟨m₁, o, m₂, rfl, hn, ho, _⟩ := List.filterMap_eq_cons_iff.1 h2
  exact ⟨l₁ ++ m₁, o, m₂, (List.append_assoc ..).symm, ho, by rw [List.filterMap_append, h1, List.filterMap_eq_nil_iff.2 hn, List.append_nil]⟩

def actor : Event → Nat
  | .prevote n _ _ => n
  | .precommit n _ _ => n
  | .decide n _ _ => n

/-- the vote slot of an event as a number (as `stamp` for outputs) -/
def estamp : Event → Nat
  | .prevote _ r _ => r * 16 + 4
  | .precommit _ r _ => r * 16 + 6
  | .decide _ _ _ => 0

def evOf (H n : Nat) : Out → Option Event
  | .vote t h r v =>
    if h = H then
      (if t = tPrevote then some (.prevote n r (optV v)) else if t = tPrecommit then some (.precommit n r (optV v)) else none)
    else none
  | .commit h r v => if h = H then some (.decide n r v) else none
  | _ => none

def evsOf (H n : Nat) (l : List Out) : List Event := l.filterMap (evOf H n)

theorem evOf_src {H n : Nat} {o : Out} {e : Event} (h : evOf H n o = some e) :
    (∃ r v, o = .vote tPrevote H r v ∧ e = .prevote n r (optV v)) ∨
    (∃ r v, o = .vote tPrecommit H r v ∧ e = .precommit n r (optV v)) ∨
    (∃ r v, o = .commit H r v ∧ e = .decide n r v) := by
  cases o with
  | vote t h' r v =>
    simp only [evOf] at h
    split at h
    · rename_i hh; subst hh
      split at h
      · rename_i ht; subst ht; cases h; exact Or.inl ⟨r, v, rfl, rfl⟩
      · split at h
        · rename_i ht; subst ht; cases h; exact Or.inr (Or.inl ⟨r, v, rfl, rfl⟩)
        · cases h
    · cases h
  | commit h' r v =>
    simp only [evOf] at h
    split at h
    · rename_i hh; subst hh; cases h; exact Or.inr (Or.inr ⟨r, v, rfl, rfl⟩)
    · cases h
  | proposal _ _ _ _ => cases h
  | timeout _ _ _ => cases h

theorem evOf_actor {H n : Nat} {o : Out} {e : Event} (h : evOf H n o = some e) : actor e = n := by
  rcases evOf_src h with ⟨_, _, _, rfl⟩ | ⟨_, _, _, rfl⟩ | ⟨_, _, _, rfl⟩ <;> rfl

theorem mem_evsOf {H n : Nat} {l : List Out} {e : Event} (h : e ∈ evsOf H n l) : ∃ o ∈ l, evOf H n o = some e := by
  unfold evsOf at h
  obtain ⟨o, ho, he⟩ := List.mem_filterMap.1 h
  exact ⟨o, ho, he⟩

theorem optV_some {x b : Nat} (h : optV x = some b) : x = b ∧ b ≠ 0 := by
  unfold optV at h
  split at h
  · cases h
  · rename_i hx; cases h; exact ⟨rfl, hx⟩

theorem Seen_append {mk : Nat → Nat → Option Nat → Event} {p : List Event} {tbl : Nat → VSet} (h : Seen mk p tbl) (x : List Event) :
    Seen mk (p ++ x) tbl := fun r v bv i hb hi => List.mem_append_left _ (h r v bv i hb hi)

theorem chain_pre_lt {a b : Nat} {pre post : List Out} {o o' : Out} {k k' : Nat} (hc : Chain a (pre ++ o :: post) b)
    (ho' : o' ∈ pre) (hk' : stamp o' = some k') (hk : stamp o = some k) : k' < k := by
  have hp := (Chain_iff.1 hc).1
  rw [List.filterMap_append, List.pairwise_append] at hp
  exact hp.2.2 k' (List.mem_filterMap.2 ⟨o', ho', hk'⟩) k (List.mem_filterMap.2 ⟨o, by simp, hk⟩)

/-- what the system knows about correct validator `n`: its model state `s`, everything it has output (`log`), and that its events in
the history are images of its outputs (`own`; the converse is `NodeInv.sent`) -/
structure NodeCtx (H n : Nat) (hist : List Event) (s : St) (log : List Out) : Prop where
  good : Good s
  below : Below s log
  once : Once log
  held : PrecommitsHeld s log
  tmo : TimeoutsOK s log
  own : ∀ e ∈ hist, actor e = n → e ∈ evsOf H n log

theorem stamp_prevote (h r v : Nat) : stamp (.vote tPrevote h r v) = some (r * 16 + 4) := by simp [stamp]
theorem stamp_precommit (h r v : Nat) : stamp (.vote tPrecommit h r v) = some (r * 16 + 6) := by simp [stamp, tPrecommit, tPrevote]

theorem own_src {H n : Nat} {hist : List Event} {s : St} {log : List Out} (cx : NodeCtx H n hist s log) {pre : List Out} {e' : Event}
    (he' : e' ∈ hist ++ evsOf H n pre) (ha : actor e' = n) : ∃ o', (o' ∈ log ∨ o' ∈ pre) ∧ evOf H n o' = some e' := by
  rcases List.mem_append.1 he' with he' | he'
  · obtain ⟨o', ho', hev⟩ := mem_evsOf (cx.own e' he' ha); exact ⟨o', Or.inl ho', hev⟩
  · obtain ⟨o', ho', hev⟩ := mem_evsOf he'; exact ⟨o', Or.inr ho', hev⟩

theorem own_lt {H n : Nat} {hist : List Event} {s : St} {log : List Out} (cx : NodeCtx H n hist s log) (i : In)
    (ht : WellTimed s i) (hH : s.height = H) {pre post : List Out} {o : Out} {k : Nat}
    (hout : (stepCore s i).out = pre ++ o :: post) (hk : stamp o = some k) :
    ∀ e' ∈ hist ++ evsOf H n pre, actor e' = n → estamp e' < k := by
  have hch := (stepCore_facts s i cx.good.1 ht).chain
  rw [hout] at hch
  have hmu : mu s < k := (Chain_mem hch (by simp) hk).1
  intro e' he' ha
  obtain ⟨o', ho', hev⟩ := own_src cx he' ha
  rcases evOf_src hev with ⟨r, v, rfl, rfl⟩ | ⟨r, v, rfl, rfl⟩ | ⟨r, v, rfl, rfl⟩
  · rcases ho' with ho' | ho'
    · rcases cx.below _ _ _ _ ho' with hlt | ⟨_, hle⟩
      · omega
      · simp [estamp] at hle ⊢; omega
    · simpa [estamp] using chain_pre_lt hch ho' (stamp_prevote _ _ _) hk
  · rcases ho' with ho' | ho'
    · rcases cx.below _ _ _ _ ho' with hlt | ⟨_, hle⟩
      · omega
      · simp [estamp, tPrecommit, tPrevote] at hle ⊢; omega
    · simpa [estamp] using chain_pre_lt hch ho' (stamp_precommit _ _ _) hk
  · simp [estamp]; omega

theorem noLaterRound_of_lt {p : List Event} {n r k : Nat} (hk : k ≤ r * 16 + 6)
    (h : ∀ e' ∈ p, actor e' = n → estamp e' < k) : noLaterRound p n r = true := by
  unfold noLaterRound
  rw [List.all_eq_true]
  intro e' he'
  cases e' with
  | prevote m r' w | precommit m r' w =>
    by_cases hm : m = n
    · have := h _ he' (by simp [actor, hm]); simp [estamp] at this
      -- `r' : Round`, and `omega` does not recognise `≤` at the abbreviation
      have hr : r' ≤ r := by show @LE.le Nat _ r' r; omega
      simp [hm, hr]
    · simp [hm]
  | decide _ _ _ => rfl

theorem no_prevoteAt_of_lt {p : List Event} {n r : Nat} (h : ∀ e' ∈ p, actor e' = n → estamp e' < r * 16 + 4) :
    anyPrevoteAt p n r = false := by
  unfold anyPrevoteAt
  rw [Bool.eq_false_iff]
  intro hany
  obtain ⟨e', he', hm⟩ := List.any_eq_true.1 hany
  cases e' with
  | prevote m r' w =>
    simp at hm
    have := h _ he' (by simp [actor, hm.1]); simp [estamp, hm.2] at this
  | _ => simp at hm

theorem no_precommitAt_of_lt {p : List Event} {n r : Nat} (h : ∀ e' ∈ p, actor e' = n → estamp e' < r * 16 + 6) :
    anyPrecommitAt p n r = false := by
  unfold anyPrecommitAt
  rw [Bool.eq_false_iff]
  intro hany
  obtain ⟨e', he', hm⟩ := List.any_eq_true.1 hany
  cases e' with
  | precommit m r' w =>
    simp at hm
    have := h _ he' (by simp [actor, hm.1]); simp [estamp, hm.2] at this
  | _ => simp at hm

/-- **every event a correct node model emits is allowed by L-A's discipline** (`Model.Protocol.eventOk`), judged on the merged history
so far plus the events the same step emitted before it -/
theorem event_ok (powers : List Nat) (byz : Nat → Bool) {H n : Nat} {hist : List Event} {s : St} {log : List Out}
    (cx : NodeCtx H n hist s log) (hpw : s.powers = powers) (i : In) (ht : WellTimed s i)
    (hseen : s.height = H → Seen Event.prevote hist (stepCore s i).pvs ∧ Seen Event.precommit hist (stepCore s i).pcs)
    {pre post : List Out} {o : Out} {e : Event} (hout : (stepCore s i).out = pre ++ o :: post) (hev : evOf H n o = some e) :
    eventOk (cfgOf powers byz) (hist ++ evsOf H n pre) e = true := by
  have hsp := stepCore_facts s i cx.good.1 ht
  have hd3 := hsp.d3c
  have hmem : o ∈ (stepCore s i).out := by rw [hout]; simp
  have hok : ∀ q, VOK powers ((stepCore s i).pvs q) ∧ VOK powers ((stepCore s i).pcs q) := by
    intro q; rw [← hpw]; exact stepCore_tables s i cx.good ht q
  rcases evOf_src hev with ⟨r, v, rfl, rfl⟩ | ⟨r, v, rfl, rfl⟩ | ⟨r, v, rfl, rfl⟩
  · -- prevote
    obtain ⟨hh, _⟩ := hsp.just _ hmem
    have hH : s.height = H := hh.symm
    obtain ⟨hs1, _⟩ := hseen hH
    have hlt := own_lt cx i ht hH hout (stamp_prevote _ _ _)
    simp only [eventOk, Bool.or_eq_true, Bool.and_eq_true, Bool.not_eq_true']
    right
    refine ⟨⟨noLaterRound_of_lt (by omega) hlt, no_prevoteAt_of_lt hlt⟩, ?_⟩
    -- d3
    unfold lockRespected
    rw [List.all_eq_true]
    intro e' he'
    cases e' with
    | prevote _ _ _ => rfl
    | decide _ _ _ => rfl
    | precommit m r0 w =>
      cases w with
      | none => rfl
      | some b =>
        simp only
        split
        · rename_i hcond
          simp only [Bool.and_eq_true, beq_iff_eq, decide_eq_true_eq, bne_iff_ne, ne_eq] at hcond
          obtain ⟨⟨hm, hr0⟩, hne⟩ := hcond
          subst hm
          -- the precommit is the node's own: in its log (`PrecommitsHeld`), or earlier in this step (`D3C`)
          have key : b ≠ 0 ∧ (v = b ∨ Released (stepCore s i).pvs b r0 r) := by
            obtain ⟨o', ho', hev'⟩ := own_src cx he' rfl
            rcases evOf_src hev' with ⟨_, _, _, e4⟩ | ⟨r1, x, e3, e4⟩ | ⟨_, _, _, e4⟩
            · cases e4
            · obtain ⟨_, hr1, hx⟩ := Event.precommit.inj e4
              obtain ⟨hxb, hb0⟩ := optV_some hx.symm
              subst e3; subst hxb; subst hr1
              refine ⟨hb0, ?_⟩
              rcases ho' with ho' | ho'
              · exact prevote_respects_held s i cx.good.1 ht log cx.held H r0 x r v ho' hb0 hmem
              · rw [hout] at hd3
                exact (List.pairwise_append.1 (D3C_iff.1 hd3)).2.2 _ ho' _ List.mem_cons_self H r0 x rfl hb0 H r v rfl
            · cases e4
          obtain ⟨hb0, e | hrel⟩ := key
          · exfalso; apply hne; subst e; simp [optV, hb0]
          · exact released_gives_unlockingPolka powers byz _ _ b r0 r (fun q => (hok q).1) (Seen_append hs1 _) hrel
        · rfl
  · -- precommit
    obtain ⟨hh, _, hd2, _⟩ := hsp.just _ hmem
    have hH : s.height = H := hh.symm
    obtain ⟨hs1, _⟩ := hseen hH
    have hlt := own_lt cx i ht hH hout (stamp_precommit _ _ _)
    simp only [eventOk, Bool.or_eq_true, Bool.and_eq_true, Bool.not_eq_true']
    right
    refine ⟨⟨noLaterRound_of_lt (Nat.le_refl _) hlt, no_precommitAt_of_lt hlt⟩, ?_⟩
    by_cases hv0 : v = 0
    · simp [optV, hv0]
    · have hmaj := hd2 rfl hv0
      have := (maj23_gives_polka powers byz (hist ++ evsOf H n pre) _ r v (hok r).1 hmaj (Seen_append hs1 _)).1
      simpa [optV, hv0] using this
  · -- decide
    obtain ⟨hh, hv0, hmaj⟩ := hsp.just _ hmem
    have hH : s.height = H := hh.symm
    obtain ⟨_, hs2⟩ := hseen hH
    simp only [eventOk, Bool.or_eq_true]
    right
    exact maj23_gives_commitQuorum powers byz _ _ r v hv0 (hok r).2 hmaj (Seen_append hs2 _)

/-- the ticker: a delivered timeout is one the node scheduled earlier (it is among its outputs), or the round-0 timeout that starts a
node (`OnStart` schedules it before the model's first step) -/
def Sched (log : List Out) (i : In) : Prop :=
  ∀ h r st, i = .timeout h r st → Out.timeout h r st ∈ log ∨ r = 0

theorem wellTimed_of_sched {s : St} {log : List Out} {i : In} (hl : TimeoutsOK s log) (hs : Sched log i) : WellTimed s i := by
  intro h r st e hh
  rcases hs h r st e with hm | h0
  · rcases hl h r st hm with h1 | ⟨_, h2⟩
    · omega
    · exact h2
  · omega

/-- unforgeability: an acceptable vote input for height `H` is an event of the history -/
def Recv (H : Nat) (hist : List Event) (i : In) : Prop :=
  ∀ t r j v tot src, i = .vote t H r j v tot src true →
    (t = tPrevote → Event.prevote j r (optV v) ∈ hist) ∧ (t = tPrecommit → Event.precommit j r (optV v) ∈ hist)

def SeenAt (H : Nat) (hist : List Event) (s : St) : Prop :=
  s.height = H → Seen Event.prevote hist s.pvs ∧ Seen Event.precommit hist s.pcs

theorem SeenAt_append {H : Nat} {hist : List Event} {s : St} (h : SeenAt H hist s) (x : List Event) : SeenAt H (hist ++ x) s :=
  fun hh => ⟨Seen_append (h hh).1 x, Seen_append (h hh).2 x⟩

theorem Seen_fresh (mk : Nat → Nat → Option Nat → Event) (p : List Event) (tbl : Nat → VSet)
    (h : ∀ r, (tbl r).byBlock = []) : Seen mk p tbl := by
  intro r v bv i hb _; rw [h r] at hb; simp [alookup] at hb

theorem fresh_tables (x : St) (hx : x.rvs = [(0, RV.empty)]) : (∀ r, (x.pvs r).byBlock = []) ∧ (∀ r, (x.pcs r).byBlock = []) :=
  ⟨fun r => by simp [St.pvs, rv_fresh hx, RV.empty, VSet.empty], fun r => by simp [St.pcs, rv_fresh hx, RV.empty, VSet.empty]⟩

theorem seen_stepCore {H : Nat} {hist : List Event} {s : St} (i : In) (hw : W s) (ht : WellTimed s i)
    (hs : SeenAt H hist s) (hrecv : Recv H hist i) : SeenAt H hist (stepCore s i) := by
  have hh := (stepCore_facts s i hw ht).height
  have hgrow := (stepCore_facts s i hw ht).grow
  intro hH
  have hsH : s.height = H := by rw [← hh]; exact hH
  obtain ⟨h1, h2⟩ := hs hsH
  constructor
  · intro r v bv j hb hj
    rcases hgrow tPrevote r v bv j (Or.inl rfl) (by simpa [vsOf] using hb) hj with ⟨b0, h0, hm⟩ | ⟨tot, src, e⟩
    · exact h1 r v b0 j (by simpa [vsOf] using h0) hm
    · rw [hsH] at e; exact (hrecv _ _ _ _ _ _ e).1 rfl
  · intro r v bv j hb hj
    rcases hgrow tPrecommit r v bv j (Or.inr rfl) (by simpa [vsOf, tPrecommit, tPrevote] using hb) hj with ⟨b0, h0, hm⟩ | ⟨tot, src, e⟩
    · exact h2 r v b0 j (by simpa [vsOf, tPrecommit, tPrevote] using h0) hm
    · rw [hsH] at e; exact (hrecv _ _ _ _ _ _ e).2 rfl

theorem seen_step {H : Nat} {hist : List Event} {s : St} (i : In) (hw : W s) (ht : WellTimed s i)
    (hs : SeenAt H hist s) (hrecv : Recv H hist i) : SeenAt H hist (step s i) := by
  have hc := seen_stepCore i hw ht hs hrecv
  rcases step_cases s i with ⟨d, e⟩ | f
  · rw [e]; exact hc
  · intro _
    obtain ⟨f1, f2⟩ := fresh_tables _ f.rvs
    exact ⟨Seen_fresh _ _ _ f1, Seen_fresh _ _ _ f2⟩

structure Sys where
  /-- the node model of validator `n` (only those of correct validators matter) -/
  st : Nat → St
  /-- everything validator `n`'s node has output so far -/
  log : Nat → List Out
  /-- the merged L-A history of height `H`: correct nodes' votes/commits in the order they were emitted, Byzantine events anywhere -/
  hist : List Event

def upd {α : Type} (f : Nat → α) (n : Nat) (a : α) : Nat → α := fun m => if m = n then a else f m

theorem upd_same {α : Type} (f : Nat → α) (n : Nat) (a : α) : upd f n a n = a := if_pos rfl

theorem upd_other {α : Type} (f : Nat → α) (a : α) {n m : Nat} (h : m ≠ n) : upd f n a m = f m := if_neg h

/-- one step of the system (validator powers `powers`, Byzantine set `byz`, observed height `H`) -/
inductive SysStep (powers : List Nat) (byz : Nat → Bool) (H : Nat) : Sys → Sys → Prop
  /-- the adversary adds any event of a Byzantine validator -/
  | adversary (σ : Sys) (e : Event) (hb : byz (actor e) = true) : SysStep powers byz H σ { σ with hist := σ.hist ++ [e] }
  /-- a correct validator's node handles one input.  Environment hypotheses: a timeout is one the node scheduled (`Sched`), and an
  acceptable vote for height `H` is an event of the history (`Recv`) -/
  | deliver (σ : Sys) (n : Nat) (i : In) (hn : byz n = false) (hsch : Sched (σ.log n) i) (hrecv : Recv H σ.hist i) :
      SysStep powers byz H σ { st := upd σ.st n (step (σ.st n) i), log := upd σ.log n (σ.log n ++ (step (σ.st n) i).out),
                               hist := σ.hist ++ evsOf H n (stepCore (σ.st n) i).out }

structure NodeInv (powers : List Nat) (H n : Nat) (hist : List Event) (s : St) (log : List Out) : Prop where
  ctx : NodeCtx H n hist s log
  powers : s.powers = powers
  sent : ∀ e ∈ evsOf H n log, e ∈ hist
  seen : SeenAt H hist s

theorem NodeInv.append {powers : List Nat} {H n : Nat} {hist : List Event} {s : St} {log : List Out} (h : NodeInv powers H n hist s log)
    {x : List Event} (hx : ∀ e ∈ x, actor e ≠ n) : NodeInv powers H n (hist ++ x) s log :=
  ⟨{ h.ctx with own := fun e he ha => h.ctx.own e ((List.mem_append.1 he).resolve_right fun he' => hx e he' ha) ha }, h.powers,
    fun e he => List.mem_append_left _ (h.sent e he), SeenAt_append h.seen _⟩

def SysInv (powers : List Nat) (byz : Nat → Bool) (H : Nat) (σ : Sys) : Prop :=
  disciplined (cfgOf powers byz) σ.hist = true ∧ ∀ n, byz n = false → NodeInv powers H n σ.hist (σ.st n) (σ.log n)

theorem eventOk_byz (c : Cfg) (p : List Event) (e : Event) (hb : c.byz (actor e) = true) : eventOk c p e = true := by
  cases e <;> simp [eventOk, actor] at hb ⊢ <;> simp [hb]

theorem evsOf_append (H n : Nat) (a b : List Out) : evsOf H n (a ++ b) = evsOf H n a ++ evsOf H n b := by
  simp [evsOf, List.filterMap_append]

theorem evsOf_step (H n : Nat) (s : St) (i : In) : evsOf H n (step s i).out = evsOf H n (stepCore s i).out := by
  rcases step_cases s i with ⟨d, e⟩ | f
  · rw [e]
  · rw [f.out, evsOf_append]; simp [evsOf, evOf]

theorem step_powers (s : St) (i : In) : (step s i).powers = (stepCore s i).powers := by
  rcases step_cases s i with ⟨d, e⟩ | f
  · rw [e]
  · exact f.powers

theorem sys_step_inv {powers : List Nat} {byz : Nat → Bool} {H : Nat} {σ σ' : Sys}
    (hinv : SysInv powers byz H σ) (hstep : SysStep powers byz H σ σ') : SysInv powers byz H σ' := by
  obtain ⟨hd, hnodes⟩ := hinv
  cases hstep with
  | adversary e hb =>
    refine ⟨?_, ?_⟩
    · unfold disciplined at hd ⊢
      rw [disciplinedFrom_append, hd]
      simpa [disciplinedFrom] using eventOk_byz (cfgOf powers byz) σ.hist e hb
    · intro n hn
      refine (hnodes n hn).append fun e' he' ha => ?_
      cases List.mem_singleton.1 he'
      rw [ha, hn] at hb; cases hb
  | deliver n i hn hsch hrecv =>
    obtain ⟨cx, hp, hin, hse⟩ := hnodes n hn
    have ht : WellTimed (σ.st n) i := wellTimed_of_sched cx.tmo hsch
    have hseen : (σ.st n).height = H → Seen Event.prevote σ.hist (stepCore (σ.st n) i).pvs ∧
        Seen Event.precommit σ.hist (stepCore (σ.st n) i).pcs := by
      intro hH
      have := seen_stepCore i cx.good.1 ht hse hrecv
      exact this (by rw [(stepCore_facts (σ.st n) i cx.good.1 ht).height]; exact hH)
    refine ⟨?_, ?_⟩
    · apply disciplined_extend _ _ _ hd
      intro preE e postE hs
      obtain ⟨pre, o, post, e1, e2, e3⟩ := filterMap_split (evOf H n) hs
      rw [← e3]
      exact event_ok powers byz cx hp i ht hseen e1 e2
    · intro m hm
      by_cases hmn : m = n
      · subst hmn
        show NodeInv powers H m _ (upd σ.st m _ m) (upd σ.log m _ m)
        rw [upd_same, upd_same]
        have p := LogOK.of_step ⟨cx.good.1, cx.below, cx.once, cx.held, cx.tmo⟩ ht
        have hpw : (step (σ.st m) i).powers = powers := by
          rw [step_powers, (stepCore_facts (σ.st m) i cx.good.1 ht).powers, hp]
        refine ⟨⟨step_Good _ i cx.good ht, p.below, p.once, p.held, p.tmo, ?_⟩, hpw, ?_,
          SeenAt_append (seen_step i cx.good.1 ht hse hrecv) _⟩
        · intro e' he' ha
          rw [evsOf_append, evsOf_step, List.mem_append]
          exact (List.mem_append.1 he').imp (cx.own e' · ha) id
        · intro e' he'
          rw [evsOf_append, evsOf_step, List.mem_append] at he'
          exact List.mem_append.2 (he'.imp (hin e') id)
      · show NodeInv powers H m _ (upd σ.st n _ m) (upd σ.log n _ m)
        rw [upd_other _ _ hmn, upd_other _ _ hmn]
        refine (hnodes m hm).append fun e' he' ha => ?_
        obtain ⟨_, _, hev⟩ := mem_evsOf he'
        exact hmn (ha.symm.trans (evOf_actor hev))

inductive Reach (powers : List Nat) (byz : Nat → Bool) (H : Nat) : Sys → Sys → Prop
  | refl (σ : Sys) : Reach powers byz H σ σ
  | step {σ σ' σ'' : Sys} : Reach powers byz H σ σ' → SysStep powers byz H σ' σ'' → Reach powers byz H σ σ''

/-- initial systems: empty history; every correct node is in a well-formed state with EMPTY vote tables (as `initSt`), has the
system's power table, and has not output anything -/
def SysInit (powers : List Nat) (byz : Nat → Bool) (σ : Sys) : Prop :=
  σ.hist = [] ∧ ∀ n, byz n = false → Good (σ.st n) ∧ (σ.st n).powers = powers ∧ σ.log n = [] ∧ (σ.st n).rvs = [(0, RV.empty)]

theorem init_inv {powers : List Nat} {byz : Nat → Bool} (H : Nat) {σ : Sys} (h : SysInit powers byz σ) : SysInv powers byz H σ := by
  obtain ⟨hh, hn⟩ := h
  refine ⟨by rw [hh]; rfl, ?_⟩
  intro n hb
  obtain ⟨hg, hp, hl, hr⟩ := hn n hb
  obtain ⟨f1, f2⟩ := fresh_tables _ hr
  have p := LogOK.nil hg.1
  rw [hl]
  refine ⟨⟨hg, p.below, p.once, p.held, p.tmo, ?_⟩, hp, ?_, fun _ => ⟨Seen_fresh _ _ _ f1, Seen_fresh _ _ _ f2⟩⟩
  · rw [hh]; intro _ hm; cases hm
  · intro _ hm; simp [evsOf] at hm

theorem reach_inv {powers : List Nat} {byz : Nat → Bool} {H : Nat} {σ σ' : Sys} (hr : Reach powers byz H σ σ')
    (hi : SysInv powers byz H σ) : SysInv powers byz H σ' := by
  induction hr with
  | refl => exact hi
  | step _ hs ih => exact sys_step_inv ih hs

/-- **node_models_disciplined**: the merged history of any reachable system state satisfies L-A's voting discipline -/
theorem node_models_disciplined {powers : List Nat} {byz : Nat → Bool} {H : Nat} {σ0 σ : Sys} (h0 : SysInit powers byz σ0)
    (hr : Reach powers byz H σ0 σ) : disciplined (cfgOf powers byz) σ.hist = true :=
  (reach_inv hr (init_inv H h0)).1

/-- **node_models_agree**: with Byzantine power below one third, two correct node models that commit at height `H` commit the same block -/
theorem node_models_agree {powers : List Nat} {byz : Nat → Bool} {H : Nat} {σ0 σ : Sys} (h0 : SysInit powers byz σ0)
    (hr : Reach powers byz H σ0 σ) (hb : byzBound (cfgOf powers byz)) (n n' r r' b b' : Nat)
    (hn : byz n = false) (hn' : byz n' = false)
    (h1 : Out.commit H r b ∈ σ.log n) (h2 : Out.commit H r' b' ∈ σ.log n') : b = b' := by
  obtain ⟨hd, hnodes⟩ := reach_inv hr (init_inv H h0)
  have m1 : Event.decide n r b ∈ σ.hist := (hnodes n hn).sent _ (List.mem_filterMap.2 ⟨_, h1, by simp [evOf]⟩)
  have m2 : Event.decide n' r' b' ∈ σ.hist := (hnodes n' hn').sent _ (List.mem_filterMap.2 ⟨_, h2, by simp [evOf]⟩)
  exact Props.C01.agreement (cfgOf powers byz) σ.hist hd hb n n' r r' b b' hn hn' m1 m2

def recvB (H : Nat) (hist : List Event) : In → Bool
  | .vote t h r j v _ _ ok =>
    if h = H ∧ ok = true then
      (if t = tPrevote then hist.contains (Event.prevote j r (optV v)) else true) &&
      (if t = tPrecommit then hist.contains (Event.precommit j r (optV v)) else true)
    else true
  | _ => true

theorem recv_of_B {H : Nat} {hist : List Event} {i : In} (h : recvB H hist i = true) : Recv H hist i := by
  intro t r j v tot src e
  subst e
  simp only [recvB, and_self, if_true, Bool.and_eq_true] at h
  constructor
  · intro ht; subst ht; simpa using h.1
  · intro ht; subst ht; simpa [tPrecommit, tPrevote] using h.2

def schedB (log : List Out) : In → Bool
  | .timeout h r st => log.contains (Out.timeout h r st) || r == 0
  | _ => true

theorem sched_of_B {log : List Out} {i : In} (h : schedB log i = true) : Sched log i := by
  intro h' r st e
  subst e
  simp only [schedB, Bool.or_eq_true, beq_iff_eq] at h
  rcases h with h | h
  · exact Or.inl (List.contains_iff_mem.1 h)
  · exact Or.inr h

def runSys (H : Nat) : Sys → List (Nat × In) → Sys
  | σ, [] => σ
  | σ, (n, i) :: rest =>
    runSys H { st := upd σ.st n (step (σ.st n) i), log := upd σ.log n (σ.log n ++ (step (σ.st n) i).out),
               hist := σ.hist ++ evsOf H n (stepCore (σ.st n) i).out } rest

def okSys (byz : Nat → Bool) (H : Nat) : Sys → List (Nat × In) → Bool
  | _, [] => true
  | σ, (n, i) :: rest =>
    !byz n && schedB (σ.log n) i && recvB H σ.hist i &&
    okSys byz H { st := upd σ.st n (step (σ.st n) i), log := upd σ.log n (σ.log n ++ (step (σ.st n) i).out),
                  hist := σ.hist ++ evsOf H n (stepCore (σ.st n) i).out } rest

theorem reach_runSys (powers : List Nat) (byz : Nat → Bool) (H : Nat) : ∀ (l : List (Nat × In)) (σ0 σ : Sys),
    Reach powers byz H σ0 σ → okSys byz H σ l = true → Reach powers byz H σ0 (runSys H σ l)
  | [], _, _, hr, _ => hr
  | (n, i) :: rest, σ0, σ, hr, hok => by
    simp only [okSys, Bool.and_eq_true, Bool.not_eq_true'] at hok
    obtain ⟨⟨⟨h1, h2⟩, h3⟩, h4⟩ := hok
    exact reach_runSys powers byz H rest σ0 _
      (Reach.step hr (SysStep.deliver σ n i h1 (sched_of_B h2) (recv_of_B h3))) h4

/-- validators 0, 1, 2 correct, 3 Byzantine (and silent); every correct node starts height 1 as `initSt` -/
def exByz : Nat → Bool := fun n => n == 3
def exSys0 : Sys := { st := fun n => initSt n [1, 1, 1, 1] 673 1 exVals, log := fun _ => [], hist := [] }

/-- every correct node: round-0 timeout, proposal of validator 1 and its block (→ own prevote); then the three prevotes reach everybody
(→ own precommits); then the three precommits (→ commits) -/
def exSched : List (Nat × In) :=
  [0, 1, 2].flatMap (fun n => [(n, .timeout 1 0 sNewHeight), (n, .proposal 1 0 (-1) 7 1 1 32), (n, .part 1 0 7 0 true true true)]) ++
  [0, 1, 2].flatMap (fun n => [0, 1, 2].map (fun j => (n, In.vote tPrevote 1 0 j 7 1 j true))) ++
  [0, 1, 2].flatMap (fun n => [0, 1, 2].map (fun j => (n, In.vote tPrecommit 1 0 j 7 1 j true)))

theorem exSys_init : SysInit [1, 1, 1, 1] exByz exSys0 :=
  ⟨rfl, fun _ _ => ⟨initSt_Good _ _ _ _ _, rfl, rfl, rfl⟩⟩

theorem exSys_ok : okSys exByz 1 exSys0 exSched = true := by decide

theorem exSys_reach : Reach [1, 1, 1, 1] exByz 1 exSys0 (runSys 1 exSys0 exSched) :=
  reach_runSys _ _ _ _ _ _ (Reach.refl _) exSys_ok

theorem exSys_commits : Out.commit 1 0 7 ∈ (runSys 1 exSys0 exSched).log 0 ∧ Out.commit 1 0 7 ∈ (runSys 1 exSys0 exSched).log 1 ∧
    (runSys 1 exSys0 exSched).hist.length = 9 := by decide

/-- non-vacuity of `node_models_agree`: its hypotheses hold of a system run in which two correct node models do commit -/
example : ∃ σ0 σ, SysInit [1, 1, 1, 1] exByz σ0 ∧ Reach [1, 1, 1, 1] exByz 1 σ0 σ ∧ byzBound (cfgOf [1, 1, 1, 1] exByz) ∧
    Out.commit 1 0 7 ∈ σ.log 0 ∧ Out.commit 1 0 7 ∈ σ.log 1 :=
  ⟨exSys0, _, exSys_init, exSys_reach, by decide, exSys_commits.1, exSys_commits.2.1⟩

/-- the system with one merged history PER HEIGHT (`hist H`); states and logs are those of `Sys` -/
structure MSys where
  st : Nat → St
  log : Nat → List Out
  hist : Nat → List Event

/-- what the system looks like to an observer of height `H` -/
def MSys.at (σ : MSys) (H : Nat) : Sys := { st := σ.st, log := σ.log, hist := σ.hist H }

/-- one step of the system, observed at every height simultaneously: the adversary adds an event of a Byzantine validator to the
history of any height; a correct node handles one input (`Sched` as before; `Recv` for whichever height the input is a vote of) and
its votes and commits go to the histories of their heights -/
inductive MStep (powers : List Nat) (byz : Nat → Bool) : MSys → MSys → Prop
  | adversary (σ : MSys) (H : Nat) (e : Event) (hb : byz (actor e) = true) :
      MStep powers byz σ { σ with hist := upd σ.hist H (σ.hist H ++ [e]) }
  | deliver (σ : MSys) (n : Nat) (i : In) (hn : byz n = false) (hsch : Sched (σ.log n) i) (hrecv : ∀ H, Recv H (σ.hist H) i) :
      MStep powers byz σ { st := upd σ.st n (step (σ.st n) i), log := upd σ.log n (σ.log n ++ (step (σ.st n) i).out),
                           hist := fun H => σ.hist H ++ evsOf H n (stepCore (σ.st n) i).out }

inductive MReach (powers : List Nat) (byz : Nat → Bool) : MSys → MSys → Prop
  | refl (σ : MSys) : MReach powers byz σ σ
  | step {σ σ' σ'' : MSys} : MReach powers byz σ σ' → MStep powers byz σ' σ'' → MReach powers byz σ σ''

theorem mstep_at {powers : List Nat} {byz : Nat → Bool} {σ σ' : MSys} (hs : MStep powers byz σ σ') (H : Nat) :
    σ'.at H = σ.at H ∨ SysStep powers byz H (σ.at H) (σ'.at H) := by
  cases hs with
  | adversary H' e hb =>
    by_cases hh : H = H'
    · subst hh
      right
      have : MSys.at { σ with hist := upd σ.hist H (σ.hist H ++ [e]) } H = { (σ.at H) with hist := (σ.at H).hist ++ [e] } := by
        simp [MSys.at, upd]
      rw [this]
      exact SysStep.adversary _ e hb
    · left; simp [MSys.at, upd, hh]
  | deliver n i hn hsch hrecv =>
    exact Or.inr (SysStep.deliver (σ.at H) n i hn hsch (hrecv H))

theorem mreach_at {powers : List Nat} {byz : Nat → Bool} {σ σ' : MSys} (hr : MReach powers byz σ σ') (H : Nat) :
    Reach powers byz H (σ.at H) (σ'.at H) := by
  induction hr with
  | refl => exact Reach.refl _
  | step _ hs ih =>
    rcases mstep_at hs H with e | hstep
    · rw [e]; exact ih
    · exact Reach.step ih hstep

def MInit (powers : List Nat) (byz : Nat → Bool) (σ : MSys) : Prop :=
  (∀ H, σ.hist H = []) ∧ ∀ n, byz n = false → Good (σ.st n) ∧ (σ.st n).powers = powers ∧ σ.log n = [] ∧ (σ.st n).rvs = [(0, RV.empty)]

/-- **node_models_agree_all_heights**: in every reachable system state, for EVERY height, any two correct node models that committed at
that height committed the same value (Byzantine power below one third) -/
theorem node_models_agree_all_heights {powers : List Nat} {byz : Nat → Bool} {σ0 σ : MSys} (h0 : MInit powers byz σ0)
    (hr : MReach powers byz σ0 σ) (hb : byzBound (cfgOf powers byz)) :
    ∀ (H n n' r r' b b' : Nat), byz n = false → byz n' = false →
      Out.commit H r b ∈ σ.log n → Out.commit H r' b' ∈ σ.log n' → b = b' := by
  intro H n n' r r' b b' hn hn' h1 h2
  exact node_models_agree (σ0 := σ0.at H) (σ := σ.at H) ⟨h0.1 H, h0.2⟩ (mreach_at hr H) hb n n' r r' b b' hn hn' h1 h2

/-- and every height's merged history is disciplined -/
theorem node_models_disciplined_all_heights {powers : List Nat} {byz : Nat → Bool} {σ0 σ : MSys} (h0 : MInit powers byz σ0)
    (hr : MReach powers byz σ0 σ) (H : Nat) : disciplined (cfgOf powers byz) (σ.hist H) = true :=
  node_models_disciplined (σ0 := σ0.at H) (σ := σ.at H) ⟨h0.1 H, h0.2⟩ (mreach_at hr H)

end Props.C01Node
