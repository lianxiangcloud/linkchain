import LinkVerif.Gen.C07Facts

/-!
# C07 / C06 — structural facts of `(*UTXOTransaction).checkTxSemantic`, regenerated from the code (extract/jobs_c07.go)

The key-image DOMAIN check — `ringct.ScalarmultKey(input.KeyImage, ringct.CurveOrder())` must be the identity — is what makes
"one confidential output ↔ one key image" true: without it the torsion twins `KI + T` of a spent image would pass as fresh
images.  With the stub library the test is behaviourally vacuous (scalars are reduced mod l), so no run can see it; this
clause of C07 is tied by these facts ONLY.  The same holds for the duplicate-ring-member test (the harness builds rings of
size 1).  The account-input test (at least one commitment unit AND a whole number of units, C06) is tied here and also
exercised behaviourally (`ain … rem=`).
-/
namespace Props.C07Struct
open Gen.C07Facts

/-- for every confidential input the subgroup multiplication `ScalarmultKey(input.KeyImage, CurveOrder())` is computed -/
theorem ki_subgroup_call : ("ScalarmultKey", ["input.KeyImage", "ringct.CurveOrder()"]) ∈ utxoInputRingctCalls := .head _

/-- it is the only ringct computation on the key image in that clause besides `CurveOrder()` and `Identity()` (no cofactor-8
multiplication or other substitute) -/
theorem ki_ringct_calls_exact :
    utxoInputRingctCalls = [("ScalarmultKey", ["input.KeyImage", "ringct.CurveOrder()"]), ("CurveOrder", []), ("Identity", [])] := rfl

/-- its result is compared with `ringct.Identity()` by `!=`, and inequality returns ErrCheckKeyImageInvalid -/
theorem ki_subgroup_guard : (subgroupResultVar ++ " != ringct.Identity()", "ErrCheckKeyImageInvalid") ∈ utxoInputGuards := by
  simp only [subgroupResultVar, String.reduceAppend]
  exact .tail _ (.tail _ (.tail _ (.head _)))

/-- the error of the multiplication is returned -/
theorem ki_call_error_returned : ("err != nil", "err") ∈ utxoInputGuards := .tail _ (.tail _ (.head _))

/-- the guards of the confidential-input clause, exactly and in this order: duplicate key image inside the transaction,
duplicate ring member (a relative offset 0 after the first), error of the multiplication, key image outside the prime-order subgroup -/
theorem utxo_input_guards_exact :
    utxoInputGuards =
      [("ki[input.KeyImage]", "ErrCheckDupKeyImage"), ("input.KeyOffset[n] == 0", "ErrCheckDupRingMember"),
       ("err != nil", "err"), ("retKey != ringct.Identity()", "ErrCheckKeyImageInvalid")] := rfl

/-- the account input of a confidential transaction: missing, below one commitment unit, OR not a whole number of units is refused -/
theorem account_input_unit_guard :
    ("input.Amount == nil || input.Amount.Cmp(big.NewInt(utxoRate)) < 0 || big.NewInt(0).Mod(input.Amount, big.NewInt(utxoRate)).Sign() != 0",
      "ErrMoneyInvalid") ∈ accountInputGuards := .tail _ (.tail _ (.head _))

/-- at most one account input -/
theorem account_input_single : ("(kind & Ain) == Ain", "ErrAccountInputSizeNotExpect") ∈ accountInputGuards := .head _

/-- the checks of `CheckBasic` in source order: the semantic check (with the key-image domain test) comes first, before the
commitment equation, the signature data, the range proof and the ring signatures (`checkTxInputKeys`) -/
theorem semantic_check_first :
    checkBasicCalls.filter (fun c => c ∈ ["checkTxSemantic", "checkCommitEqual", "checkRctSigData", "VerifyProofSemantic", "checkTxInputKeys"]) =
      ["checkTxSemantic", "checkCommitEqual", "checkRctSigData", "VerifyProofSemantic", "checkTxInputKeys"] := by
  simp [checkBasicCalls]

end Props.C07Struct
