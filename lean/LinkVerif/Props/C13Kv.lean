/-
C13, kv-mode world state: whatever durable write of a block commit a crash cuts, the startup rule of
NewKeyValueDBWithCache brings the flat state back to exactly the state of the block store's height.
Theorems over Model.Stores Part 5; order facts from Gen.C13Facts.
-/
import LinkVerif.Model.Stores
import LinkVerif.Gen.C13Facts

namespace Props.C13Kv
open Model.Stores

/-! ## T2: the order the code writes in, and the startup cases -/

theorem kv_order_fact :
    Gen.C13Facts.saveWALCalls = ["Truncate", "saveHeight"] ∧
    Gen.C13Facts.kvTrieCommitCalls = ["saveWAL", "Commit"] ∧
    Gen.C13Facts.kvStartupCases = ["height", "height + 1", "0", "default"] := ⟨rfl, rfl, rfl⟩

def keys (us : Updates) : List Nat := us.map (·.1)

theorem applyUpd_cons (kv : KV) (p : Nat × Nat) (us : Updates) :
    applyUpd kv (p :: us) = applyUpd (fun x => if x = p.1 then p.2 else kv x) us := rfl

theorem applyUpd_append (kv : KV) (a b : Updates) : applyUpd kv (a ++ b) = applyUpd (applyUpd kv a) b := by
  unfold applyUpd; rw [List.foldl_append]

/-- the value at `x` depends on the base function only through its value at `x`, and not at all if `x` is written -/
theorem applyUpd_congr (us : Updates) (g g' : KV) (x : Nat) (h : x ∉ keys us → g x = g' x) : applyUpd g us x = applyUpd g' us x := by
  induction us generalizing g g' with
  | nil => exact h (List.not_mem_nil)
  | cons p rest ih =>
    rw [applyUpd_cons, applyUpd_cons]
    refine ih _ _ (fun hx => ?_)
    by_cases hp : x = p.1
    · rw [if_pos hp, if_pos hp]
    · rw [if_neg hp, if_neg hp]; exact h (fun hm => (List.mem_cons.mp hm).elim hp hx)

theorem applyUpd_notin (us : Updates) (g : KV) (x : Nat) (h : x ∉ keys us) : applyUpd g us x = g x := by
  induction us generalizing g with
  | nil => rfl
  | cons p rest ih =>
    have h' := not_or.mp (fun hx => h (List.mem_cons.mpr hx))
    rw [applyUpd_cons, ih _ h'.2, if_neg h'.1]

/-- writing pre-images taken from `f`: every key of `us` ends at `f`'s value, everything else is untouched -/
theorem applyUpd_pre (us : Updates) (f g : KV) (x : Nat) :
    applyUpd g (us.map (fun p => (p.1, f p.1))) x = if x ∈ keys us then f x else g x := by
  induction us generalizing g with
  | nil => simp [applyUpd, keys]
  | cons p rest ih =>
    simp only [List.map_cons]
    rw [applyUpd_cons, ih]
    simp only [keys, List.map_cons, List.mem_cons]
    by_cases h1 : x ∈ rest.map (·.1)
    · simp [h1]
    · by_cases h2 : x = p.1
      · subst h2; simp [h1]
      · simp [h1, h2]

/-! ## the invariant along a cut commit -/

variable {kv0 : KV} {H : Nat} {seen : List Nat} {d : KvDisk}

/-- while block H+1 is being written: the undo log brings the flat state back to `kv0`, and the flat state still equals
`kv0` outside the keys `seen` written so far -/
structure Mid (kv0 : KV) (H : Nat) (seen : List Nat) (d : KvDisk) : Prop where
  kvh : d.kvh = H + 1
  undo : ∀ x, applyUpd d.kv d.wal x = kv0 x
  fresh : ∀ x, x ∉ seen → d.kv x = kv0 x

def trieWrites (tries : List Updates) : List KvWrite := tries.flatMap (fun us => [.walAppend us, .batch us])

/-- the pre-images of keys not yet written are `kv0`'s values: the longer log still undoes everything, whether or not the
batch `ws` (nothing, or the trie's own updates) has been applied on top -/
theorem mid_walAppend (hm : Mid kv0 H seen d) (us ws : Updates)
    (hdis : ∀ k ∈ keys us, k ∉ seen) (hws : ∀ k ∈ keys ws, k ∈ keys us) (x : Nat) :
    applyUpd (applyUpd d.kv ws) (d.wal ++ us.map (fun p => (p.1, d.kv p.1))) x = kv0 x := by
  rw [applyUpd_append, applyUpd_pre]
  by_cases hx : x ∈ keys us
  · rw [if_pos hx]; exact hm.fresh x (hdis x hx)
  · rw [if_neg hx, applyUpd_congr d.wal (applyUpd d.kv ws) d.kv x (fun _ => applyUpd_notin ws d.kv x (fun h => hx (hws x h)))]
    exact hm.undo x

theorem mid_trie (hm : Mid kv0 H seen d) (us : Updates)
    (hdis : ∀ k ∈ keys us, k ∉ seen) :
    Mid kv0 H (keys us ++ seen) (applyWrite (applyWrite d (.walAppend us)) (.batch us)) := by
  refine ⟨hm.kvh, mid_walAppend hm us us hdis (fun _ h => h), fun x hx => ?_⟩
  simp only [List.mem_append, not_or] at hx
  show applyUpd d.kv us x = kv0 x
  rw [applyUpd_notin us d.kv x hx.1]
  exact hm.fresh x hx.2

/-- all keys the block writes are pairwise distinct (one trie's map keys are unique; different tries have disjoint key spaces) -/
def DistinctKeys (tries : List Updates) : Prop := (tries.flatMap keys).Nodup

instance (tries : List Updates) : Decidable (DistinctKeys tries) := inferInstanceAs (Decidable (List.Nodup _))

theorem kvCrashAt_cons (d : KvDisk) (w : KvWrite) (ws : List KvWrite) (k : Nat) :
    kvCrashAt d (w :: ws) (k + 1) = kvCrashAt (applyWrite d w) ws k := rfl

theorem cut_tries (tries : List Updates) (seen : List Nat) (d : KvDisk) (hm : Mid kv0 H seen d)
    (hnd : DistinctKeys tries) (hdis : ∀ k ∈ tries.flatMap keys, k ∉ seen) (k : Nat) :
    (kvCrashAt d (trieWrites tries) k).kvh = H + 1 ∧
    ∀ x, applyUpd (kvCrashAt d (trieWrites tries) k).kv (kvCrashAt d (trieWrites tries) k).wal x = kv0 x := by
  induction tries generalizing seen d k with
  | nil => simp only [trieWrites, List.flatMap_nil, kvCrashAt, List.take_nil, List.foldl_nil]; exact ⟨hm.kvh, hm.undo⟩
  | cons us rest ih =>
    have hw : trieWrites (us :: rest) = .walAppend us :: .batch us :: trieWrites rest := rfl
    rw [DistinctKeys, List.flatMap_cons] at hnd
    obtain ⟨_, hnd', hne⟩ := List.nodup_append.mp hnd
    rw [List.flatMap_cons] at hdis
    obtain ⟨hus, hdis⟩ := List.forall_mem_append.mp hdis
    rw [hw]
    match k with
    | 0 => exact ⟨hm.kvh, hm.undo⟩
    | 1 => exact ⟨hm.kvh, mid_walAppend hm us [] hus nofun⟩
    | k + 2 =>
      rw [kvCrashAt_cons, kvCrashAt_cons]
      refine ih (keys us ++ seen) _ (mid_trie hm us hus) hnd' (fun k hk hmem => ?_) k
      rcases List.mem_append.mp hmem with hku | hks
      · exact hne k hku k hk rfl
      · exact hdis k hk hks

theorem kvRecover_undo (hk : d.kvh = H + 1) : kvRecover d H = some { d with kv := applyUpd d.kv d.wal } := by
  unfold kvRecover
  rw [if_neg (by omega), if_pos hk]

/-- **C13, kv-mode world state.**  The flat state is at block H (kvHeight = H, any undo log left over).  Block H+1 with any
tries of pairwise distinct keys is committed and a crash lets exactly the first k durable writes through, for ANY k (the block
store's height descriptor is written after all of them, so the block store still says H).  Then startup does not panic and the
recovered flat state is exactly the state of block H. -/
theorem kv_recover_exact (d0 : KvDisk) (H : Nat) (h0 : d0.kvh = H) (tries : List Updates) (hnd : DistinctKeys tries) (k : Nat) :
    ∃ d, kvRecover (kvCrashAt d0 (kvCommitWrites (H + 1) tries) k) H = some d ∧ ∀ x, d.kv x = d0.kv x := by
  have hw : kvCommitWrites (H + 1) tries = .truncate :: .setHeight (H + 1) :: trieWrites tries := rfl
  rw [hw]
  match k with
  | 0 => exact ⟨d0, if_pos h0, fun _ => rfl⟩
  | 1 => exact ⟨{ d0 with wal := [] }, if_pos h0, fun _ => rfl⟩
  | k + 2 =>
    rw [kvCrashAt_cons, kvCrashAt_cons]
    have hm : Mid d0.kv H [] (applyWrite (applyWrite d0 .truncate) (.setHeight (H + 1))) :=
      ⟨rfl, fun _ => rfl, fun _ _ => rfl⟩
    obtain ⟨hk1, hk2⟩ := cut_tries tries [] _ hm hnd (fun _ _ => List.not_mem_nil) k
    generalize kvCrashAt (applyWrite (applyWrite d0 .truncate) (.setHeight (H + 1))) (trieWrites tries) k = dk at hk1 hk2
    exact ⟨_, kvRecover_undo hk1, hk2⟩

/-- restarting twice is the same as restarting once: the second startup applies the same undo log to a state it already fixed -/
theorem kv_recover_idempotent (d : KvDisk) (H : Nat) (d1 : KvDisk) (h : kvRecover d H = some d1) (hk : d.kvh = H + 1)
    (hnd : (keys d.wal).Nodup) : ∃ d2, kvRecover d1 H = some d2 ∧ ∀ x, d2.kv x = d1.kv x := by
  rw [kvRecover_undo hk] at h
  cases h
  -- applying the same list of writes twice: last write wins both times
  exact ⟨_, kvRecover_undo hk, fun x => applyUpd_congr d.wal (applyUpd d.kv d.wal) d.kv x (applyUpd_notin d.wal d.kv x)⟩

/-- non-vacuity: two tries (keys 1,2 and 7), cut after the first batch (k = 4): the flat state holds the new values of
keys 1 and 2, the undo log restores them -/
def nv0 : KvDisk := { kv := fun x => if x = 1 then 10 else if x = 7 then 70 else 0, wal := [(9, 9)], kvh := 5 }
def nvTries : List Updates := [[(1, 11), (2, 22)], [(7, 0)]]
example : DistinctKeys nvTries := by decide
example : ((kvCrashAt nv0 (kvCommitWrites 6 nvTries) 4).kv 1, (kvCrashAt nv0 (kvCommitWrites 6 nvTries) 4).kv 2,
           (kvCrashAt nv0 (kvCommitWrites 6 nvTries) 4).wal) = (11, 22, [(1, 10), (2, 0)]) := by decide
example : ((kvRecover (kvCrashAt nv0 (kvCommitWrites 6 nvTries) 4) 5).map (fun d => (d.kv 1, d.kv 2, d.kv 7))) = some (10, 0, 70) := by decide
example : ((kvRecover (kvCrashAt nv0 (kvCommitWrites 6 nvTries) 6) 5).map (fun d => (d.kv 1, d.kv 2, d.kv 7))) = some (10, 0, 70) := by decide

end Props.C13Kv
