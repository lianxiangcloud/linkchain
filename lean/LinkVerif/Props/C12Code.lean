/-
C12 (helper for non-vacuity): a concrete injective, never-empty byte encoding of `Blk`, built from
self-delimiting (prefix) codes.  It is NOT the wire format of the node; it only shows that the
hypothesis "the block encoding is injective" of `perturb_changes_id` is satisfiable.
-/
import LinkVerif.Props.C12Block

namespace Props.C12
open Model.Merkle Model.BlockId

/-- `f` is a prefix code: a code word followed by anything determines the value and the rest -/
def Pre {α : Type} (f : α → Bytes) : Prop := ∀ (a b : α) (r s : Bytes), f a ++ r = f b ++ s → a = b ∧ r = s

theorem Pre.injective {α : Type} {f : α → Bytes} (h : Pre f) : Function.Injective f := by
  intro a b hab
  exact (h a b [] [] (by rw [hab])).1

abbrev Code (α : Type) := { f : α → Bytes // Pre f }

namespace Code
variable {α β : Type}

def byte : Code UInt8 := ⟨fun x => [x], fun _ _ _ _ h => List.cons.inj h⟩

def pair (c : Code α) (d : Code β) : Code (α × β) := ⟨fun p => c.1 p.1 ++ d.1 p.2, by
  intro a b r s h
  rw [List.append_assoc, List.append_assoc] at h
  obtain ⟨e₁, h'⟩ := c.2 _ _ _ _ h
  obtain ⟨e₂, hr⟩ := d.2 _ _ _ _ h'
  exact ⟨Prod.ext e₁ e₂, hr⟩⟩

def comap (c : Code β) (g : α → β) (hg : Function.Injective g) : Code α := ⟨fun a => c.1 (g a), by
  intro a b r s h
  obtain ⟨e, hr⟩ := c.2 _ _ r s h
  exact ⟨hg e, hr⟩⟩

theorem pre_items (c : Code α) {a b : List α} {r s : Bytes}
    (h : (a.map fun x => 1 :: c.1 x).flatten ++ 0 :: r = (b.map fun x => 1 :: c.1 x).flatten ++ 0 :: s) : a = b ∧ r = s := by
  induction a generalizing b with
  | nil =>
    cases b with
    | nil => exact ⟨rfl, (List.cons.inj h).2⟩
    | cons y ys => exact absurd (List.cons.inj h).1 (by decide)
  | cons x xs ih =>
    cases b with
    | nil => exact absurd (List.cons.inj h).1 (by decide)
    | cons y ys =>
      simp only [List.map_cons, List.flatten_cons, List.cons_append, List.append_assoc] at h
      obtain ⟨e, h'⟩ := c.2 _ _ _ _ (List.cons.inj h).2
      obtain ⟨e', hr⟩ := ih h'
      exact ⟨by rw [e, e'], hr⟩

def list (c : Code α) : Code (List α) := ⟨fun l => (l.map fun x => 1 :: c.1 x).flatten ++ [0], by
  intro a b r s h
  rw [List.append_assoc, List.append_assoc] at h
  exact c.pre_items h⟩

def nat : Code Nat := byte.list.comap (List.replicate · 0) (by
  intro a b h
  simpa using congrArg List.length h)

def opt (c : Code α) : Code (Option α) := c.list.comap Option.toList (by
  intro a b h
  cases a <;> cases b <;> cases h <;> rfl)

def bytes : Code Bytes := byte.list

def int : Code Int := (nat.pair nat).comap (fun | .ofNat n => (0, n) | .negSucc n => (1, n)) (by
  intro a b h
  cases a <;> cases b <;> cases h <;> rfl)

def blockID : Code BlockIDv := (bytes.pair (int.pair bytes)).comap (fun v => (v.hash, v.total, v.phash)) (by
  intro a b h
  cases a; cases b
  cases h
  rfl)

/-- a field value as (constructor number, its payload among three slots, the others empty) -/
def fval : Code FVal := (nat.pair (bytes.pair (nat.pair blockID))).comap
  (fun
    | .str b => (0, b, 0, ⟨[], 0, []⟩)
    | .uint n => (1, [], n, ⟨[], 0, []⟩)
    | .bytes b => (2, b, 0, ⟨[], 0, []⟩)
    | .blockID v => (3, [], 0, v)) (by
  intro a b h
  cases a <;> cases b <;> cases h <;> rfl)

def blk : Code Blk :=
  (fval.list.pair (nat.pair (bytes.list.pair (bytes.list.pair (blockID.pair bytes.opt.list))))).comap
    (fun b => (b.hashed, b.recover, b.txs, b.evidence, b.commitBlockID, b.precommits)) (by
  intro a b h
  cases a; cases b
  cases h
  rfl)

end Code

def toySer : Blk → Bytes := Code.blk.1

/-- the encoding starts with the code of the list `hashed`, which ends in a `0` byte -/
theorem toySer_ne (b : Blk) : toySer b ≠ [] :=
  List.append_ne_nil_of_left_ne_nil (List.append_ne_nil_of_right_ne_nil _ (List.cons_ne_nil 0 [])) _

/-- free digests -/
inductive FD where
  | nil
  | field (v : FVal)
  | pair (k : Bytes) (v : FD)
  | node (l r : FD)
  | part (b : Bytes)

instance : Inhabited FD := ⟨.nil⟩

/-- ALL hypotheses of `perturb_changes_id` hold together: free-term digests + the toy encoding -/
def freeScheme : Scheme FD where
  H2 := FD.node
  KV := FD.pair
  FH := FD.field
  LH := FD.part
  ser := toySer
  inj2 := fun _ _ _ _ => FD.node.inj
  kv_inj := fun _ _ _ _ => FD.pair.inj
  fh_inj := fun _ _ => FD.field.inj
  lh_inj := fun _ _ => FD.part.inj
  ser_inj := Code.blk.2.injective
  ser_ne := toySer_ne

/-- non-vacuity of `perturb_changes_id`: an instance -/
example (b₁ b₂ : Blk) (h : b₁ ≠ b₂) :
    blockHash freeScheme b₁ ≠ blockHash freeScheme b₂ ∨ partsHeader freeScheme 64 b₁ ≠ partsHeader freeScheme 64 b₂ :=
  perturb_changes_id FD freeScheme 64 (by decide) b₁ b₂ h

/-- `Recover` is serialised but not hashed: two well-formed blocks that differ only there have the same
block hash (this is why the signed identity is the PAIR of block hash and part-set header).  The same
input replays on the real code: the `Recover` perturbation of every generated block keeps `Block.Hash()`
and changes `MakePartSet().Header()` (harness monitor `perturb_changes_id`). -/
theorem C12_hash_alone_counterexample : ¬ C12_hash_alone_statement := by
  intro h
  let b : Blk := ⟨List.replicate 17 (.uint 0), 0, [], [], ⟨[], 0, []⟩, []⟩
  exact h FD freeScheme b { b with recover := 1 } (by unfold Blk.WF; decide) (by unfold Blk.WF; decide) (by decide) rfl

end Props.C12
