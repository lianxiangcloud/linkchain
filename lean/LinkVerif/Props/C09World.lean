/-
C09: the consequences of `NS` for the tree as it is now (deepCopy clones the Tokens map).  Clause 1 with the "token map still
private" half of `Safe` DROPPED: in a state without shared cells (every state of a world built by the cloning `Copy`) the only
remaining side condition at `Suicide` is non-negative balances.  Clause 2 in full: a WORLD of any number of states over one heap
(the composition the driver executes: `ctxOf`/`putCtx`), histories of mutators, snapshots, reverts (valid or panicking),
Finalise, Commit and Copy (copies of copies, sibling copies) on ANY handle: the heap never changes, so no operation of any
state is observable in any other state.
-/
import LinkVerif.Props.C09Copy

namespace Props.C09
open Model.StateDB

/-- what remains of `SafeOp`: `suicideChange` remembers only strictly positive balances -/
def SafeOpNN (c : Ctx) : Op → Prop
  | .suicide a => ∀ o, peek c.st a = some o → 0 ≤ o.balance ∧ ∀ t v, tokMapOf c.heap o t = some v → 0 ≤ v
  | _ => True

def SafeNN (cfg : Cfg) : Ctx → List Step → Prop
  | _, [] => True
  | c, s :: rest => (match s with
      | .op o => SafeOpNN c o
      | _ => True) ∧ SafeNN cfg (stepCtx cfg c s) rest

theorem safeOp_of_nn (c : Ctx) (op : Op) (hn : NSo c.st) (h : SafeOpNN c op) : SafeOp c op := by
  cases op <;> try trivial
  case suicide a =>
    intro o ho
    obtain ⟨hb, ht⟩ := h o ho
    obtain ⟨m, hm⟩ := NSo_peek hn ho
    exact ⟨hb, m, hm, fun t v hv => ht t v (by simpa [tokMapOf, hm] using hv)⟩

theorem safe_of_nn (cfg : Cfg) (steps : List Step) : ∀ c, NS c.st → SafeNN cfg c steps → Safe cfg c steps := by
  induction steps with
  | nil => intro _ _ _; trivial
  | cons s rest ih =>
    intro c hn hs
    refine ⟨?_, ih _ (step_ns cfg c s hn).2 hs.2⟩
    cases s with
    | op o => exact safeOp_of_nn c o hn.1 hs.1
    | snap => trivial
    | revert i => trivial

/-- `revert_exact` for a state without shared cells: the side condition at `Suicide` is non-negativity only -/
theorem revert_exact_ns (cfg : Cfg) (c : Ctx) (hw : WF c.st) (hB : ∀ p ∈ c.st.revs, p.1 < c.st.nextRev) (hn : NS c.st)
    (steps : List Step) (hs : SafeNN cfg (snapshot c).1 steps) (hnest : WellNested (snapshot c).2 steps) :
    ∃ c2, revertTo (run cfg (snapshot c).1 steps) (snapshot c).2 = some c2 ∧ obs c2 = obs c :=
  revert_exact cfg c hw hB steps (safe_of_nn cfg steps _ hn hs) hnest

/-- … and for arbitrary revision ids: panic or exact -/
theorem revert_exact_any_ns (cfg : Cfg) (c : Ctx) (hw : WF c.st) (hB : ∀ p ∈ c.st.revs, p.1 < c.st.nextRev) (hn : NS c.st)
    (steps : List Step) (hs : SafeNN cfg (snapshot c).1 steps) :
    revertTo (run cfg (snapshot c).1 steps) (snapshot c).2 = none ∨
    ∃ c2, revertTo (run cfg (snapshot c).1 steps) (snapshot c).2 = some c2 ∧ obs c2 = obs c :=
  revert_exact_any cfg c hw hB steps (safe_of_nn cfg steps _ hn hs)

/-- any number of states over one heap (what `Driver.C09.St` holds) -/
structure World where
  heap : Ref → TokMap
  nextRef : Nat
  states : Nat → Option State

inductive WOp where
  | step (h : Nat) (s : Step)              -- mutator / Snapshot / RevertToSnapshot on handle h
  | finalise (h : Nat) (del : Bool)        -- Finalise / IntermediateRoot
  | commit (h : Nat) (del : Bool)
  | copy (h n : Nat)                       -- handle n := Copy() of handle h

def World.ctx (w : World) (x : State) : Ctx := { heap := w.heap, nextRef := w.nextRef, st := x }
def World.put (w : World) (h : Nat) (c : Ctx) : World := { heap := c.heap, nextRef := c.nextRef, states := upd w.states h (some c.st) }

def wstep (cfg : Cfg) (w : World) : WOp → World
  | .step h s => match w.states h with
    | none => w
    | some x => w.put h (stepCtx cfg (w.ctx x) s)
  | .finalise h del => match w.states h with
    | none => w
    | some x => w.put h (finalise del (w.ctx x))
  | .commit h del => match w.states h with
    | none => w
    | some x => w.put h (commit del (w.ctx x))
  | .copy h n => match w.states h with
    | none => w
    | some x =>
      let r := copy cfg (w.ctx x)
      let w1 := w.put h r.1
      { w1 with states := upd w1.states n (some r.2) }

def wrun (cfg : Cfg) (w : World) (ops : List WOp) : World := ops.foldl (wstep cfg) w

/-- the handle whose state the operation may change (`copy` leaves its source as it is: see `copy_ns`) -/
def WOp.target : WOp → Nat
  | .step h _ => h
  | .finalise h _ => h
  | .commit h _ => h
  | .copy _ n => n

def AllNS (w : World) : Prop := ∀ h x, w.states h = some x → NS x

theorem AllNS_put {w : World} (hw : AllNS w) (h : Nat) (c : Ctx) (hc : NS c.st) : AllNS (w.put h c) := by
  intro k x hk
  by_cases hkh : k = h
  · subst hkh; simp [World.put] at hk; subst hk; exact hc
  · simp [World.put, hkh] at hk; exact hw k x hk

theorem World.put_ns {w : World} (hw : AllNS w) (h : Nat) {x : State} {c' : Ctx} (hf : Fn (w.ctx x) c') :
    (w.put h c').heap = w.heap ∧ AllNS (w.put h c') ∧ ∀ k, k ≠ h → (w.put h c').states k = w.states k :=
  ⟨hf.1, AllNS_put hw h _ hf.2, fun k hk => by simp [World.put, hk]⟩

theorem World.put_self {w : World} {h : Nat} {x : State} (hx : w.states h = some x) : w.put h (w.ctx x) = w := by
  simp only [World.put, World.ctx, ← hx, upd_self]

theorem world_step_ns (cfg : Cfg) (hc : cfg.cloneTokens = true) (w : World) (op : WOp) (hw : AllNS w) :
    (wstep cfg w op).heap = w.heap ∧ AllNS (wstep cfg w op) ∧ ∀ k, k ≠ op.target → (wstep cfg w op).states k = w.states k := by
  cases op with
  | step h s =>
    simp only [wstep, WOp.target]
    cases hx : w.states h with
    | none => exact ⟨rfl, hw, fun _ _ => rfl⟩
    | some x => exact World.put_ns hw h (step_ns cfg (w.ctx x) s (hw h x hx))
  | finalise h del =>
    simp only [wstep, WOp.target]
    cases hx : w.states h with
    | none => exact ⟨rfl, hw, fun _ _ => rfl⟩
    | some x => exact World.put_ns hw h (finalise_ns del (w.ctx x) (hw h x hx))
  | commit h del =>
    simp only [wstep, WOp.target]
    cases hx : w.states h with
    | none => exact ⟨rfl, hw, fun _ _ => rfl⟩
    | some x => exact World.put_ns hw h (commit_ns del (w.ctx x) (hw h x hx))
  | copy h n =>
    simp only [wstep, WOp.target]
    cases hx : w.states h with
    | none => exact ⟨rfl, hw, fun _ _ => rfl⟩
    | some x =>
      -- the source is put back unchanged (`copy_ns`), the copy is a new state without shared cells
      obtain ⟨h1, h2⟩ := copy_ns cfg hc (w.ctx x)
      dsimp only
      rw [h1, World.put_self hx]
      exact World.put_ns hw n (x := (copy cfg (w.ctx x)).2) (c' := w.ctx (copy cfg (w.ctx x)).2) ⟨rfl, h2⟩

theorem world_run_ns (cfg : Cfg) (hc : cfg.cloneTokens = true) (ops : List WOp) :
    ∀ w, AllNS w → (wrun cfg w ops).heap = w.heap ∧ AllNS (wrun cfg w ops) :=
  fun w hw => List.foldlRecOn ops _ (motive := fun w' => w'.heap = w.heap ∧ AllNS w') ⟨rfl, hw⟩ (fun w' h op _ =>
    have h' := world_step_ns cfg hc w' op h.2
    ⟨h'.1.trans h.1, h'.2.1⟩)

/-- what handle `k` shows: every getter named in the property, through the world's heap -/
def World.obsAt (w : World) (k : Nat) : Option Obs := (w.states k).map (obsWith w.heap)

/-- **C09, second clause, in full**: a history of arbitrary operations (mutators, snapshots, reverts, Finalise, Commit, Copy)
none of which targets handle `k` changes no observable of `k` — the original does not see its copies, a copy sees neither the
original nor its siblings nor copies of copies. -/
theorem world_independent (cfg : Cfg) (hc : cfg.cloneTokens = true) (ops : List WOp) (k : Nat) :
    ∀ w, AllNS w → (∀ op ∈ ops, op.target ≠ k) → (wrun cfg w ops).obsAt k = w.obsAt k := by
  induction ops with
  | nil => intro w _ _; rfl
  | cons op rest ih =>
    intro w hw hk
    obtain ⟨h1, h2, h3⟩ := world_step_ns cfg hc w op hw
    have := ih _ h2 (fun o ho => hk o (List.mem_cons_of_mem _ ho))
    show (wrun cfg (wstep cfg w op) rest).obsAt k = w.obsAt k
    rw [this]
    simp only [World.obsAt, h1, h3 k (Ne.symm (hk op (by simp)))]

/-- `Copy` starts the copy with an empty revision stack -/
theorem copy_revs (cfg : Cfg) (c : Ctx) : (copy cfg c).2.revs = [] ∧ (copy cfg c).2.nextRev = 0 :=
  (copy_fresh cfg c).2

def World.fresh : World := { heap := fun _ => emptyToks, nextRef := 0, states := upd (fun _ => none) 0 (some State.empty) }

theorem AllNS_single (heap : Ref → TokMap) (n : Nat) {x : State} (hx : NS x) :
    AllNS { heap := heap, nextRef := n, states := upd (fun _ => none) 0 (some x) } :=
  AllNS_put (w := ⟨heap, n, fun _ => none⟩) (fun _ _ h => nomatch h) 0 ⟨heap, n, x⟩ hx

theorem AllNS_reachable (cfg : Cfg) (hc : cfg.cloneTokens = true) (ops : List WOp) : AllNS (wrun cfg World.fresh ops) :=
  (world_run_ns cfg hc ops _ (AllNS_single _ _ NS_empty)).2

end Props.C09
