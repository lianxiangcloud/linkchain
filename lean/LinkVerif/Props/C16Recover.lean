/-
C16 — recover proposals: `defaultSetProposal` acts on a RECOVER proposal before it verifies the signature.

Full statement (what C16 says): a proposal whose signature does not verify leaves the state unchanged.  It is FALSE of the
code: kernel-checked counterexample built from the harness witness
(`recover seed=132578107821 phase=45 prop=0 sr=0 vars=sh13.dr1.dh0.tR.snone.vh`: height 1, round 1, 8 votes held, no proposal,
13 minutes since the start time, unsigned recover proposal for round 2).  Partial statement, proved: unchanged for every
proposal that is not of recover type, and for recover proposals before the limit / for a round not above the node's / for
another height / with the recover step already set / while a proposal is held — i.e. the ONLY unsigned input that changes
the state is the shape of known finding `recover-proposal-acts-before-signature-check`.
-/
import LinkVerif.Props.C16

namespace Props.C16Recover
open Model.PeerInput Props.C16

/-- C16 for `defaultSetProposal`: an input that carries no valid signature leaves the state as it was (false of the code:
`unsigned_proposal_leaves_state_counterexample`) -/
def unsigned_proposal_leaves_state_statement : Prop :=
  ∀ (st : ConsView) (p : ProposalIn) (elapsed : Nat) (maxParts : Int),
    p.sigOk = false → (setProposalFull st p elapsed maxParts).1 = st

/-- the node of the witness just before the delivery -/
def witnessState : ConsView :=
  { height := 1, round := 1, hasProposal := false, commitStep := false, stepRecover := false, recoverCount := 0,
    recoverSet := false, votesHeld := 8 }

/-- the unsigned recover proposal of the witness -/
def witnessProposal : ProposalIn :=
  { type := .recover, height := 1, round := 2, polRound := -1, total := 1, sigOk := false }

/-- what the real node did (harness: round 1->2, votes-held 8->0, step-recover false->true, recover 0->1), and the reply
is the signature error: the state had already changed.  673 is `maxBlockParts()` under the default parameters
(BlockSize.MaxBytes 22020096 / BlockPartSizeBytes 32768 + 1); the value plays no part here. -/
theorem witness_outcome :
    setProposalFull witnessState witnessProposal 13 673 =
      ({ height := 1, round := 2, hasProposal := false, commitStep := false, stepRecover := true, recoverCount := 1,
         recoverSet := true, votesHeld := 0 }, .rejected "ErrInvalidProposalSignature") := rfl

theorem unsigned_proposal_leaves_state_counterexample : ¬ unsigned_proposal_leaves_state_statement := by
  intro h
  have := h witnessState witnessProposal 13 673 rfl
  rw [witness_outcome] at this
  exact absurd this (by decide)

/-- the shape of the finding -/
def RecoverShape (st : ConsView) (p : ProposalIn) (elapsed : Nat) : Prop :=
  p.type = .recover ∧ st.stepRecover = false ∧ st.hasProposal = false ∧ p.height = st.height ∧ st.round < p.round ∧
    recoverLimit ≤ elapsed

instance (st : ConsView) (p : ProposalIn) (e : Nat) : Decidable (RecoverShape st p e) := by
  unfold RecoverShape; exact inferInstance

/-- **partial statement**: outside the recover shape an unsigned proposal leaves the state unchanged -/
theorem unsigned_proposal_leaves_state_partial (st : ConsView) (p : ProposalIn) (elapsed : Nat) (maxParts : Int)
    (hs : p.sigOk = false) (hshape : ¬ RecoverShape st p elapsed) :
    (setProposalFull st p elapsed maxParts).1 = st := by
  let P : ConsView × Reply → Prop := (·.1 = st)
  show P _
  unfold setProposalFull
  refine ite_ind (fun _ => rfl) fun hp => ite_ind (fun hr => ?_) fun _ => ?_
  · -- the recover branch rejects, or else the input has the shape
    refine ite_ind (fun _ => rfl) fun hm => ite_ind (fun _ => rfl) fun ht =>
      absurd ⟨hr.1, hr.2, by simpa using hp, ?_, ?_, ?_⟩ hshape
    · exact Decidable.not_not.1 fun hh => hm (Or.inl hh)
    · omega
    · omega
  · -- the ordinary path: four rejections, then the signature check
    iterate 4 refine ite_ind (fun _ => rfl) fun _ => ?_
    rw [hs]; rfl

theorem non_recover_unsigned_unchanged (st : ConsView) (p : ProposalIn) (elapsed : Nat) (maxParts : Int)
    (hs : p.sigOk = false) (ht : p.type ≠ .recover) : (setProposalFull st p elapsed maxParts).1 = st :=
  unsigned_proposal_leaves_state_partial st p elapsed maxParts hs (fun h => ht h.1)

theorem recover_before_limit_unchanged (st : ConsView) (p : ProposalIn) (elapsed : Nat) (maxParts : Int)
    (hs : p.sigOk = false) (ht : elapsed < recoverLimit) : (setProposalFull st p elapsed maxParts).1 = st :=
  unsigned_proposal_leaves_state_partial st p elapsed maxParts hs fun ⟨_, _, _, _, _, hl⟩ => Nat.not_le.2 ht hl

/-- and in the shape the state ALWAYS changes, whatever the signature: the recover step is set and the votes are gone -/
theorem recover_shape_changes_state (st : ConsView) (p : ProposalIn) (elapsed : Nat) (maxParts : Int)
    (h : RecoverShape st p elapsed) :
    (setProposalFull st p elapsed maxParts).1.stepRecover = true ∧ (setProposalFull st p elapsed maxParts).1.votesHeld = 0 ∧
    (setProposalFull st p elapsed maxParts).1.round = st.round + 1 := by
  obtain ⟨h1, h2, h3, h4, h5, h6⟩ := h
  let P : ConsView × Reply → Prop := fun x => x.1.stepRecover = true ∧ x.1.votesHeld = 0 ∧ x.1.round = st.round + 1
  show P _
  unfold setProposalFull
  refine ite_ind (fun hp => absurd (h3 ▸ hp) Bool.false_ne_true) fun _ => ite_ind (fun _ => ?_) fun hr => absurd ⟨h1, h2⟩ hr
  refine ite_ind (fun hm => ?_) fun _ => ite_ind (fun ht => ?_) fun _ => ?_
  · rcases hm with hm | hm
    · exact absurd h4 hm
    · omega
  · omega
  · -- whatever the rest of the function answers, it no longer touches these fields
    iterate 5 refine ite_ind (fun _ => ⟨rfl, rfl, rfl⟩) fun _ => ?_
    exact ⟨rfl, rfl, rfl⟩

/-! ## Non-vacuity -/
example : ¬ RecoverShape witnessState { witnessProposal with type := .normal } 13 := by decide
example : RecoverShape witnessState witnessProposal 13 := by decide
example : (setProposalFull witnessState witnessProposal 11 673).1 = witnessState := rfl
example : setProposalFull witnessState { type := .normal, height := 1, round := 1, polRound := -1, total := 1, sigOk := true } 0 673
    = ({ witnessState with hasProposal := true }, .accepted) := rfl

end Props.C16Recover
