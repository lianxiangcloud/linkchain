/-
C11: the second parser of the format (libs/ser/raw.go: Split, SplitString, SplitList, CountValues — used by the trie node
decoder and by stateObject.GetCommittedState) against layer 1 and against Stream.Kind; the size guards of the reactors.
-/
import LinkVerif.Model.Ser
import LinkVerif.Props.C11Round
import LinkVerif.Gen.C11ReaderSites

namespace Props.C11
open Model.Rlp Model.Ser

/-- on strings and single bytes `Split` IS the strict layer-1 decoder (same acceptance, same content, same rest) -/
theorem split_str_of_dec (b c r : Bytes) (h : dec b = .ok (.str c, r)) : ∃ k, k ≠ Kind.list ∧ split b = .ok (k, c, r) := by
  unfold dec at h
  rw [decF_succ] at h
  cases hs : split b with
  | error e => rw [hs] at h; cases h
  | ok v =>
    obtain ⟨k, c', r'⟩ := v
    rw [hs] at h
    cases k with
    | byte | string => cases h; exact ⟨_, by nofun, rfl⟩
    | list =>
      dsimp only at h
      cases hd : decListF (2 * b.length + 1) c' with
      | error e => rw [hd] at h; cases h
      | ok is => rw [hd] at h; cases h

theorem dec_of_split_str (b c r : Bytes) (k : Kind) (hk : k ≠ Kind.list) (h : split b = .ok (k, c, r)) :
    dec b = .ok (.str c, r) := by
  unfold dec
  rw [decF_succ, h]
  cases k with
  | list => exact absurd rfl hk
  | byte | string => rfl

/-- a list `Split` accepts has the canonical header of its content: Split is as strict about sizes as the strict decoder -/
theorem split_list_canonical (b c r : Bytes) (h : split b = .ok (.list, c, r)) :
    b = encHead 0xC0 0xF7 c.length ++ c ++ r :=
  split_canon h

/-- whatever `Split` accepts, `Stream.Kind` on the same bytes (DecodeBytes' stream) accepts with the same kind and size:
    the two hand-written parsers cannot disagree in that direction.  (The converse - Stream accepts ⇒ Split accepts, up to the
    one-byte-string rule that Stream applies only in Bytes() - is tied by the `split` op's x=agree monitor, not proved.) -/
theorem split_accepts_kindOf (b c r : Bytes) (k : Kind) (h : split b = .ok (k, c, r)) :
    (kindOf ({ rest := b } : Stream)).1 = (k, (if k = Kind.byte then 0 else c.length), none) := by
  obtain ⟨sz, bv, r0, hh, hc⟩ := split_ok h
  have hcan := readHead_canon b r0 k sz bv hh
  rcases hc with ⟨rfl, _, _⟩ | ⟨hkb, hlen, rfl, _, _⟩
  · obtain ⟨_, _, rfl⟩ := hcan
    rw [kindOf_ok { rest := b } .byte 0 bv r0 rfl hh trivial (Nat.zero_le _)]
    rfl
  · rw [kindOf_ok { rest := b } k sz bv r0 rfl hh trivial (Nat.le_of_not_lt hlen), if_neg hkb, List.length_take,
      Nat.min_eq_left (Nat.le_of_not_lt hlen)]

/-! non-vacuity and the strictness of the second parser: the same rejections as the strict decoder -/
set_option maxRecDepth 100000 in
example : split [0x82, 0xAA, 0xBB, 0x01] = .ok (.string, [0xAA, 0xBB], [0x01]) := by rfl
set_option maxRecDepth 100000 in
example : split [0x81, 0x05] = .error .canonSize := by rfl
set_option maxRecDepth 100000 in
example : split [0xB8, 0x05, 1, 2, 3, 4, 5] = .error .canonSize := by rfl
set_option maxRecDepth 100000 in
example : split [0xB9, 0x00, 0x40] = .error .canonSize := by rfl
set_option maxRecDepth 100000 in
example : split [0xC3, 0x01] = .error .valueTooLarge := by rfl
set_option maxRecDepth 100000 in
example : countValues 10 [0x01, 0x80, 0xC1, 0x05] = .ok 3 := by rfl

/-! ### T2: the size guard of every reactor's decodeMsg (regenerated) -/

/-- consensus, blockchain and evidence refuse a message above their maxMsgSize before decoding it; the mempool reactor's guard
    is commented out in the source (its messages are bounded by the connection's receive capacity only).  All four decode
    with DecodeBytesWithType, whose stream is limited by the message length (reader_alloc_le_limit / decodeBytes).
    The limits the harness passes to the model (`max=`) are the texts pinned here. -/
theorem decodeMsg_guards :
    Gen.C11ReaderSites.decodeMsgGuards =
      [("blockchain/reactor.go", "guard", "types.MaxBlockSizeBytes + bcBlockResponseMessagePrefixSize + bcBlockResponseMessageFieldKeySize", "DecodeBytesWithType"),
       ("consensus/reactor.go", "guard", "1048576", "DecodeBytesWithType"),
       ("evidence/reactor.go", "guard", "1048576", "DecodeBytesWithType"),
       ("mempool/reactor.go", "noguard", "1048576", "DecodeBytesWithType")] := rfl

end Props.C11
