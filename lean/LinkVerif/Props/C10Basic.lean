/-
C10 vocabulary and its lemmas: `strip`, `split` and `get` on short and full nodes, terminator keys (`Suf`, `KeyOK`, `KeyAt`),
the normal form `WF`, positions (`Pos`) and the induction over them that the structural proofs of the other C10 modules use.
-/
import LinkVerif.Model.Trie

namespace Props.C10
open Model.Trie

/-- a suffix of a HEX key: the terminator occurs exactly at the last position (`[]` = just past the terminator) -/
def Suf : List Nib → Prop
  | [] => True
  | x :: r => (x = term ↔ r = []) ∧ Suf r

/-- the key of a short node: non-empty, no terminator before the last position, and the last nibble is the
terminator iff the child is a value (`v`) -/
def KeyOK (v : Bool) : List Nib → Prop
  | [] => False
  | [x] => (x = term ↔ v = true)
  | x :: y :: r => x ≠ term ∧ KeyOK v (y :: r)

/-- the normal form kept by `insert`/`delete` (for non-nil nodes): no short under short, no empty short key, every full
node has at least two children, values exactly where the path has just consumed the terminator -/
def WF : Node → Prop
  | .nil => False
  | .value _ => True
  | .short k c => KeyOK c.isValue k ∧ c.isShort = false ∧ WF c
  | .full c => (∀ i, (c i).isNil = true ∨ (WF (c i) ∧ ((c i).isValue = true ↔ i = term))) ∧
               (∃ i j, i ≠ j ∧ (c i).isNil = false ∧ (c j).isNil = false)

/-- keys addressed to a position: `v = true` just past the terminator (only `[]`), else non-empty terminator keys -/
def KeyAt (v : Bool) (key : List Nib) : Prop := Suf key ∧ (key = [] ↔ v = true)

/-- a position: empty, or a normal-form node of the right kind -/
def Pos (v : Bool) (n : Node) : Prop := n.isNil = true ∨ (WF n ∧ n.isValue = v)

theorem strip_eq_some {k key r : List Nib} : strip k key = some r ↔ key = k ++ r := by
  induction k generalizing key with
  | nil => simp [strip, eq_comm]
  | cons a k ih =>
    cases key with
    | nil => simp [strip]
    | cons b key =>
      simp only [strip]
      split
      · next h => subst h; simp [ih]
      · next h =>
        constructor
        · intro h'; cases h'
        · intro h'; simp at h'; exact absurd h'.1.symm h

theorem strip_append (k r : List Nib) : strip k (k ++ r) = some r := strip_eq_some.mpr rfl

theorem strip_cons_ne {x i : Nib} (h : x ≠ i) (xr r : List Nib) : strip (x :: xr) (i :: r) = none := by
  simp [strip, h]

theorem strip_cons_eq (x : Nib) (xr r : List Nib) : strip (x :: xr) (x :: r) = strip xr r := by
  simp [strip]

theorem strip_append_bind (p q key : List Nib) : strip (p ++ q) key = (strip p key).bind (strip q) := by
  induction p generalizing key with
  | nil => simp [strip]
  | cons a p ih =>
    cases key with
    | nil => simp [strip]
    | cons b key =>
      simp only [List.cons_append, strip]
      split
      · exact ih key
      · rfl

theorem strip_append_append (p q key : List Nib) : strip (p ++ q) (p ++ key) = strip q key := by
  rw [strip_append_bind, strip_append]; rfl

theorem strip_diverge (p : List Nib) {x y : Nib} (h : x ≠ y) (r1 r2 : List Nib) :
    strip (p ++ x :: r1) (p ++ y :: r2) = none := by
  rw [strip_append_append, strip_cons_ne h]

/-- how two keys compare, and what `split` (`prefixLen`) returns in each case: equal, one a proper prefix of the other,
or diverging after a common prefix -/
theorem split_cases : ∀ (a b : List Nib),
    (a = b ∧ split a b = (a, [], [])) ∨ (∃ y r, b = a ++ y :: r ∧ split a b = (a, [], y :: r)) ∨
    (∃ x r, a = b ++ x :: r ∧ split a b = (b, x :: r, [])) ∨
    (∃ p x y r1 r2, x ≠ y ∧ a = p ++ x :: r1 ∧ b = p ++ y :: r2 ∧ split a b = (p, x :: r1, y :: r2)) := by
  intro a
  induction a with
  | nil =>
    intro b
    cases b with
    | nil => exact Or.inl ⟨rfl, rfl⟩
    | cons y r => exact Or.inr (Or.inl ⟨y, r, rfl, rfl⟩)
  | cons a as ih =>
    intro b
    cases b with
    | nil => exact Or.inr (Or.inr (Or.inl ⟨a, as, rfl, rfl⟩))
    | cons b bs =>
      by_cases hab : a = b
      · subst hab
        have hs : split (a :: as) (a :: bs) = (a :: (split as bs).1, (split as bs).2.1, (split as bs).2.2) := by
          simp only [split, if_true]
        rw [hs]
        rcases ih bs with ⟨h, e⟩ | ⟨y, r, h, e⟩ | ⟨x, r, h, e⟩ | ⟨p, x, y, r1, r2, hxy, h1, h2, e⟩
        · exact Or.inl ⟨by rw [h], by rw [e]⟩
        · exact Or.inr (Or.inl ⟨y, r, by rw [h]; rfl, by rw [e]⟩)
        · exact Or.inr (Or.inr (Or.inl ⟨x, r, by rw [h]; rfl, by rw [e]⟩))
        · exact Or.inr (Or.inr (Or.inr ⟨a :: p, x, y, r1, r2, hxy, by rw [h1]; rfl, by rw [h2]; rfl, by rw [e]⟩))
      · exact Or.inr (Or.inr (Or.inr ⟨[], a, b, as, bs, hab, rfl, rfl, by simp only [split, if_neg hab]⟩))

theorem get_short_bind (k : List Nib) (c : Node) (key : List Nib) :
    Model.Trie.get (.short k c) key = (strip k key).bind (Model.Trie.get c) := by
  simp only [Model.Trie.get]
  cases strip k key <;> rfl

theorem get_short_append (k : List Nib) (c : Node) (r : List Nib) : get (.short k c) (k ++ r) = get c r := by
  rw [get_short_bind, strip_append]; rfl

theorem get_short_of_strip_none {k key : List Nib} (c : Node) (h : strip k key = none) : get (.short k c) key = none := by
  rw [get_short_bind, h]; rfl

theorem get_short_append_append (p q : List Nib) (c : Node) (key : List Nib) :
    Model.Trie.get (.short (p ++ q) c) (p ++ key) = Model.Trie.get (.short q c) key := by
  simp [Model.Trie.get, strip_append_append]

theorem get_full_cons (c : Nib → Node) (j : Nib) (r : List Nib) : Model.Trie.get (.full c) (j :: r) = Model.Trie.get (c j) r := rfl

theorem keyOK_ne_nil {v : Bool} {k : List Nib} (h : KeyOK v k) : k ≠ [] := by
  intro e; subst e; exact h

theorem keyOK_cons {v : Bool} {x : Nib} {r : List Nib} :
    KeyOK v (x :: r) ↔ (r = [] ∧ (x = term ↔ v = true)) ∨ (r ≠ [] ∧ x ≠ term ∧ KeyOK v r) := by
  cases r with
  | nil => simp [KeyOK]
  | cons y s => simp [KeyOK]

theorem keyOK_unique {v w : Bool} {k : List Nib} (h1 : KeyOK v k) (h2 : KeyOK w k) : v = w := by
  induction k with
  | nil => exact absurd h1 (by simp [KeyOK])
  | cons x k ih =>
    cases k with
    | nil =>
      simp only [KeyOK] at h1 h2
      cases v <;> cases w <;> simp_all
    | cons y r =>
      simp only [KeyOK] at h1 h2
      exact ih h1.2 h2.2

theorem keyOK_prefix {v : Bool} {p : List Nib} {x : Nib} {xr : List Nib} (h : KeyOK v (p ++ x :: xr)) (hp : p ≠ []) :
    KeyOK false p := by
  induction p with
  | nil => exact absurd rfl hp
  | cons a p ih =>
    rw [List.cons_append, keyOK_cons] at h
    rcases h with ⟨h0, _⟩ | ⟨_, h2, h3⟩
    · exact absurd h0 (by simp)
    · rw [keyOK_cons]
      by_cases hp' : p = []
      · left; exact ⟨hp', by simp [h2]⟩
      · right; exact ⟨hp', h2, ih h3 hp'⟩

theorem keyOK_true_no_ext {w : Bool} {k : List Nib} (y : Nib) (r : List Nib) (h1 : KeyOK true k) : ¬ KeyOK w (k ++ y :: r) :=
  fun h => Bool.noConfusion (keyOK_unique h1 (keyOK_prefix h (keyOK_ne_nil h1)))

theorem keyOK_drop {v : Bool} {p s : List Nib} (h : KeyOK v (p ++ s)) (hs : s ≠ []) : KeyOK v s := by
  induction p with
  | nil => exact h
  | cons a p ih =>
    rw [List.cons_append, keyOK_cons] at h
    rcases h with ⟨h0, _⟩ | ⟨_, _, h3⟩
    · exact absurd h0 (by simp [hs])
    · exact ih h3

theorem keyOK_append {w : Bool} {k k' : List Nib} (h1 : KeyOK false k) (h2 : KeyOK w k') : KeyOK w (k ++ k') := by
  induction k with
  | nil => exact absurd h1 (by simp [KeyOK])
  | cons a k ih =>
    rw [keyOK_cons] at h1
    rw [List.cons_append, keyOK_cons]
    right
    rcases h1 with ⟨h0, h⟩ | ⟨h0, h, h3⟩
    · subst h0
      exact ⟨by simpa using keyOK_ne_nil h2, by simpa using h, by simpa using h2⟩
    · exact ⟨by simp [h0], h, ih h3⟩

theorem suf_drop {p s : List Nib} (h : Suf (p ++ s)) : Suf s := by
  induction p with
  | nil => exact h
  | cons a p ih => exact ih h.2

theorem keyOK_of_suf {key : List Nib} (h : Suf key) (hn : key ≠ []) : KeyOK true key := by
  induction key with
  | nil => exact absurd rfl hn
  | cons a r ih =>
    rw [keyOK_cons]
    by_cases hr : r = []
    · left; exact ⟨hr, by simp [h.1.mpr hr]⟩
    · right; exact ⟨hr, fun e => hr (h.1.mp e), ih h.2 hr⟩

theorem keyAt_true {key : List Nib} : KeyAt true key ↔ key = [] :=
  ⟨fun h => h.2.mpr rfl, fun h => h ▸ ⟨trivial, by simp⟩⟩

theorem keyAt_false_ne_nil {key : List Nib} (h : KeyAt false key) : key ≠ [] :=
  fun e => Bool.noConfusion (h.2.mp e)

theorem keyAt_false_cons {key : List Nib} (h : KeyAt false key) : ∃ i r, key = i :: r :=
  List.exists_cons_of_ne_nil (keyAt_false_ne_nil h)

theorem false_of_keyAt_cons {v : Bool} {a : Nib} {as : List Nib} (h : KeyAt v (a :: as)) : v = false :=
  Bool.eq_false_iff.mpr fun hv => List.cons_ne_nil a as (h.2.mpr hv)

/-- descending through a short key: what is left of the key is addressed to the child's position -/
theorem suf_append_iff {v : Bool} {k key : List Nib} (hk : KeyOK v k) : Suf (k ++ key) ↔ KeyAt v key := by
  induction k with
  | nil => exact hk.elim
  | cons x k ih =>
    cases k with
    | nil =>
      simp only [KeyOK] at hk
      simp only [List.cons_append, List.nil_append, Suf, KeyAt, hk]
      exact ⟨fun h => ⟨h.2, h.1.symm⟩, fun h => ⟨h.2.symm, h.1⟩⟩
    | cons y r =>
      simp only [KeyOK] at hk
      exact (and_iff_right (iff_of_false hk.1 (List.cons_ne_nil _ _))).trans (ih hk.2)

theorem keyAt_append {v : Bool} {k key : List Nib} (hk : KeyOK v k) (h : KeyAt v key) : KeyAt false (k ++ key) :=
  ⟨(suf_append_iff hk).mpr h, fun e => absurd (List.append_eq_nil_iff.mp e).1 (keyOK_ne_nil hk), nofun⟩

theorem keyAt_cons {i : Nib} {key : List Nib} {v : Bool} (hv : v = true ↔ i = term) (h : KeyAt v key) : KeyAt false (i :: key) := by
  refine ⟨⟨?_, h.1⟩, by simp⟩
  rw [← hv, h.2]

theorem keyAt_of_cons {i : Nib} {key : List Nib} (h : KeyAt false (i :: key)) : KeyAt (decide (i = term)) key := by
  refine ⟨h.1.2, ?_⟩
  rw [← h.1.1]; simp

theorem isNil_eq {n : Node} (h : n.isNil = true) : n = .nil := by
  cases n <;> simp_all [Node.isNil]

theorem isValue_eq_decide {n : Node} {i : Nib} (hv : n.isValue = true ↔ i = term) : n.isValue = decide (i = term) := by
  by_cases h : i = term
  · simp [h, hv.mpr h]
  · cases hn : n.isValue
    · simp [h]
    · exact absurd (hv.mp hn) h

theorem wf_not_nil {n : Node} (h : WF n) : n.isNil = false := by
  cases n with
  | nil => exact h.elim
  | value _ => rfl
  | short _ _ => rfl
  | full _ => rfl

theorem pos_of_wf {n : Node} (h : WF n) : Pos n.isValue n := Or.inr ⟨h, rfl⟩

theorem pos_not_nil {v : Bool} {n : Node} (h : Pos v n) (hn : n.isNil = false) : WF n ∧ n.isValue = v :=
  h.elim (fun h0 => Bool.noConfusion (h0.symm.trans hn)) id

theorem pos_child {c : Nib → Node} (h : WF (.full c)) (i : Nib) : Pos (decide (i = term)) (c i) :=
  (h.1 i).imp id fun ⟨hw, hv⟩ => ⟨hw, isValue_eq_decide hv⟩

theorem pos_true_cases {c : Node} (h : Pos true c) : c = .nil ∨ ∃ w, c = .value w := by
  rcases h with h0 | ⟨_, hv⟩
  · exact Or.inl (isNil_eq h0)
  · cases c with
    | value w => exact Or.inr ⟨w, rfl⟩
    | nil => exact Bool.noConfusion hv
    | short _ _ => exact Bool.noConfusion hv
    | full _ => exact Bool.noConfusion hv

theorem exists_key : ∀ (n : Node), WF n → ∃ key, KeyAt n.isValue key ∧ (Model.Trie.get n key).isSome := by
  intro n
  induction n with
  | nil => exact fun h => h.elim
  | value v => exact fun _ => ⟨[], ⟨trivial, ⟨fun _ => rfl, fun _ => rfl⟩⟩, rfl⟩
  | short k c ih =>
    intro ⟨hk, _, hc⟩
    obtain ⟨key, hka, hg⟩ := ih hc
    exact ⟨k ++ key, keyAt_append hk hka, by rw [get_short_append]; exact hg⟩
  | full c ih =>
    intro ⟨hall, i, _, _, hi, _⟩
    obtain ⟨hw, hv⟩ := (hall i).resolve_left (ne_true_of_eq_false hi)
    obtain ⟨key, hka, hg⟩ := ih i hw
    exact ⟨i :: key, keyAt_cons hv hka, hg⟩

/-- Induction over positions.  Every structural fact about normal-form tries goes through these four cases: a value sits
at a `true` position; the child of a short node is a non-empty position of its own kind; child `i` of a full node is a
(possibly empty) position of kind `i = term`. -/
theorem pos_induction {motive : (v : Bool) → (n : Node) → Pos v n → Prop}
    (nil : ∀ v, motive v .nil (Or.inl rfl))
    (value : ∀ w, motive true (.value w) (Or.inr ⟨trivial, rfl⟩))
    (short : ∀ k c (hk : KeyOK c.isValue k) (hs : c.isShort = false) (hw : WF c),
      motive c.isValue c (pos_of_wf hw) → motive false (.short k c) (Or.inr ⟨⟨hk, hs, hw⟩, rfl⟩))
    (full : ∀ c (hw : WF (.full c)),
      (∀ i, motive (decide (i = term)) (c i) (pos_child hw i)) → motive false (.full c) (Or.inr ⟨hw, rfl⟩)) :
    ∀ v n (h : Pos v n), motive v n h := by
  intro v n
  induction n generalizing v with
  | nil => exact fun _ => nil v
  | value w =>
    intro h
    obtain ⟨_, rfl⟩ := pos_not_nil h rfl
    exact value w
  | short k c ih =>
    intro h
    obtain ⟨hw, rfl⟩ := pos_not_nil h rfl
    exact short k c hw.1 hw.2.1 hw.2.2 (ih _ _)
  | full c ih =>
    intro h
    obtain ⟨hw, rfl⟩ := pos_not_nil h rfl
    exact full c hw fun i => ih i _ _

end Props.C10
