/-
C10: `delete` on terminator keys never panics, keeps the normal form, and removes exactly the key.
-/
import LinkVerif.Props.C10Insert

namespace Props.C10
open Model.Trie

theorem mem_firstNonNil {c : Nib → Node} {m : Nib} : m ∈ firstNonNil c ↔ (c m).isNil = false := by
  simp [firstNonNil, List.mem_filter, List.mem_finRange]

theorem nodup_firstNonNil (c : Nib → Node) : (firstNonNil c).Nodup :=
  List.Pairwise.filter _ (List.nodup_finRange 17)

/-- a short node with key `k` above `n`; a short `n` is merged into it (trie.go delete: `concat(n.Key, child.Key...)`) -/
def mkShort (k : List Nib) : Node → Node
  | .short k' c' => .short (k ++ k') c'
  | n => .short k n

theorem get_mkShort (k : List Nib) (n : Node) (key : List Nib) :
    Model.Trie.get (mkShort k n) key = (strip k key).bind (Model.Trie.get n) := by
  cases n with
  | short k' c' =>
    rw [mkShort, get_short_bind, strip_append_bind, Option.bind_assoc]
    exact congrArg _ (funext fun r => (get_short_bind k' c' r).symm)
  | nil => exact get_short_bind k _ key
  | value w => exact get_short_bind k _ key
  | full d => exact get_short_bind k _ key

theorem mkShort_of_isValue {k : List Nib} {n : Node} (h : n.isValue = true) : mkShort k n = .short k n := by
  cases n with
  | value w => rfl
  | nil => exact Bool.noConfusion h
  | short _ _ => exact Bool.noConfusion h
  | full _ => exact Bool.noConfusion h

theorem wf_mkShort {k : List Nib} {n : Node} (hw : WF n) (hk : KeyOK n.isValue k) :
    WF (mkShort k n) ∧ (mkShort k n).isValue = false ∧ (mkShort k n).isNil = false := by
  cases n with
  | nil => exact hw.elim
  | value w => exact ⟨⟨hk, rfl, trivial⟩, rfl, rfl⟩
  | short k' c' => exact ⟨⟨keyOK_append hk hw.1, hw.2.1, hw.2.2⟩, rfl, rfl⟩
  | full d => exact ⟨⟨hk, rfl, hw⟩, rfl, rfl⟩

/-- the reduction of a full node after a deletion (the tail of `delete`'s fullNode case) -/
def reduceFull (c' : Nib → Node) : Node :=
  match firstNonNil c' with
  | [pos] => if pos ≠ term then mkShort [pos] (c' pos) else .short [pos] (c' pos)
  | _ => .full c'

theorem delete_full (c : Nib → Node) (i : Nib) (r : List Nib) :
    Model.Trie.delete (.full c) (i :: r) = (Model.Trie.delete (c i) r).map (fun nn => reduceFull (setChild c i nn)) := by
  simp only [Model.Trie.delete]
  cases Model.Trie.delete (c i) r with
  | none => rfl
  | some nn =>
    simp only [Option.map, reduceFull]
    rcases hl : firstNonNil (setChild c i nn) with _ | ⟨pos, _ | ⟨b, rest⟩⟩
    · rfl
    · by_cases hp : pos = term
      · simp only [hp, ne_eq, not_true_eq_false, if_false]
      · simp only [ne_eq, hp, not_false_eq_true, if_true]
        cases setChild c i nn pos <;> rfl
    · rfl

theorem reduceFull_spec (c' : Nib → Node)
    (hall : ∀ i, (c' i).isNil = true ∨ (WF (c' i) ∧ ((c' i).isValue = true ↔ i = term)))
    (m0 : Nib) (hm0 : (c' m0).isNil = false) :
    WF (reduceFull c') ∧ (reduceFull c').isValue = false ∧ (reduceFull c').isNil = false ∧
      ∀ key', KeyAt false key' → Model.Trie.get (reduceFull c') key' = Model.Trie.get (.full c') key' := by
  have hnd := nodup_firstNonNil c'
  have hmem : m0 ∈ firstNonNil c' := mem_firstNonNil.mpr hm0
  unfold reduceFull
  rcases hl : firstNonNil c' with _ | ⟨pos, _ | ⟨b, rest⟩⟩
  · rw [hl] at hmem; cases hmem
  · -- exactly one child left: it moves up under the one-nibble key
    have hpos : (c' pos).isNil = false := mem_firstNonNil.mp (hl ▸ List.mem_cons_self)
    have hother : ∀ j, j ≠ pos → c' j = .nil := fun j hj => by
      cases hn : (c' j).isNil
      · have := mem_firstNonNil.mpr hn
        rw [hl, List.mem_singleton] at this
        exact absurd this hj
      · exact isNil_eq hn
    obtain ⟨hw, hv⟩ := (hall pos).resolve_left (ne_true_of_eq_false hpos)
    -- in slot 16 the child is a value, so nothing is merged there either
    have hone : (if pos ≠ term then mkShort [pos] (c' pos) else .short [pos] (c' pos)) = mkShort [pos] (c' pos) := by
      by_cases hpt : pos = term
      · rw [if_neg (fun h => h hpt), mkShort_of_isValue (hv.mpr hpt)]
      · rw [if_pos hpt]
    obtain ⟨hwf, hval, hnil⟩ := wf_mkShort (k := [pos]) hw hv.symm
    simp only [hone]
    refine ⟨hwf, hval, hnil, fun key' hk' => ?_⟩
    obtain ⟨j, r', rfl⟩ := keyAt_false_cons hk'
    rw [get_mkShort, get_full_cons]
    simp only [strip]
    by_cases hj : pos = j
    · subst hj; rw [if_pos rfl]; rfl
    · rw [if_neg hj, hother j (Ne.symm hj)]; rfl
  · -- at least two children: stays a full node
    have ha : (c' pos).isNil = false := mem_firstNonNil.mp (hl ▸ List.mem_cons_self)
    have hb : (c' b).isNil = false := mem_firstNonNil.mp (hl ▸ List.mem_cons_of_mem _ List.mem_cons_self)
    have hab : pos ≠ b := (List.pairwise_cons.mp (hl ▸ hnd)).1 b List.mem_cons_self
    exact ⟨⟨hall, pos, b, hab, ha, hb⟩, rfl, rfl, fun _ _ => rfl⟩

/-- the three outcomes of `delete` at a short node, without `split` -/
theorem delete_short_cases (k : List Nib) (c : Node) (key : List Nib) :
    (strip k key = none ∧ Model.Trie.delete (.short k c) key = some (.short k c)) ∨
    (key = k ∧ Model.Trie.delete (.short k c) key = some .nil) ∨
    (∃ a as, key = k ++ a :: as ∧
      Model.Trie.delete (.short k c) key = (Model.Trie.delete c (a :: as)).map (mkShort k)) := by
  simp only [Model.Trie.delete]
  rcases split_cases key k with ⟨h, e⟩ | ⟨y, r, h, e⟩ | ⟨a, as, h, e⟩ | ⟨p, x, y, r1, r2, hxy, h1, h2, e⟩
  · exact Or.inr (Or.inl ⟨h, by rw [e]⟩)
  · refine Or.inl ⟨?_, by rw [e]⟩
    rw [h, strip_append_bind, strip_eq_some.mpr (List.append_nil key).symm]; rfl
  · refine Or.inr (Or.inr ⟨a, as, h, ?_⟩)
    rw [e]
    simp only
    cases Model.Trie.delete c (a :: as) with
    | none => rfl
    | some nn => cases nn <;> rfl
  · exact Or.inl ⟨by rw [h1, h2]; exact strip_diverge p (Ne.symm hxy) r2 r1, by rw [e]⟩

theorem delete_spec : ∀ (n : Node) (v : Bool) (key : List Nib), Pos v n → KeyAt v key →
    ∃ n', Model.Trie.delete n key = some n' ∧ Pos v n' ∧
      ((∃ c, n = .full c) → n'.isNil = false) ∧
      ∀ key', KeyAt v key' → Model.Trie.get n' key' = if key' = key then none else Model.Trie.get n key' := by
  intro n v key hp
  induction v, n, hp using pos_induction generalizing key with
  | nil v => exact fun _ => ⟨.nil, by cases key <;> rfl, Or.inl rfl, nofun, fun _ _ => (ite_self _).symm⟩
  | value w =>
    intro hk
    rw [keyAt_true.mp hk]
    exact ⟨.nil, rfl, Or.inl rfl, nofun, fun key' hk' => by rw [keyAt_true.mp hk', if_pos rfl]; rfl⟩
  | full c hw ih =>
    intro hk
    obtain ⟨i, r, rfl⟩ := keyAt_false_cons hk
    obtain ⟨nn, hdel, hpn, _, hget⟩ := ih i r (keyAt_of_cons hk)
    obtain ⟨hall, i0, j0, hij, hi0, hj0⟩ := hw
    -- one of the two witnesses of the full node is not the changed slot
    have hm0 : ∃ m0, (setChild c i nn m0).isNil = false := by
      by_cases h : i0 = i
      · exact ⟨j0, by simp only [setChild]; rw [if_neg (fun e => hij (h.trans e.symm))]; exact hj0⟩
      · exact ⟨i0, by simp only [setChild]; rw [if_neg h]; exact hi0⟩
    obtain ⟨m0, hm0⟩ := hm0
    obtain ⟨hwc, hvc, hnc, hgc⟩ := reduceFull_spec (setChild c i nn) (children_setChild hall hpn) m0 hm0
    refine ⟨reduceFull (setChild c i nn), by rw [delete_full, hdel]; rfl, Or.inr ⟨hwc, hvc⟩, fun _ => hnc,
      fun key' hk' => ?_⟩
    rw [hgc key' hk']
    obtain ⟨j, r', rfl⟩ := keyAt_false_cons hk'
    exact get_setChild_update fun hji => hget r' (hji ▸ keyAt_of_cons hk')
  | short k c hkk hcs hwc ih =>
    intro hk
    rcases delete_short_cases k c key with ⟨hst, hd⟩ | ⟨e, hd⟩ | ⟨a, as, e, hd⟩
    · -- the key is not below this node: unchanged
      refine ⟨.short k c, hd, Or.inr ⟨⟨hkk, hcs, hwc⟩, rfl⟩, nofun, fun key' _ => ?_⟩
      by_cases h : key' = key
      · rw [if_pos h, h, get_short_bind, hst]; rfl
      · rw [if_neg h]
    · -- the key is exactly the short key: the child is a value, the node disappears
      subst e
      refine ⟨.nil, hd, Or.inl rfl, nofun, fun key' hk' => ?_⟩
      rw [get_short_bind, strip_suf hk.1 (keyOK_ne_nil hkk) hk'.1]
      by_cases h : key' = key
      · rw [if_pos h]; rfl
      · rw [if_neg h, if_neg h]; rfl
    · -- descend; the child is a full node, so something is left below
      subst e
      have hkr : KeyAt c.isValue (a :: as) := (suf_append_iff hkk).mp hk.1
      have hcf : ∃ d, c = .full d := by
        cases c with
        | nil => exact hwc.elim
        | value w => exact Bool.noConfusion (false_of_keyAt_cons hkr)
        | short _ _ => exact Bool.noConfusion hcs
        | full d => exact ⟨d, rfl⟩
      obtain ⟨n'', hdel, hpn, hnn, hget⟩ := ih (a :: as) hkr
      obtain ⟨hw'', hv''⟩ := pos_not_nil hpn (hnn hcf)
      obtain ⟨hwf, hval, _⟩ := wf_mkShort (k := k) hw'' (hv''.symm ▸ hkk)
      refine ⟨mkShort k n'', by rw [hd, hdel]; rfl, Or.inr ⟨hwf, hval⟩, nofun, fun key' hk' => ?_⟩
      rw [get_mkShort, get_short_bind]
      exact bind_strip_update fun r e => hget r ((suf_append_iff hkk).mp (e ▸ hk'.1))

end Props.C10
