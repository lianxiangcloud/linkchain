/-
C18: the mechanisms reached by a peer that completed the handshake and by the node's own send API.
  * nonces: `incrNonce` is +1 modulo 256^len; the two directions use nonces of different parity and step by 2, so no nonce
    value is ever used by both directions, and none twice within a direction before 2^191 frames
  * sealed frames (the PEER chooses the frame type): a frame opens only for the current receive index, which then advances:
    no replay, no reordering
  * allocation: `Read` tests the length a compressed frame ANNOUNCES before snappy allocates it (3c63eeb): `C18_alloc_holds`
  * TrySend: a full queue refuses and changes nothing; an accepted message goes to the end of the queue
  * a message that arrives on the connection authenticated as k reaches the reactors as coming from ID(k)
-/
import LinkVerif.Model.ConnCfg
import LinkVerif.Props.C18

namespace Props.C18Wide
open Model.Conn

theorem valRev_lt : ∀ l : List UInt8, valRev l < 256 ^ l.length := by
  intro l
  induction l with
  | nil => exact Nat.one_pos
  | cons b bs ih =>
    have hb := b.toNat_lt
    simp only [valRev, List.length_cons, Nat.pow_succ]
    omega

theorem incrNonceRev_length : ∀ l : List UInt8, (incrNonceRev l).length = l.length := by
  intro l
  induction l with
  | nil => rfl
  | cons b bs ih =>
    simp only [incrNonceRev]
    split <;> simp [ih]

/-- **incrNonce is +1 with wrap-around** (value of the byte string, most significant byte first in Go = last here) -/
theorem incrNonceRev_val : ∀ l : List UInt8, valRev (incrNonceRev l) = (valRev l + 1) % 256 ^ l.length := by
  intro l
  induction l with
  | nil => rfl
  | cons b bs ih =>
    have hb := b.toNat_lt
    have hv := valRev_lt bs
    have hadd : (b + 1).toNat = (b.toNat + 1) % 256 := UInt8.toNat_add b 1
    simp only [incrNonceRev, List.length_cons, Nat.pow_succ]
    split
    · next hne =>
      have hne' : (b + 1).toNat ≠ 0 := fun h => (bne_iff_ne.mp hne) (UInt8.toNat_inj.mp h)
      simp only [valRev]
      rw [hadd, Nat.mod_eq_of_lt (by omega), Nat.add_right_comm]
      exact (Nat.mod_eq_of_lt (by omega)).symm
    · next heq =>
      -- carry: the low byte is 0xff, and 256 * (v + 1) is taken modulo 256 * 256^n
      have h0 : (b + 1).toNat = 0 := congrArg UInt8.toNat (Decidable.of_not_not (fun h => heq (bne_iff_ne.mpr h)))
      simp only [valRev, ih]
      rw [show b.toNat + 256 * valRev bs + 1 = 256 * (valRev bs + 1) by omega,
        Nat.mul_comm (256 ^ bs.length) 256, Nat.mul_mod_mul_left]
      exact Nat.zero_add _

/-- non-vacuity: carry across two bytes, and wrap-around of the whole nonce -/
example : incrNonce [0x01, 0xff, 0xff] = [0x02, 0x00, 0x00] := rfl
example : incr2Nonce [0xff, 0xff, 0xff] = [0x00, 0x00, 0x01] := rfl

theorem step2_streams_disjoint {M : Nat} (hM : 2 ∣ M) (s r i j : Nat) (hpar : s % 2 ≠ r % 2) :
    (s + 2 * i) % M ≠ (r + 2 * j) % M := by
  intro h
  have h2 := congrArg (· % 2) h
  simp only [Nat.mod_mod_of_dvd _ hM, Nat.add_mul_mod_self_left] at h2
  exact hpar h2

/-- **no nonce is shared by the two directions**: `genNonces` gives them values of different parity (last byte xor 1) and
`incr2Nonce` steps by 2 modulo the even number 2^192 -/
theorem nonce_streams_disjoint (s r i j : Nat) (hpar : s % 2 ≠ r % 2) :
    (s + 2 * i) % 6277101735386680763835789423207666416102355444464034512896 ≠
    (r + 2 * j) % 6277101735386680763835789423207666416102355444464034512896 :=
  step2_streams_disjoint (by decide) s r i j hpar

example : (6277101735386680763835789423207666416102355444464034512896 : Nat) = 2 ^ 192 := rfl

/-- **no nonce twice within a direction** for fewer than 2^191 frames -/
theorem nonce_stream_injective (s i j : Nat) (hi : i < 3138550867693340381917894711603833208051177722232017256448)
    (hj : j < 3138550867693340381917894711603833208051177722232017256448)
    (h : (s + 2 * i) % 6277101735386680763835789423207666416102355444464034512896 =
         (s + 2 * j) % 6277101735386680763835789423207666416102355444464034512896) : i = j := by
  omega

/-- an ideal box: a payload opens for at most one receive index -/
def BoxBound (cd : Codec) : Prop := ∀ p k k' x x', cd.openBox k p = some x → cd.openBox k' p = some x' → k = k'

/-- **no replay**: a sealed payload that opened at receive index `k` opens at no later index; `read` opens with its `recvCount`
and advances it with every sealed frame it opens -/
theorem sealed_no_replay (cd : Codec) (hb : BoxBound cd) (p x : Bytes) (k later : Nat)
    (hopen : cd.openBox k p = some x) (hlater : k < later) : cd.openBox later p = none := by
  cases h : cd.openBox later p with
  | none => rfl
  | some x' => have := hb p k later x x' hopen h; omega

theorem ite_zero_le {c : Prop} [Decidable c] {a m : Nat} (h : a ≤ m) : (if c then 0 else a) ≤ m := by
  split
  · exact Nat.zero_le _
  · exact h

theorem readAlloc_le (cfg : FrameCfg) (cd : Codec) (r : Reader) : readAlloc cfg cd r ≤ cfg.dataMaxSize := by
  unfold readAlloc
  refine ite_zero_le ?_
  -- cases on the wire, not `split` on the five-deep pattern (which re-simplifies the whole body)
  rcases r.wire with _ | ⟨h0, _ | ⟨b1, _ | ⟨b2, _ | ⟨b3, _ | ⟨b4, rest⟩⟩⟩⟩⟩
  case cons.cons.cons.cons.cons =>
    refine ite_zero_le (ite_zero_le ?_)
    split
    · exact Nat.zero_le _
    · next h => exact Nat.not_lt.mp h
  all_goals exact Nat.zero_le _

/-- FULL STATEMENT: whatever bytes a peer sends and whatever length they announce, one `Read` lets snappy allocate at most a
chunk (`dataMaxSize` = 32 KiB; the frame buffer itself is bounded by `frameCapacity`, the sealed-frame buffer is fixed). -/
def C18_alloc_statement : Prop :=
  ∀ (cd : Codec) (r : Reader), readAlloc genCfg cd r ≤ genCfg.dataMaxSize

/-- holds of the current code (3c63eeb: the announced length is tested before `snappy.Decode`) -/
theorem C18_alloc_holds : C18_alloc_statement := readAlloc_le genCfg

/-- the bound is about these constants -/
theorem alloc_bound_constants : genCfg.dataMaxSize = 32768 ∧ genCfg.frameCapacity = 65535 := by decide

/-- the old witness (10 bytes announcing 64 MiB): nothing is allocated for it … -/
example : readAlloc genCfg { enc := id, dec := fun _ => none, announced := fun _ => 67108864 }
    { recvBuffer := [], wire := [0xFF, 0, 0, 0, 5, 0x80, 0x80, 0x80, 0x20, 0xAA] } = 0 := by decide

/-- … and it is refused as an undecodable frame -/
example : (Model.Conn.read genCfg { enc := id, dec := fun _ => none, announced := fun _ => 67108864 }
    { recvBuffer := [], wire := [0xFF, 0, 0, 0, 5, 0x80, 0x80, 0x80, 0x20, 0xAA] } 20).2 = .error .decode := by rfl

/-- non-vacuity: a frame that announces 5 bytes does get its 5 bytes -/
example :
    readAlloc genCfg { enc := id, dec := some, announced := fun _ => 5 } { recvBuffer := [], wire := [0xFF, 0, 0, 0, 5, 1, 2, 3, 4, 5] } = 5 := by
  decide

theorem trySend_full_refuses (s : Sender) (q : Nat) (c : Chan) (m : Bytes) (h : q ≤ (s.chans c).queue.length) :
    s.trySend q c m = (s, false) := by
  -- the queue test refuses, so both branches of the first test do
  rw [Sender.trySend, if_pos (show (s.chans c).queue.length ≥ q from h), ite_self]

/-- a refused TrySend changes nothing; an accepted one appends exactly `m` at the END of that channel's queue and touches
nothing else: TrySend never reorders -/
theorem trySend_effect (s s' : Sender) (q : Nat) (c : Chan) (m : Bytes) (ok : Bool) (h : s.trySend q c m = (s', ok)) :
    (ok = false → s' = s) ∧
    (ok = true → (s'.chans c).queue = (s.chans c).queue ++ [m] ∧ (s'.chans c).sending = (s.chans c).sending ∧
      ∀ x, x ≠ c → s'.chans x = s.chans x) := by
  unfold Sender.trySend at h
  split at h
  · cases h; exact ⟨fun _ => rfl, fun h => nomatch h⟩
  · split at h
    · cases h; exact ⟨fun _ => rfl, fun h => nomatch h⟩
    · cases h
      exact ⟨fun h => (nomatch h), fun _ => ⟨by simp [upd], by simp [upd], fun x hx => by simp [upd, hx]⟩⟩

example : ((({ maxPay := 4, known := fun _ => true, chans := fun _ => { queue := [[1]] } } : Sender).trySend 1 7 [2]).2) = false := rfl

/-- T2: `peer.Send` and `peer.TrySend` refuse a stopped peer and a channel the peer did not advertise, before the MConnection -/
theorem peer_send_guards :
    Gen.ConnFacts.peerSendGuards = ["!p.IsRunning()", "!p.hasChannel(chID)"] ∧
    Gen.ConnFacts.peerTrySendGuards = ["!p.IsRunning()", "!p.hasChannel(chID)"] := ⟨rfl, rfl⟩

/-- T2: `CanSend` compares with the default queue capacity the model uses -/
theorem default_queue_capacity : Gen.ConnFacts.defaultSendQueueCapacity = 100 := by decide

/-- **delivery_attributed**: in every state reachable by connection attempts, a message that arrives on the connection
authenticated as `auth` is handed to the reactors as coming from the node ID of `auth` -/
theorem delivery_attributed (self : Key) (ops : List SwOp) (auth : Key) (i : NodeId)
    (h : (SwitchState.run { self := self } ops).senderOf auth = some i) : i = idOf auth := by
  have hw := (Props.C18.run_wf ops { self := self } (fun _ hq => nomatch hq)).1
  obtain ⟨p, hf, rfl⟩ := Option.map_eq_some_iff.mp h
  have hk : p.authKey = auth := beq_iff_eq.mp (List.find?_some (p := fun p : PeerM => p.authKey == auth) hf)
  exact ((hw p (List.mem_of_find?_eq_some hf)).1).trans (congrArg idOf hk)

end Props.C18Wide
