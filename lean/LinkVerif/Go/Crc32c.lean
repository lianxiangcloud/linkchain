/-
Executable CRC-32C (Castagnoli, reflected polynomial 0x82F63B78), as Go's
`crc32.Checksum(data, crc32.MakeTable(crc32.Castagnoli))`.  Core Lean only, bitwise (no table), so the kernel
can evaluate it on short vectors.  Compared byte for byte with Go's on every C14 correspondence run
(every record header written by the real WALEncoder carries it).
-/
namespace Go.Crc32c

def poly : UInt32 := 0x82F63B78

@[inline] def bit (c : UInt32) : UInt32 :=
  if c &&& 1 == 1 then (c >>> 1) ^^^ poly else c >>> 1

@[inline] def byteStep (c : UInt32) (b : UInt8) : UInt32 :=
  let c := c ^^^ b.toUInt32
  bit (bit (bit (bit (bit (bit (bit (bit c)))))))

def update (c : UInt32) (bs : List UInt8) : UInt32 := bs.foldl byteStep c

def checksum (bs : List UInt8) : UInt32 := ~~~ (update 0xFFFFFFFF bs)

/-- the checksum as a natural number `< 2^32` -/
def checksumNat (bs : List UInt8) : Nat := (checksum bs).toNat

theorem checksumNat_lt (bs : List UInt8) : checksumNat bs < 4294967296 := (checksum bs).toNat_lt

-- standard check values: CRC-32C("123456789") = 0xE3069283, CRC-32C("") = 0, CRC-32C(32 × 0x00) = 0x8A9136AA
set_option maxRecDepth 100000 in
example : checksum [0x31, 0x32, 0x33, 0x34, 0x35, 0x36, 0x37, 0x38, 0x39] = 0xE3069283 := by decide +kernel
example : checksum [] = 0 := by decide
set_option maxRecDepth 100000 in
example : checksum (List.replicate 32 0) = 0x8A9136AA := by decide +kernel

end Go.Crc32c
